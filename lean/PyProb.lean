-- Root of the `PyProb` library: models, specifications, lemmas and property theorems.
import PyProb.Model.Base
import PyProb.Model.Hashes
import PyProb.Model.Bitarray
import PyProb.Model.Sizing
import PyProb.Model.Bloom
import PyProb.Model.Expanding
import PyProb.Model.CMS
import PyProb.Model.Cuckoo
import PyProb.Model.QF
import PyProb.Model.OnDisk
-- gathering modules of the per-family lemma files; the property files import the family files directly
import PyProb.Lemmas.Formats
import PyProb.Lemmas.WFOps
import PyProb.Properties.C01
import PyProb.Properties.C02
import PyProb.Properties.C03
import PyProb.Properties.C04
import PyProb.Properties.C05
import PyProb.Properties.C05_bloom
import PyProb.Properties.C05_cms
import PyProb.Properties.C05_cuckoo
import PyProb.Properties.C06
import PyProb.Properties.C07
import PyProb.Properties.C08
import PyProb.Properties.C09
import PyProb.Properties.C10
import PyProb.Properties.C11
import PyProb.Properties.C12
import PyProb.Properties.C13
import PyProb.Properties.C14
import PyProb.Properties.C15
import PyProb.Properties.C16
import PyProb.Properties.C17
import PyProb.Properties.C18
import PyProb.Properties.C19
import PyProb.Properties.C20
import PyProb.Model.Digest
import PyProb.Properties.C01_history
import PyProb.Properties.C04_termination
import PyProb.Properties.C04_selfmerge
import PyProb.Properties.C08_reload
import PyProb.Properties.C09_reload
import PyProb.Properties.C14_history
import PyProb.Properties.C17_legit
