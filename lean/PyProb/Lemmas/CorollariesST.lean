/-
  StreamThreshold with legitimate removals: C17 joined with C02.

  C17 proves that the tracking table of `StreamThreshold` holds exactly the keys whose most recent
  RETURNED estimate is `≥ T` (`C17_st_table`), and the true-count form only for add-only
  histories.  C02 proves, for the count-min sketch alone, `estimate ≥ true count` over histories
  with removals that are `Legit` (amounts positive, a removal never exceeds the key's current true
  count) and `Small` (the amounts added never exceed 2^31-1, so no clamp fires), and that the
  value returned by `add`/`remove` is `check` of the key immediately afterwards (`C02_ret`).

  Here the two are joined, for StreamThreshold and (in `CorollariesHH.lean`) HeavyHitters alike,
  through one invariant, `FollowsCms`: the embedded sketch follows the C02 history
  (`st_cms_eq_run`), every call returns an estimate (`st_all_ok`), and the estimate returned by the
  most recent call on `k` is at least `k`'s true count — at the time of that call, which is also
  `k`'s true count at the end, since the true count of `k` only changes in calls on `k`.  Hence
  `st_never_missing_legit`: a key whose true count is `≥ T ≥ 1` is in the table.
-/
import PyProb.Properties.C02
import PyProb.Properties.C17

namespace PyProb.Corollaries
open PyProb

def stToCms : C17.StOp → C02.Op
  | .add key n => .add key n
  | .remove key n => .remove key n

theorem trueCount_eq_cnt (ops : List C17.StOp) (k : Key) :
    C17.trueCount ops k = C02.cnt (ops.map stToCms) k := by
  unfold C17.trueCount C02.cnt
  rw [List.map_map]
  congr 1
  apply List.map_congr_left
  intro op _
  cases op <;> rfl

section
variable {w d : Nat} {H : Key → Nat → List Nat}

structure FollowsCms (w d : Nat) (H : Key → Nat → List Nat) (cops : List C02.Op) (c : CMS)
    (log : C17.Log) : Prop where
  cms : c = C02.run w d H .min cops
  allok : ∀ e ∈ log, ∃ v, e.2 = .ok v
  keys : log.map (·.1) = cops.map (·.key)
  seen : ∀ op ∈ cops, ∃ v, C17.lastEst log op.key = some v
  est : ∀ k v, C17.lastEst log k = some v → C02.cnt cops k ≤ v

theorem FollowsCms.init : FollowsCms w d H [] (CMS.new w d .min) [] :=
  ⟨rfl, by simp, rfl, by simp, by simp [C17.lastEst]⟩

theorem FollowsCms.step (hw : 0 < w) (hd : 0 < d) (hH : ∀ key, (H key d).length = d)
    {cops : List C02.Op} {c : CMS} {log : C17.Log} (I : FollowsCms w d H cops c log) (op : C02.Op)
    (hL : C02.Legit (cops ++ [op])) (hS : C02.Small (cops ++ [op])) :
    ∃ v, C02.stepOp c.d H c op = (C02.run w d H .min (cops ++ [op]), .ok v) ∧
      FollowsCms w d H (cops ++ [op]) (C02.run w d H .min (cops ++ [op]))
        (log ++ [(op.key, .ok v)]) := by
  have hbin := C02.C02_bin_invariant (H := H) hw hH .min cops (C02.legit_snoc hL).1
    (C02.small_snoc hS).1
  obtain ⟨v, hcall, hcv⟩ := C02.step_run (H := H) hw hd hH cops op hL hS
  have hcd : c.d = d := by rw [I.cms]; exact hbin.2.1
  refine ⟨v, by rw [hcd, I.cms]; exact hcall, rfl, ?_, ?_, ?_, ?_⟩
  · intro e he
    rcases List.mem_append.mp he with he | he
    · exact I.allok e he
    · simp only [List.mem_singleton] at he; subst he; exact ⟨v, rfl⟩
  · simp [I.keys]
  · intro o ho
    rw [C17.lastEst_snoc_ok]
    by_cases ek : op.key = o.key
    · exact ⟨v, if_pos ek⟩
    · rw [if_neg ek]
      rcases List.mem_append.mp ho with ho | ho
      · exact I.seen o ho
      · simp only [List.mem_singleton] at ho; subst ho; exact absurd rfl ek
  · intro k x hx
    rw [C17.lastEst_snoc_ok] at hx
    by_cases ek : op.key = k
    · rw [if_pos ek, Option.some.injEq] at hx
      rw [← hx, ← ek]; exact hcv
    · rw [if_neg ek] at hx
      rw [C02.cnt_snoc, if_neg ek, Int.add_zero]
      exact I.est k x hx

theorem st_legit_inv (hw : 0 < w) (hd : 0 < d) (hH : ∀ key, (H key d).length = d) (T : Int)
    (ops : List C17.StOp) (hL : C02.Legit (ops.map stToCms)) (hS : C02.Small (ops.map stToCms)) :
    FollowsCms w d H (ops.map stToCms) (C17.runST H (ST.new w d T) ops).1.cms
      (C17.runST H (ST.new w d T) ops).2 := by
  induction ops using snoc_induction with
  | nil => exact FollowsCms.init
  | snoc ops op ih =>
      rw [List.map_append, List.map_singleton] at hL hS ⊢
      have I := ih (C02.legit_snoc hL).1 (C02.small_snoc hS).1
      rw [C17.runST_snoc]
      generalize C17.runST H (ST.new w d T) ops = st at I ⊢
      obtain ⟨s, log⟩ := st
      obtain ⟨v, hcall, I'⟩ := I.step hw hd hH (stToCms op) hL hS
      -- the StreamThreshold call is the sketch call; it logs the estimate under the same key
      have hs : (C17.stepST H (s, log) op).1.cms =
            C02.run w d H .min (ops.map stToCms ++ [stToCms op]) ∧
          (C17.stepST H (s, log) op).2 = log ++ [((stToCms op).key, .ok v)] := by
        cases op with
        | add key n =>
            rw [C17.stepST, ST.addAlt_ok s key _ n _ v hcall]
            exact ⟨rfl, rfl⟩
        | remove key n =>
            rw [C17.stepST, ST.removeAlt_ok s key _ n _ v hcall]
            exact ⟨rfl, rfl⟩
      rw [hs.1, hs.2]
      exact I'

theorem st_cms_eq_run (hw : 0 < w) (hd : 0 < d) (hH : ∀ key, (H key d).length = d) (T : Int)
    (ops : List C17.StOp) (hL : C02.Legit (ops.map stToCms)) (hS : C02.Small (ops.map stToCms)) :
    (C17.runST H (ST.new w d T) ops).1.cms = C02.run w d H .min (ops.map stToCms) :=
  (st_legit_inv hw hd hH T ops hL hS).cms

theorem st_all_ok (hw : 0 < w) (hd : 0 < d) (hH : ∀ key, (H key d).length = d) (T : Int)
    (ops : List C17.StOp) (hL : C02.Legit (ops.map stToCms)) (hS : C02.Small (ops.map stToCms)) :
    (C17.runST H (ST.new w d T) ops).2.map (·.1) = (ops.map stToCms).map (·.key) ∧
    ∀ e ∈ (C17.runST H (ST.new w d T) ops).2, ∃ v, e.2 = .ok v :=
  ⟨(st_legit_inv hw hd hH T ops hL hS).keys, (st_legit_inv hw hd hH T ops hL hS).allok⟩

/-- **StreamThreshold never misses a key whose true count reaches the threshold — with removals**:
    the key is in the table with a value `v ≥` its true count (added minus removed), and `v` is the
    estimate returned by the most recent call on that key. -/
theorem st_never_missing_legit (hw : 0 < w) (hd : 0 < d) (hH : ∀ key, (H key d).length = d)
    (T : Int) (hT : 1 ≤ T) (ops : List C17.StOp) (hL : C02.Legit (ops.map stToCms))
    (hS : C02.Small (ops.map stToCms)) (k : Key) (hk : T ≤ C02.cnt (ops.map stToCms) k) :
    ∃ v, (k, v) ∈ (C17.runST H (ST.new w d T) ops).1.table ∧
      (C17.runST H (ST.new w d T) ops).1.table.get? k = some v ∧
      C17.lastEst (C17.runST H (ST.new w d T) ops).2 k = some v ∧
      C02.cnt (ops.map stToCms) k ≤ v ∧ T ≤ v := by
  have I := st_legit_inv hw hd hH T ops hL hS
  -- a positive true count means some call was on `k`
  have hocc : ∃ o ∈ ops.map stToCms, o.key = k := by
    apply Classical.byContradiction
    intro hno
    have := C02.cnt_eq_zero (ops.map stToCms) k fun o ho e => hno ⟨o, ho, e⟩
    omega
  obtain ⟨o, ho, rfl⟩ := hocc
  obtain ⟨v, hv⟩ := I.seen o ho
  have hcv := I.est _ v hv
  have hTv : T ≤ v := by omega
  exact ⟨v, C17.C17_st_never_missing w d T H ops _ v hv hTv,
    ((C17.C17_st_table w d T H ops).2.1 _ v).mpr ⟨hv, hTv⟩, hv, hcv, hTv⟩

/-- the same in C17's vocabulary (`trueCount`) -/
theorem st_never_missing_legit' (hw : 0 < w) (hd : 0 < d) (hH : ∀ key, (H key d).length = d)
    (T : Int) (hT : 1 ≤ T) (ops : List C17.StOp) (hL : C02.Legit (ops.map stToCms))
    (hS : C02.Small (ops.map stToCms)) (k : Key) (hk : T ≤ C17.trueCount ops k) :
    ∃ v, (k, v) ∈ (C17.runST H (ST.new w d T) ops).1.table ∧ C17.trueCount ops k ≤ v := by
  rw [trueCount_eq_cnt] at hk ⊢
  obtain ⟨v, h1, _, _, h4, _⟩ := st_never_missing_legit hw hd hH T hT ops hL hS k hk
  exact ⟨v, h1, h4⟩

theorem st_tracked_ge_count (hw : 0 < w) (hd : 0 < d) (hH : ∀ key, (H key d).length = d)
    (T : Int) (ops : List C17.StOp) (hL : C02.Legit (ops.map stToCms))
    (hS : C02.Small (ops.map stToCms)) (k : Key) (v : Int)
    (hkv : (k, v) ∈ (C17.runST H (ST.new w d T) ops).1.table) :
    C02.cnt (ops.map stToCms) k ≤ v ∧ T ≤ v := by
  obtain ⟨hle, hTv⟩ := ((C17.C17_st_table w d T H ops).2.2 k v).mp hkv
  exact ⟨(st_legit_inv hw hd hH T ops hL hS).est k v hle, hTv⟩

end

/-- the colliding history of C02's examples, with removals; run below with threshold 2 -/
def exStOps : List C17.StOp :=
  [.add C02.kA 3, .add C02.kC 5, .remove C02.kA 1, .add C02.kB 4, .remove C02.kC 5]

example : exStOps.map stToCms = C02.exOps := rfl

instance (ops : List C02.Op) : Decidable (C02.Legit ops) := by unfold C02.Legit; infer_instance
instance (ops : List C02.Op) : Decidable (C02.Small ops) := by unfold C02.Small; infer_instance

theorem exStOps_legit : C02.Legit (exStOps.map stToCms) := by decide
theorem exStOps_small : C02.Small (exStOps.map stToCms) := by decide

/-- width 2, depth 2, all three keys collide in row 1; `kB` (true count 4) and `kA` (true count 2)
    reach the threshold 2 and are tracked, `kC` (true count 0 after its removal) need not be -/
example : ∃ v, (C02.kB, v) ∈ (C17.runST C02.exH (ST.new 2 2 2) exStOps).1.table ∧
    (C17.runST C02.exH (ST.new 2 2 2) exStOps).1.table.get? C02.kB = some v ∧
    C17.lastEst (C17.runST C02.exH (ST.new 2 2 2) exStOps).2 C02.kB = some v ∧
    C02.cnt (exStOps.map stToCms) C02.kB ≤ v ∧ 2 ≤ v :=
  st_never_missing_legit (by decide) (by decide) (by intro key; simp [C02.exH]) 2 (by decide)
    exStOps exStOps_legit exStOps_small C02.kB (by decide)

example : (C02.cnt (exStOps.map stToCms) C02.kA, C02.cnt (exStOps.map stToCms) C02.kB,
    C02.cnt (exStOps.map stToCms) C02.kC) = (2, 4, 0) := by decide

end PyProb.Corollaries
