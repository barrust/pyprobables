/-
  The status predicates of the model that `_remove_element` tests (`isClusterStart`, `isRunStart`,
  `isRunOrClusterStart`), on a table in the linear view, at slots with and without an element.
-/
import PyProb.Lemmas.QFExt

namespace PyProb.QFRem
open PyProb PyProb.QF PyProb.QFLin PyProb.Spec

section lin
variable {s : QF} {n e m : Nat} {d r : Nat → Nat}

theorem isClusterStart_cell (L : Lin s n e m d r) (i : Nat) (hi : i < m) :
    s.isClusterStart (io n e (posF d i)) = decide (posF d i = d i) := by
  rw [isClusterStart, cont_cell L i hi, L.shift i hi]
  by_cases hh : posF d i = d i
  · have ho : bit s.occ (io n e (posF d i)) = true := by
      rw [hh]
      exact occ_home L i hi
    rw [ho, contF_home d i hh, decide_eq_true hh, decide_eq_false fun h => h hh]
    rfl
  · rw [decide_eq_true hh, decide_eq_false hh, Bool.not_true, Bool.and_false]

theorem occ_nocell (L : Lin s n e m d r) (x : Nat) (hx : x < n)
    (h : ∀ i, i < m → posF d i ≠ x) : bit s.occ (io n e x) = false := by
  have := isEmpty_nocell L x hx h
  simp only [isEmpty, Bool.and_eq_true, Bool.not_eq_true'] at this
  exact this.1.1

theorem isClusterStart_nocell (L : Lin s n e m d r) (x : Nat) (hx : x < n)
    (h : ∀ i, i < m → posF d i ≠ x) : s.isClusterStart (io n e x) = false := by
  rw [isClusterStart, occ_nocell L x hx h]
  rfl

theorem isRunStart_nocell (L : Lin s n e m d r) (x : Nat) (hx : x < n)
    (h : ∀ i, i < m → posF d i ≠ x) : s.isRunStart (io n e x) = false := by
  rw [isRunStart, occ_nocell L x hx h, (L.nocell x hx h).2, Bool.or_self, Bool.and_false]

theorem isRunOrClusterStart_cell (L : Lin s n e m d r) (i : Nat) (hi : i < m) :
    s.isRunOrClusterStart (io n e (posF d i)) = !contF d i := by
  rw [isRunOrClusterStart, isRunStart_cell L i hi, isClusterStart_cell L i hi]
  by_cases hh : posF d i = d i
  · rw [decide_eq_true hh, Bool.true_or, contF_home d i hh]
    rfl
  · rw [decide_eq_false hh, Bool.false_or]

end lin
end PyProb.QFRem
