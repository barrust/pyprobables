/-
  Full-history form of C01 ("an added key is never reported absent") with the reload steps in the
  operation language: in-memory Bloom filter (`add | union | query | clear | reloadBytes | reloadHex`,
  a reload being `Bloom.load geom` of the filter's own `exportBytes`, resp. `loadHex` of `exportHex`),
  expanding filter (`add hs force | push | reload`), on-disk filter (`add | cycle`, close then reopen
  the file).  It combines the histories of C01, export-then-load of C05 and the bit-level on-disk
  history of C11.

  The semantics is *strict*: a failing export, load or reopen is an error of the whole run
  (`brun`, `erun`, `drun : … → R _`), nothing is totalised away.  On a reachable state such a step
  succeeds and gives the same state back, so a history ends in the state of the same history with
  the reloads erased (`strict_run_eq`), and the history theorems of C01 / C11 apply to it.

  What a reload needs in order to succeed is a hypothesis on the start state and invariant on
  reachable states (`BInv` / `EInv` / `DInv`):
    * `C05.GeomStable`: the loader re-derives the same geometry;
    * the footer fields fit: `est < 2^64`, `fpr32 < 2^32`, `count + (adds in the history) < 2^64`
      (beyond that the real `export` raises `struct.error`); for the expanding filter the same
      budget for the sub-filter counts, the number of sub-filters and `added` (`work ops`);
    * `UnionsOK`: `union` stores an arbitrary estimator value as the new count and ORs in an
      arbitrary operand, so the estimator must stay in `[0, 2^64 - adds)` and the operand's bit array
      must consist of bytes (hex channel only); histories without union need neither.
  The growth invariants `Expanding.Inv` / `Geo` play no part.
-/
import PyProb.Properties.C01
import PyProb.Properties.C05_bloom
import PyProb.Properties.C11
import PyProb.Lemmas.ExpandingCore

namespace PyProb.FullHistory
open PyProb

/-- `BloomFilter.frombytes(bytes(b))`, or `export(file)` followed by `BloomFilter(filepath=file)` -/
def reloadBytes (geom : Geom) (b : Bloom) : R Bloom :=
  match b.exportBytes with
  | .ok bytes => Bloom.load geom bytes
  | .error e => .error e

/-- `BloomFilter(hex_string=b.export_hex())` -/
def reloadHex (geom : Geom) (b : Bloom) : R Bloom :=
  match b.exportHex with
  | .ok hex => Bloom.loadHex geom hex
  | .error e => .error e

theorem bloom_exportHex_ok (b : Bloom) (wf : C05.BloomWF b) : ∃ hex, b.exportHex = .ok hex := by
  have h1 := wf.est; have h2 := wf.fpr; have h3 := wf.cnt0; have h4 := wf.cnt1
  unfold Bloom.exportHex Bloom.footerVals
  rw [bloomFooterHex_pack, if_neg (by omega), if_neg (by omega), if_neg (by omega)]
  exact ⟨_, rfl⟩

theorem bloom_reload_noop (geom : Geom) (b : Bloom) (wf : C05.BloomWF b)
    (hg : C05.GeomStable geom b.est b.fpr32 b.k b.m) : reloadBytes geom b = .ok b := by
  obtain ⟨bytes, h⟩ := C05.C05_bloom_export_ok b wf
  unfold reloadBytes
  rw [h]
  exact C05.C05_bloom_roundtrip geom b bytes wf.len hg h

theorem bloom_reloadHex_noop (geom : Geom) (b : Bloom) (wf : C05.BloomWF b)
    (hg : C05.GeomStable geom b.est b.fpr32 b.k b.m) : reloadHex geom b = .ok b := by
  obtain ⟨hex, h⟩ := bloom_exportHex_ok b wf
  unfold reloadHex
  rw [h]
  exact C05.C05_bloom_hex_roundtrip geom b hex wf.len wf.bytes hg h

/-- the error branch is real -/
theorem bloom_reload_overflow (geom : Geom) (b : Bloom) (h : 2 ^ 64 ≤ b.count) :
    reloadBytes geom b = .error .structError := by
  unfold reloadBytes Bloom.exportBytes Bloom.footerVals
  rw [bloomFooter_pack]
  by_cases he : (b.est : Int) < 0 ∨ (b.est : Int) > 18446744073709551615
  · rw [if_pos he]
  · rw [if_neg he, if_pos (by omega)]

inductive BOp
  | add (hs : List Nat)
  | union (other : Bloom) (sameProbe : Bool)
  | query (hs : List Nat)
  | clear
  | reloadBytes
  | reloadHex

def BOp.core : BOp → Option C01.Op
  | .add hs => some (.add hs)
  | .union o s => some (.union o s)
  | .query hs => some (.query hs)
  | .clear => some .clear
  | .reloadBytes => none
  | .reloadHex => none

def bstep (geom : Geom) (est : Estimator) (b : Bloom) : BOp → R Bloom
  | .add hs => .ok (b.addAlt hs).1
  | .union o same => .ok (match Bloom.union est b o same with | some r => r | none => b)
  | .query _ => .ok b
  | .clear => .ok b.clear
  | .reloadBytes => reloadBytes geom b
  | .reloadHex => reloadHex geom b

def brun (geom : Geom) (est : Estimator) : Bloom → List BOp → R Bloom
  | b, [] => .ok b
  | b, op :: ops =>
      match bstep geom est b op with
      | .ok b' => brun geom est b' ops
      | .error e => .error e

def eraseReloads (ops : List BOp) : List C01.Op := ops.filterMap BOp.core

def adds : List BOp → Nat
  | [] => 0
  | .add _ :: r => adds r + 1
  | _ :: r => adds r

def blive (acc : List (List Nat)) : BOp → List (List Nat)
  | .add hs => hs :: acc
  | .clear => []
  | _ => acc

def addedSinceLastClear (ops : List BOp) : List (List Nat) := ops.foldl blive []

theorem bstep_core (geom : Geom) (est : Estimator) (b : Bloom) (op : BOp) (c : C01.Op)
    (h : op.core = some c) : bstep geom est b op = .ok (C01.step est b c) := by
  cases op <;> simp only [BOp.core, Option.some.injEq, reduceCtorEq] at h <;> subst h <;> rfl

private theorem live_erase (ops : List BOp) (acc : List (List Nat)) :
    (eraseReloads ops).foldl C01.live acc = ops.foldl blive acc := by
  rw [eraseReloads, List.foldl_filterMap]
  congr
  funext acc op
  cases op <;> rfl

private theorem lt_of_room {c : Int} {n : Nat} (h : c + (n : Int) < 2 ^ 64) : c < 2 ^ 64 :=
  Int.lt_of_le_of_lt (Int.le_add_of_nonneg_right (Int.natCast_nonneg n)) h

private theorem room_step {c : Int} {n : Nat} (h : 0 ≤ c ∧ c + ((n + 1 : Nat) : Int) < 2 ^ 64) :
    (0 ≤ c ∧ c + (n : Int) < 2 ^ 64) ∧ 0 ≤ c + 1 ∧ c + 1 + (n : Int) < 2 ^ 64 := by
  omega

private theorem room_zero {n : Nat} (h : n < 2 ^ 64) : (0 : Int) + (n : Int) < 2 ^ 64 := by
  omega

private theorem room_fresh {n : Nat} (h : n + 1 < 2 ^ 64) :
    (0 : Int) ≤ 0 ∧ (0 : Int) + ((n + 1 : Nat) : Int) < 2 ^ 64 :=
  ⟨Int.le_refl 0, room_zero h⟩

/-- `n`: the number of adds still to come -/
structure BInv (geom : Geom) (b : Bloom) (n : Nat) : Prop where
  wf : C05.BloomWF b
  mpos : 0 < b.m
  stable : C05.GeomStable geom b.est b.fpr32 b.k b.m
  room : b.count + (n : Int) < 2 ^ 64

def UnionsOK (est : Estimator) (ops : List BOp) : Prop :=
  ∀ o same, BOp.union o same ∈ ops →
    (∀ x ∈ o.bits, x < 256) ∧ ∀ m k s, 0 ≤ est m k s ∧ est m k s + (adds ops : Int) < 2 ^ 64

theorem adds_tail_le (op : BOp) (ops : List BOp) : adds ops ≤ adds (op :: ops) := by
  cases op with
  | add hs => exact Nat.le_succ _
  | _ => exact Nat.le_refl _

theorem UnionsOK.tail {est : Estimator} {op : BOp} {ops : List BOp} (h : UnionsOK est (op :: ops)) :
    UnionsOK est ops := by
  intro o same hm
  obtain ⟨h1, h2⟩ := h o same (List.mem_cons_of_mem _ hm)
  refine ⟨h1, fun m k s => ?_⟩
  have := h2 m k s
  have := adds_tail_le op ops
  omega

theorem UnionsOK.of_no_union (est : Estimator) (ops : List BOp)
    (h : ∀ o same, BOp.union o same ∉ ops) : UnionsOK est ops :=
  fun o same hm => absurd hm (h o same)

theorem BInv.mono {geom : Geom} {b : Bloom} {n n' : Nat} (h : BInv geom b n) (hn : n' ≤ n) :
    BInv geom b n' :=
  ⟨h.wf, h.mpos, h.stable, by have := h.room; omega⟩

theorem BInv.c01wf {geom : Geom} {b : Bloom} {n : Nat} (h : BInv geom b n) : C01.WF b :=
  ⟨h.wf.len, h.mpos⟩

theorem binv_new (geom : Geom) (est fpr32 k m n : Nat) (hm : 0 < m) (he : est < 2 ^ 64)
    (hf : fpr32 < 2 ^ 32) (hn : n < 2 ^ 64) (hg : C05.GeomStable geom est fpr32 k m) :
    BInv geom (Bloom.new est fpr32 k m) n :=
  ⟨C05.C05_bloom_new_wf est fpr32 k m he hf, hm, hg, room_zero hn⟩

theorem binv_add {geom : Geom} {b : Bloom} {n : Nat} (hs : List Nat) (h : BInv geom b (n + 1)) :
    BInv geom (b.addAlt hs).1 n := by
  obtain ⟨⟨_, hr0⟩, _, hr1⟩ := room_step ⟨h.wf.cnt0, h.room⟩
  refine ⟨C05.C05_bloom_add_wf b hs h.wf (lt_of_room hr1), by rw [Bloom.addAlt_m]; exact h.mpos, ?_, ?_⟩
  · rw [Bloom.addAlt_est, Bloom.addAlt_fpr, Bloom.addAlt_k, Bloom.addAlt_m]; exact h.stable
  · rw [Bloom.addAlt_count]
    split
    · exact hr0
    · exact hr1

theorem binv_clear {geom : Geom} {b : Bloom} {n : Nat} (h : BInv geom b n) : BInv geom b.clear n := by
  have hc : b.clear = Bloom.new b.est b.fpr32 b.k b.m := by
    rw [Bloom.clear, h.wf.len, Bloom.new]
  have hr := h.room
  have h0 := h.wf.cnt0
  rw [hc]
  exact binv_new geom b.est b.fpr32 b.k b.m n h.mpos h.wf.est h.wf.fpr (by omega) h.stable

theorem binv_union {geom : Geom} {est : Estimator} {a o r : Bloom} {same : Bool} {n : Nat}
    (h : BInv geom a n) (ho : ∀ x ∈ o.bits, x < 256)
    (he : ∀ m k s, 0 ≤ est m k s ∧ est m k s + (n : Int) < 2 ^ 64)
    (hu : Bloom.union est a o same = some r) : BInv geom r n := by
  obtain ⟨_, hk, hm, hest, hfpr, hb⟩ := Bloom.union_eq_some est a o r same hu
  have hc : ∃ s, r.count = est a.m a.k s := by
    unfold Bloom.union at hu
    split at hu
    · cases hu
    · injection hu with hu; subst hu; exact ⟨_, rfl⟩
  obtain ⟨s, hc⟩ := hc
  have hes := he a.m a.k s
  refine ⟨⟨?_, ?_, by rw [hest]; exact h.wf.est, by rw [hfpr]; exact h.wf.fpr, by rw [hc]; exact hes.1,
    by rw [hc]; exact lt_of_room hes.2⟩, by rw [hm]; exact h.mpos, by rw [hest, hfpr, hk, hm]; exact h.stable,
    by rw [hc]; exact hes.2⟩
  · rw [hb, hm, zipBytes_length]; rfl
  · rw [hb]
    exact zipOr_byte_lt _ _ _ h.wf.bytes ho

theorem bstep_spec (geom : Geom) (est : Estimator) (b : Bloom) (op : BOp) (ops : List BOp)
    (h : BInv geom b (adds (op :: ops))) (hu : UnionsOK est (op :: ops)) :
    bstep geom est b op = .ok (op.core.elim b (C01.step est b)) ∧
      BInv geom (op.core.elim b (C01.step est b)) (adds ops) := by
  cases op with
  | add hs => exact ⟨rfl, binv_add hs h⟩
  | union o same =>
      refine ⟨rfl, ?_⟩
      obtain ⟨h1, h2⟩ := hu o same List.mem_cons_self
      show BInv geom (match Bloom.union est b o same with | some r => r | none => b) (adds ops)
      cases hq : Bloom.union est b o same with
      | none => exact h
      | some r => exact binv_union h h1 h2 hq
  | query hs => exact ⟨rfl, h⟩
  | clear => exact ⟨rfl, binv_clear h⟩
  | reloadBytes => exact ⟨bloom_reload_noop geom b h.wf h.stable, h⟩
  | reloadHex => exact ⟨bloom_reloadHex_noop geom b h.wf h.stable, h⟩

theorem bloom_run_eq (geom : Geom) (est : Estimator) (ops : List BOp) (b₀ : Bloom)
    (h : BInv geom b₀ (adds ops)) (hu : UnionsOK est ops) :
    brun geom est b₀ ops = .ok (C01.run est b₀ (eraseReloads ops)) ∧
      BInv geom (C01.run est b₀ (eraseReloads ops)) 0 := by
  obtain ⟨r, i, _⟩ := strict_run_eq (bstep geom est) (brun geom est) BOp.core (C01.step est)
    (fun b ops => BInv geom b (adds ops) ∧ UnionsOK est ops) (fun _ => rfl)
    (fun _ _ _ _ h => by rw [brun, h]) (fun b op ops h => by
      obtain ⟨hs, hi⟩ := bstep_spec geom est b op ops h.1 h.2
      exact ⟨hs, hi, h.2.tail⟩) b₀ ops ⟨h, hu⟩
  exact ⟨r, i⟩

/-- C01 with reloads: after any sequence of add / union / query / clear / export+load (binary or
    hex) the run has not failed and every hash list (of at least `k` hashes) added since the last
    `clear` is reported present -/
theorem bloom_full_history (geom : Geom) (est : Estimator) (b₀ : Bloom) (ops : List BOp)
    (h : BInv geom b₀ (adds ops)) (hu : UnionsOK est ops) (hs : List Nat)
    (hmem : hs ∈ addedSinceLastClear ops) (hl : b₀.k ≤ hs.length) :
    ∃ b, brun geom est b₀ ops = .ok b ∧ b.checkAlt hs = .ok true := by
  refine ⟨_, (bloom_run_eq geom est ops b₀ h hu).1, ?_⟩
  exact C01.C01_bloom est b₀ (eraseReloads ops) h.c01wf hs
    (by rw [C01.addedSinceLastClear, live_erase]; exact hmem) hl

theorem bloom_full_history_new (geom : Geom) (est : Estimator) (est0 fpr32 k m : Nat) (hm : 0 < m)
    (he : est0 < 2 ^ 64) (hf : fpr32 < 2 ^ 32) (hg : C05.GeomStable geom est0 fpr32 k m)
    (ops : List BOp) (hn : adds ops < 2 ^ 64) (hu : UnionsOK est ops) (hs : List Nat)
    (hmem : hs ∈ addedSinceLastClear ops) (hl : k ≤ hs.length) :
    ∃ b, brun geom est (Bloom.new est0 fpr32 k m) ops = .ok b ∧ b.checkAlt hs = .ok true :=
  bloom_full_history geom est _ ops (binv_new geom est0 fpr32 k m _ hm he hf hn hg) hu hs hmem hl

theorem bloom_full_history_keeps (geom : Geom) (est : Estimator) (b₀ : Bloom) (ops : List BOp)
    (h : BInv geom b₀ (adds ops)) (hu : UnionsOK est ops) (hs : List Nat)
    (h0 : b₀.checkAlt hs = .ok true) (hnc : BOp.clear ∉ ops) :
    ∃ b, brun geom est b₀ ops = .ok b ∧ b.checkAlt hs = .ok true := by
  refine ⟨_, (bloom_run_eq geom est ops b₀ h hu).1, ?_⟩
  apply C01.C01_bloom_keeps est b₀ (eraseReloads ops) h.c01wf hs h0
  intro c hc hcl
  subst hcl
  simp only [eraseReloads, List.mem_filterMap] at hc
  obtain ⟨op, hop, hcore⟩ := hc
  cases op <;> simp only [BOp.core, Option.some.injEq, reduceCtorEq] at hcore
  exact hnc hop

inductive BKOp
  | add (key : Key)
  | union (other : Bloom) (sameProbe : Bool)
  | query (key : Key)
  | clear
  | reloadBytes
  | reloadHex

/-- `add(key)` is `add_alt(hashes(key))`, `check(key)` is `check_alt(hashes(key))` -/
def BKOp.toOp (H : Key → Nat → List Nat) (k : Nat) : BKOp → BOp
  | .add key => .add (H key k)
  | .union o s => .union o s
  | .query key => .query (H key k)
  | .clear => .clear
  | .reloadBytes => .reloadBytes
  | .reloadHex => .reloadHex

def bliveK (acc : List Key) : BKOp → List Key
  | .add key => key :: acc
  | .clear => []
  | _ => acc

def keysAddedSinceLastClear (ops : List BKOp) : List Key := ops.foldl bliveK []

/-- `ExpandingBloomFilter.frombytes(bytes(e))`, or `export(file)` then `ExpandingBloomFilter(filepath=file)` -/
def ereload (geom : Geom) (e : Expanding) : R Expanding :=
  match e.exportBytes with
  | .ok bytes => Expanding.load geom bytes
  | .error x => .error x

theorem expanding_reload_noop (geom : Geom) (e : Expanding) (wf : C05.ExpandingWF e)
    (hg : C05.GeomStable geom e.est e.fpr32 e.k e.m) : ereload geom e = .ok e := by
  obtain ⟨bytes, h⟩ := C05.C05_expanding_export_ok e wf
  unfold ereload
  rw [h]
  exact C05.C05_expanding_roundtrip geom e bytes wf.nonempty wf.subs hg h

inductive EOp
  | add (hs : List Nat) (force : Bool)
  | push
  | reload

def EOp.core : EOp → Option C01.EOp
  | .add hs f => some (.add hs f)
  | .push => some .push
  | .reload => none

def estep (geom : Geom) (e : Expanding) : EOp → R Expanding
  | .add hs f => .ok (e.addAlt hs f).1
  | .push => .ok e.push
  | .reload => ereload geom e

def erun (geom : Geom) : Expanding → List EOp → R Expanding
  | e, [] => .ok e
  | e, op :: ops =>
      match estep geom e op with
      | .ok e' => erun geom e' ops
      | .error x => .error x

def eraseEReloads (ops : List EOp) : List C01.EOp := ops.filterMap EOp.core

def work : List EOp → Nat
  | [] => 0
  | .reload :: r => work r
  | _ :: r => work r + 1

def eadded : List EOp → List (List Nat)
  | [] => []
  | .add hs _ :: ops => hs :: eadded ops
  | _ :: ops => eadded ops

theorem eadded_erase (ops : List EOp) : C01.eadded (eraseEReloads ops) = eadded ops := by
  induction ops with
  | nil => rfl
  | cons op ops ih =>
      cases op with
      | add hs f => exact congrArg (hs :: ·) ih
      | push => exact ih
      | reload => exact ih

/-- `n`: the number of add / push steps still to come -/
structure EInv (geom : Geom) (e : Expanding) (n : Nat) : Prop where
  mpos : 0 < e.m
  nonempty : e.blooms ≠ []
  subs : C05.SubsOK e
  stable : C05.GeomStable geom e.est e.fpr32 e.k e.m
  est : e.est < 2 ^ 64
  fpr : e.fpr32 < 2 ^ 32
  counts : ∀ b ∈ e.blooms, 0 ≤ b.count ∧ b.count + (n : Int) < 2 ^ 64
  size : e.blooms.length + n < 2 ^ 64
  added0 : 0 ≤ e.added
  added1 : e.added + (n : Int) < 2 ^ 64

theorem EInv.wf {geom : Geom} {e : Expanding} {n : Nat} (h : EInv geom e n) : C05.ExpandingWF e :=
  ⟨h.nonempty, h.subs, fun b hb => ⟨(h.counts b hb).1, lt_of_room (h.counts b hb).2⟩,
    Nat.lt_of_le_of_lt (Nat.le_add_right _ n) h.size, h.est, h.fpr, h.added0, lt_of_room h.added1⟩

theorem wf_of_subs {e : Expanding} (hm : 0 < e.m) (hne : e.blooms ≠ []) (hs : C05.SubsOK e) : e.WF := by
  refine ⟨hm, hne, fun b hb => ?_⟩
  obtain ⟨_, _, hk, hbm, hl⟩ := hs b hb
  exact ⟨⟨by rw [hbm]; exact hl, by rw [hbm]; exact hm⟩, hk, hbm⟩

theorem EInv.c01wf {geom : Geom} {e : Expanding} {n : Nat} (h : EInv geom e n) : C01.WFE e :=
  wf_of_subs h.mpos h.nonempty h.subs

theorem einv_new (geom : Geom) (est fpr32 k m n : Nat) (hm : 0 < m) (he : est < 2 ^ 64)
    (hf : fpr32 < 2 ^ 32) (hn : n + 1 < 2 ^ 64) (hg : C05.GeomStable geom est fpr32 k m) :
    EInv geom (Expanding.new est fpr32 k m) n := by
  have wf := C05.C05_expanding_new_wf est fpr32 k m he hf
  have h0 := (room_step (room_fresh hn)).1
  refine ⟨hm, wf.nonempty, wf.subs, hg, he, hf, ?_, ?_, wf.added0, h0.2⟩
  · intro b hb
    rw [List.mem_singleton.1 hb]
    exact h0
  · rw [Nat.add_comm] at hn
    exact hn

private theorem addCore_length (e : Expanding) (p : Bool) (hs : List Nat) (f : Bool) (hne : e.blooms ≠ []) :
    (e.addCore p hs f).1.blooms.length ≤ e.blooms.length + 1 := by
  cases hf : (f || !p)
  · rw [(Expanding.addCore_noeff e p hs f hf).1]; omega
  · obtain ⟨init, z, hb⟩ := exists_concat e.blooms hne
    rw [Expanding.addCore_blooms_eff e init z p hs f hb hf, hb]
    split
    · exact Nat.le_of_eq (List.length_append)
    · rw [List.length_append, List.length_append]
      exact Nat.le_succ _

/-- `add_alt` is `addCore` for some membership answer; when the membership test raises, only
    `added` is bumped, which is what `addCore` does with a suppressed duplicate -/
private theorem addAlt_fst_eq_some_addCore (e : Expanding) (hs : List Nat) (f : Bool) :
    ∃ p f', (e.addAlt hs f).1 = (e.addCore p hs f').1 := by
  unfold Expanding.addAlt
  split
  · exact ⟨true, true, rfl⟩
  · split
    · exact ⟨true, false, rfl⟩
    · exact ⟨_, false, rfl⟩

theorem einv_add {geom : Geom} {e : Expanding} {n : Nat} (hs : List Nat) (f : Bool)
    (h : EInv geom e (n + 1)) : EInv geom (e.addAlt hs f).1 n := by
  obtain ⟨p, f', hc⟩ := addAlt_fst_eq_some_addCore e hs f
  rw [hc]
  obtain ⟨hsubs', hne'⟩ := expanding_addCore_ok e p hs f' h.subs h.nonempty
  obtain ⟨s1, s2, s3, s4, s5⟩ := Expanding.addCore_static e p hs f'
  have hl := addCore_length e p hs f' h.nonempty
  have hsz := h.size
  have ha := (room_step ⟨h.added0, h.added1⟩).2
  have hq := Expanding.addCore_forall₂ (fun b => 0 ≤ b.count ∧ b.count + ((n + 1 : Nat) : Int) < 2 ^ 64)
    (fun b => 0 ≤ b.count ∧ b.count + (n : Int) < 2 ^ 64) e p hs f'
    (fun b hb => (room_step hb).1)
    (fun b hb => by
      rw [Bloom.addAlt_count]
      split
      · exact (room_step hb).1
      · exact (room_step hb).2)
    (room_fresh (Nat.lt_of_le_of_lt (Nat.le_add_left _ _) hsz)) h.counts
  exact ⟨by rw [s4]; exact h.mpos, hne', hsubs', by rw [s1, s2, s3, s4]; exact h.stable,
    by rw [s1]; exact h.est, by rw [s2]; exact h.fpr, hq,
    Nat.lt_of_le_of_lt (Nat.add_le_add_right hl n) (by rw [Nat.add_right_comm]; exact hsz),
    by rw [s5]; exact ha.1,
    by rw [s5]; exact ha.2⟩

theorem einv_push {geom : Geom} {e : Expanding} {n : Nat} (h : EInv geom e (n + 1)) :
    EInv geom e.push n := by
  have hsz := h.size
  refine ⟨h.mpos, List.append_ne_nil_of_right_ne_nil _ (List.cons_ne_nil _ _), C05.C05_expanding_push_subs e h.subs, h.stable, h.est, h.fpr,
    ?_, ?_, h.added0, (room_step ⟨h.added0, h.added1⟩).1.2⟩
  · exact Expanding.push_forall (fun b => 0 ≤ b.count ∧ b.count + (n : Int) < 2 ^ 64) e
      (room_step (room_fresh (Nat.lt_of_le_of_lt (Nat.le_add_left _ _) hsz))).1 (fun b hb => (room_step (h.counts b hb)).1)
  · rw [Expanding.push, List.length_append, List.length_singleton, Nat.add_assoc, Nat.add_comm 1 n]
    exact hsz

theorem work_tail_le (op : EOp) (ops : List EOp) : work ops ≤ work (op :: ops) := by
  cases op with
  | reload => exact Nat.le_refl _
  | _ => exact Nat.le_succ _

theorem estep_spec (geom : Geom) (e : Expanding) (op : EOp) (ops : List EOp)
    (h : EInv geom e (work (op :: ops))) :
    estep geom e op = .ok (op.core.elim e (C01.estep e)) ∧
      EInv geom (op.core.elim e (C01.estep e)) (work ops) := by
  cases op with
  | add hs f => exact ⟨rfl, einv_add hs f h⟩
  | push => exact ⟨rfl, einv_push h⟩
  | reload => exact ⟨expanding_reload_noop geom e h.wf h.stable, h⟩

theorem expanding_run_eq (geom : Geom) (ops : List EOp) (e₀ : Expanding)
    (h : EInv geom e₀ (work ops)) :
    erun geom e₀ ops = .ok (C01.erun e₀ (eraseEReloads ops)) ∧
      EInv geom (C01.erun e₀ (eraseEReloads ops)) 0 :=
  strict_run_eq (estep geom) (erun geom) EOp.core C01.estep (fun e ops => EInv geom e (work ops))
    (fun _ => rfl) (fun _ _ _ _ h => by rw [erun, h]) (estep_spec geom) e₀ ops h

/-- C01 with reloads, expanding filter: after any sequence of `add_alt(hs, force)`, `push()` and
    export+load the run has not failed and every hash list (of at least `k` hashes) ever added is
    reported present -/
theorem expanding_full_history (geom : Geom) (e₀ : Expanding) (ops : List EOp)
    (h : EInv geom e₀ (work ops)) (hs : List Nat) (hmem : hs ∈ eadded ops) (hl : e₀.k ≤ hs.length) :
    ∃ e, erun geom e₀ ops = .ok e ∧ e.checkAlt hs = .ok true := by
  refine ⟨_, (expanding_run_eq geom ops e₀ h).1, ?_⟩
  exact C01.C01_expanding e₀ (eraseEReloads ops) h.c01wf hs (by rw [eadded_erase]; exact hmem) hl

theorem expanding_full_history_new (geom : Geom) (est0 fpr32 k m : Nat) (hm : 0 < m)
    (he : est0 < 2 ^ 64) (hf : fpr32 < 2 ^ 32) (hg : C05.GeomStable geom est0 fpr32 k m)
    (ops : List EOp) (hn : work ops + 1 < 2 ^ 64) (hs : List Nat) (hmem : hs ∈ eadded ops)
    (hl : k ≤ hs.length) :
    ∃ e, erun geom (Expanding.new est0 fpr32 k m) ops = .ok e ∧ e.checkAlt hs = .ok true :=
  expanding_full_history geom _ ops (einv_new geom est0 fpr32 k m _ hm he hf hn hg) hs hmem hl

theorem expanding_full_history_keeps (geom : Geom) (e₀ : Expanding) (ops : List EOp)
    (h : EInv geom e₀ (work ops)) (hs : List Nat) (hl : e₀.k ≤ hs.length)
    (h0 : e₀.checkAlt hs = .ok true) :
    ∃ e, erun geom e₀ ops = .ok e ∧ e.checkAlt hs = .ok true :=
  ⟨_, (expanding_run_eq geom ops e₀ h).1, C01.C01_expanding_keeps e₀ (eraseEReloads ops) h.c01wf hs hl h0⟩

/-- `cycle` is `close()` followed by `BloomFilterOnDisk(path)` on the same file -/
def dstep (geom : Geom) (o : OnDisk) : C11.Op → R OnDisk
  | .add hs => .ok (o.addAlt hs)
  | .cycle => OnDisk.reopen geom o.close.file

def drun (geom : Geom) : OnDisk → List C11.Op → R OnDisk
  | o, [] => .ok o
  | o, op :: ops =>
      match dstep geom o op with
      | .ok o' => drun geom o' ops
      | .error x => .error x

def dadded : List C11.Op → List (List Nat)
  | [] => []
  | .add hs :: ops => hs :: dadded ops
  | .cycle :: ops => dadded ops

structure DInv (geom : Geom) (o : OnDisk) (n : Nat) : Prop where
  shape : ∃ bits, C11.Shape o bits o.count
  stable : C05.GeomStable geom o.est o.fpr32 o.k o.m
  est : o.est < 2 ^ 64
  fpr : o.fpr32 < 2 ^ 32
  cnt0 : 0 ≤ o.count
  room : o.count + (n : Int) < 2 ^ 64

def Present (o : OnDisk) (hs : List Nat) : Prop :=
  ∃ bits, C11.Shape o bits o.count ∧ ∀ x ∈ hs.take o.k, testBitB bits (x % o.m) = true

theorem Present.check {o : OnDisk} {hs : List Nat} (h : Present o hs) (hk : o.k ≤ hs.length) :
    o.checkAlt hs = .ok true := by
  obtain ⟨bits, hsh, hp⟩ := h
  exact C11.checkAlt_of_set hsh hs hk hp

private theorem shape_add {o : OnDisk} {bits : Bytes} (hs : List Nat) (h : C11.Shape o bits o.count) :
    C11.Shape (o.addAlt hs) (setAll o.m bits (hs.take o.k)) (o.addAlt hs).count :=
  (C11.C11_add_shape o bits hs h).1

theorem dinv_add {geom : Geom} {o : OnDisk} {n : Nat} (hs : List Nat) (h : DInv geom o (n + 1)) :
    DInv geom (o.addAlt hs) n := by
  obtain ⟨bits, hsh⟩ := h.shape
  obtain ⟨_, h1, hr1⟩ := room_step ⟨h.cnt0, h.room⟩
  exact ⟨⟨_, shape_add hs hsh⟩, h.stable, h.est, h.fpr, h1, hr1⟩

theorem present_add_self (o : OnDisk) (n : Nat) (geom : Geom) (hs : List Nat) (h : DInv geom o n) :
    Present (o.addAlt hs) hs := by
  obtain ⟨bits, hsh⟩ := h.shape
  exact ⟨_, shape_add hs hsh, fun x hx => setAll_sets _ _ _ hsh.mpos hsh.len x hx⟩

theorem present_add_mono {o : OnDisk} {hs : List Nat} (hs' : List Nat) (h : Present o hs) :
    Present (o.addAlt hs') hs := by
  obtain ⟨bits, hsh, hp⟩ := h
  exact ⟨_, shape_add hs' hsh, fun x hx => setAll_mono _ _ _ hsh.mpos hsh.len _ (hp x hx)⟩

theorem dstep_spec (geom : Geom) (o : OnDisk) (op : C11.Op) (ops : List C11.Op) (hs : List Nat)
    (h : DInv geom o (C11.adds (op :: ops))) (hp : hs ∈ dadded (op :: ops) ∨ Present o hs) :
    dstep geom o op = .ok (C11.step geom o op) ∧ DInv geom (C11.step geom o op) (C11.adds ops) ∧
      (C11.step geom o op).k = o.k ∧ (hs ∈ dadded ops ∨ Present (C11.step geom o op) hs) := by
  cases op with
  | add hs' =>
      refine ⟨rfl, dinv_add hs' h, rfl, ?_⟩
      rcases hp with hm | hp
      · rcases List.mem_cons.1 hm with rfl | hm
        · exact Or.inr (present_add_self o _ geom _ h)
        · exact Or.inl hm
      · exact Or.inr (present_add_mono hs' hp)
  | cycle =>
      obtain ⟨bits, hsh⟩ := h.shape
      -- close + reopen succeeds and changes nothing but the `closed` flag
      have hre := C11.C11_reopen geom o bits hsh h.stable h.est h.cnt0 (lt_of_room h.room) h.fpr
      rw [C11.step_cycle geom o bits hsh h.stable h.est h.cnt0 (lt_of_room h.room) h.fpr]
      exact ⟨hre,
        ⟨⟨bits, hsh.file, hsh.len, hsh.mpos⟩, h.stable, h.est, h.fpr, h.cnt0, h.room⟩, rfl,
        hp.imp id fun ⟨b, s, p⟩ => ⟨b, ⟨s.file, s.len, s.mpos⟩, p⟩⟩

theorem ondisk_run_spec (geom : Geom) (ops : List C11.Op) (o : OnDisk) (hs : List Nat)
    (h : DInv geom o (C11.adds ops)) (hp : hs ∈ dadded ops ∨ Present o hs) :
    drun geom o ops = .ok (ops.foldl (C11.step geom) o) ∧
      (o.k ≤ hs.length → (ops.foldl (C11.step geom) o).checkAlt hs = .ok true) := by
  obtain ⟨r, -, rk, rp⟩ := strict_run_eq (dstep geom) (drun geom) some (C11.step geom)
    (fun o' ops' => DInv geom o' (C11.adds ops') ∧ o'.k = o.k ∧ (hs ∈ dadded ops' ∨ Present o' hs))
    (fun _ => rfl) (fun _ _ _ _ h => by rw [drun, h])
    (fun o' op ops' h' => by
      obtain ⟨a, b, c, d⟩ := dstep_spec geom o' op ops' hs h'.1 h'.2.2
      exact ⟨a, b, c.trans h'.2.1, d⟩) o ops ⟨h, rfl, hp⟩
  rw [List.filterMap_some] at r rk rp
  exact ⟨r, fun hl => (rp.resolve_left List.not_mem_nil).check (by rw [rk]; exact hl)⟩

theorem ondisk_run_ok (geom : Geom) (ops : List C11.Op) (o₀ : OnDisk)
    (h : DInv geom o₀ (C11.adds ops)) : drun geom o₀ ops = .ok (ops.foldl (C11.step geom) o₀) :=
  (ondisk_run_spec geom ops o₀ [] h
    (Or.inr (h.shape.imp fun _ hsh => ⟨hsh, fun x hx => by simp at hx⟩))).1

/-- C01, on-disk filter: after any sequence of `add_alt(hs)` and close+reopen cycles every hash list
    (of at least `k` hashes) ever added is reported present by `check_alt` -/
theorem ondisk_full_history (geom : Geom) (o₀ : OnDisk) (ops : List C11.Op)
    (h : DInv geom o₀ (C11.adds ops)) (hs : List Nat) (hmem : hs ∈ dadded ops)
    (hl : o₀.k ≤ hs.length) :
    ∃ o, drun geom o₀ ops = .ok o ∧ o.checkAlt hs = .ok true :=
  have ⟨r, c⟩ := ondisk_run_spec geom ops o₀ hs h (Or.inl hmem)
  ⟨_, r, c hl⟩

theorem ondisk_full_history_keeps (geom : Geom) (o₀ : OnDisk) (ops : List C11.Op)
    (h : DInv geom o₀ (C11.adds ops)) (hs : List Nat) (hp : Present o₀ hs) (hl : o₀.k ≤ hs.length) :
    ∃ o, drun geom o₀ ops = .ok o ∧ o.checkAlt hs = .ok true :=
  have ⟨r, c⟩ := ondisk_run_spec geom ops o₀ hs h (Or.inr hp)
  ⟨_, r, c hl⟩

theorem dinv_create (geom : Geom) (est fpr32 k m : Nat) (hm : 0 < m) (he : est < 2 ^ 64)
    (hf : fpr32 < 2 ^ 32) (hg : C05.GeomStable geom est fpr32 k m) :
    ∃ o, OnDisk.create est fpr32 k m = .ok o ∧ o.k = k ∧ ∀ n, n < 2 ^ 64 → DInv geom o n := by
  obtain ⟨o, hc, hsh, c0, e1, e2, e3, e4⟩ := C11.C11_create est fpr32 k m hm he hf
  exact ⟨o, hc, e3, fun n hn => ⟨⟨_, by rw [c0]; exact hsh⟩, by rw [e1, e2, e3, e4]; exact hg,
    by rw [e1]; exact he, by rw [e2]; exact hf, by rw [c0]; exact Int.le_refl 0, by rw [c0]; exact room_zero hn⟩⟩

/-- k = 3, m = 13: two bytes, not a multiple of 8 -/
private def g13 : Geom := fun _ f => .ok (f, 3, 13)
private def est7 : Estimator := fun _ _ _ => 7
private def b13 : Bloom := Bloom.new 10 1028443341 3 13

private def bops : List BOp :=
  [.add [3, 14, 25], .reloadBytes, .clear, .add [7, 19, 1000], .reloadHex, .add [1],
   .union ((Bloom.new 10 1028443341 3 13).addAlt [4, 5, 6]).1 true, .reloadBytes, .query [1, 2, 3], .reloadHex]

private theorem bops_inv : BInv g13 b13 (adds bops) :=
  binv_new g13 10 1028443341 3 13 _ (by decide) (by decide) (by decide) (by decide) rfl

private theorem bops_unions : UnionsOK est7 bops := by
  intro o same hm
  have ho : o = ((Bloom.new 10 1028443341 3 13).addAlt [4, 5, 6]).1 := by
    simp only [bops, List.mem_cons, BOp.union.injEq, reduceCtorEq, false_or, List.not_mem_nil, or_false] at hm
    exact hm.1
  subst ho
  refine ⟨by decide, fun m k s => ?_⟩
  have : adds bops = 3 := rfl
  rw [this]
  simp only [est7]
  omega

example : [7, 19, 1000] ∈ addedSinceLastClear bops ∧
    (∃ b, brun g13 est7 b13 bops = .ok b ∧ b.checkAlt [7, 19, 1000] = .ok true) :=
  ⟨by decide, bloom_full_history g13 est7 b13 bops bops_inv bops_unions _ (by decide) (by decide)⟩

example : brun g13 est7 b13 bops = .ok (C01.run est7 b13 (eraseReloads bops)) ∧
    (brun g13 est7 b13 bops).toOption.map (·.bits) = some [242, 16] ∧
    (brun g13 est7 b13 bops).toOption.map (·.checkAlt [7, 19, 1000]) = some (.ok true) ∧
    (brun g13 est7 b13 bops).toOption.map (·.checkAlt [4, 5, 6]) = some (.ok true) ∧
    (brun g13 est7 b13 bops).toOption.map (·.checkAlt [3, 14, 25]) = some (.ok false) := by
  have h : C01.run est7 b13 (eraseReloads bops) = ⟨10, 1028443341, 3, 13, [242, 16], 7⟩ := by
    decide +kernel
  refine ⟨(bloom_run_eq g13 est7 bops b13 bops_inv bops_unions).1, ?_⟩
  rw [(bloom_run_eq g13 est7 bops b13 bops_inv bops_unions).1, h]
  exact ⟨rfl, rfl, rfl, rfl⟩

example : reloadBytes g13 (b13.addAlt [3, 14, 25]).1 = .ok (b13.addAlt [3, 14, 25]).1 ∧
    reloadHex g13 (b13.addAlt [3, 14, 25]).1 = .ok (b13.addAlt [3, 14, 25]).1 :=
  have h := binv_add (n := 2) [3, 14, 25] bops_inv
  ⟨bloom_reload_noop g13 _ h.wf h.stable, bloom_reloadHex_noop g13 _ h.wf h.stable⟩

example : brun g13 est7 { b13 with count := 2 ^ 64 } [.add [1, 2, 3], .reloadBytes] = .error .structError := by
  rfl

/-- the stability hypothesis is needed: if the loader derives 8 bits instead of 13 the reload
    truncates the array and the added key is lost -/
example : (reloadBytes (fun _ f => .ok (f, 3, 8)) (b13.addAlt [3, 14, 25]).1).toOption.map
      (fun b => (b.bits, b.checkAlt [3, 14, 25])) = some ([10], .ok false) ∧
    (b13.addAlt [3, 14, 25]).1.bits = [10, 16] := ⟨by rfl, by rfl⟩

private def e13 : Expanding := Expanding.new 2 1028443341 3 13

private def eops : List EOp :=
  [.add [3, 14, 25] false, .reload, .add [7, 19, 1000] false, .push, .reload, .add [1, 2, 3] true,
   .add [3, 14, 25] false, .add [40, 41, 42] false, .add [5, 6, 8] false, .reload, .add [9, 10, 11] false,
   .reload]

private theorem eops_inv : EInv g13 e13 (work eops) :=
  einv_new g13 2 1028443341 3 13 _ (by decide) (by decide) (by decide) (by decide) rfl

example : ∃ e, erun g13 e13 eops = .ok e ∧ e.checkAlt [3, 14, 25] = .ok true :=
  expanding_full_history g13 e13 eops eops_inv _ (by decide) (by decide)

example : erun g13 e13 eops = .ok (C01.erun e13 (eraseEReloads eops)) ∧
    (erun g13 e13 eops).toOption.map (·.blooms.length) = some 3 ∧
    (erun g13 e13 eops).toOption.map (·.checkAlt [3, 14, 25]) = some (.ok true) ∧
    (erun g13 e13 eops).toOption.map (·.added) = some 7 := by
  have h : C01.erun e13 (eraseEReloads eops) = ⟨2, 1028443341, 3, 13,
      [⟨2, 1028443341, 3, 13, [202, 16], 2⟩, ⟨2, 1028443341, 3, 13, [110, 1], 2⟩,
        ⟨2, 1028443341, 3, 13, [0, 14], 1⟩], 7⟩ := by decide +kernel
  refine ⟨(expanding_run_eq g13 eops e13 eops_inv).1, ?_⟩
  rw [(expanding_run_eq g13 eops e13 eops_inv).1, h]
  exact ⟨rfl, rfl, rfl⟩

private def g10 : Geom := fun _ f => .ok (f, 2, 10)

private def dops : List C11.Op := [.add [3, 12], .cycle, .add [5, 7], .cycle, .cycle, .add [9, 100, 4]]

example : ∃ o₀, OnDisk.create 3 1036831949 2 10 = .ok o₀ ∧
    ∃ o, drun g10 o₀ dops = .ok o ∧ o.checkAlt [3, 12] = .ok true := by
  obtain ⟨o₀, hc, hk, hi⟩ := dinv_create g10 3 1036831949 2 10 (by decide) (by decide) (by decide) rfl
  exact ⟨o₀, hc, ondisk_full_history g10 o₀ dops (hi _ (by decide)) [3, 12] (by decide) (by rw [hk]; decide)⟩

example : (match OnDisk.create 3 1036831949 2 10 with
    | .ok o₀ => (drun g10 o₀ dops).toOption.map (fun o => (o.count, o.file.take 2, o.checkAlt [5, 7], o.checkAlt [6, 7]))
    | .error _ => none) = some (3, [173, 2], .ok true, .ok false) := by rfl

end PyProb.FullHistory
