/-
  Quotient filter: the C14 counter clause "elements_added = number of
  stored hashes" over WHOLE histories (C14 only has the per-step facts `C14_qf_add`,
  `C14_qf_remove`), obtained from `C04_exact_set`.
-/
import PyProb.Properties.C04

namespace PyProb.Corollaries
open PyProb PyProb.QF

/-- **`elements_added` is the number of stored hashes, over every history.**  For every quotient
    size, auto-resize on or off, any model budget `b`, and every history of
    `add | remove | resize | merge` calls on 32-bit hashes from `QuotientFilter(q, auto)` in which
    no call raised: `get_hashes` returns a duplicate-free list `l` that is a permutation of the
    specification set `(absRun …).H` (hashes added and not removed since), `elements_added` is the
    length of that list and of the specification set, and `load_factor = elements_added / size` has
    numerator `|l|` and denominator `2^q'` with `q'` the quotient size of the history
    (`3 ≤ q' ≤ 31`, so the denominator is not 0, and the numerator is strictly below it). -/
theorem qf_count_history (q : Int) (auto : Bool) (b : Nat) (ops : List C04.Op)
    (hops : ∀ op ∈ ops, op.InRange) (s0 s : QF) (hnew : QF.new q auto = .ok s0)
    (hrun : C04.run b s0 ops = .ok s) :
    let a := C04.absRun auto ⟨q.toNat, []⟩ ops
    ∃ l, getHashes s = .ok l ∧ (s.count : Int) = (l.length : Nat) ∧ l.Nodup ∧ l.Perm a.H ∧
      s.count = (a.H.length : Nat) ∧ s.size = 2 ^ a.q ∧ s.q = a.q ∧ 3 ≤ a.q ∧ a.q ≤ 31 ∧
      l.length < s.size := by
  intro a
  obtain ⟨heq, _, ⟨l, hl, hp, hnd⟩, hc, hsz, _, h3, h31, hroom⟩ :=
    C04.C04_exact_set q auto b ops hops s0 s hnew hrun
  refine ⟨l, hl, ?_, hnd, hp, hc, hsz, ?_, h3, h31, ?_⟩
  · rw [hc, hp.length_eq]
  · rw [heq]; rfl
  · rw [hsz, hp.length_eq]; exact hroom

/-- the C14 clause alone -/
theorem qf_count_eq_stored (q : Int) (auto : Bool) (b : Nat) (ops : List C04.Op)
    (hops : ∀ op ∈ ops, op.InRange) (s0 s : QF) (hnew : QF.new q auto = .ok s0)
    (hrun : C04.run b s0 ops = .ok s) :
    ∃ l, getHashes s = .ok l ∧ (s.count : Int) = (l.length : Nat) ∧ l.Nodup := by
  obtain ⟨l, h1, h2, h3, _⟩ := qf_count_history q auto b ops hops s0 s hnew hrun
  exact ⟨l, h1, h2, h3⟩

/-- `elements_added` never goes negative and never reaches the table size on a reachable state -/
theorem qf_count_bounds (q : Int) (auto : Bool) (b : Nat) (ops : List C04.Op)
    (hops : ∀ op ∈ ops, op.InRange) (s0 s : QF) (hnew : QF.new q auto = .ok s0)
    (hrun : C04.run b s0 ops = .ok s) : 0 ≤ s.count ∧ s.count < (s.size : Int) := by
  obtain ⟨l, _, h2, _, _, _, _, _, _, _, h10⟩ := qf_count_history q auto b ops hops s0 s hnew hrun
  rw [h2]; omega

/-- the counter over a history changes exactly as the set does: after one more successful `add` of
    a hash it goes up by one iff the hash was not in the set, after `remove` down by one iff it was -/
theorem qf_count_delta (q : Int) (auto : Bool) (b : Nat) (ops : List C04.Op) (op : C04.Op)
    (hops : ∀ o ∈ ops ++ [op], o.InRange) (s0 s t : QF) (hnew : QF.new q auto = .ok s0)
    (hrun : C04.run b s0 ops = .ok s) (hstep : C04.step b s op = .ok t) :
    let a := C04.absRun auto ⟨q.toNat, []⟩ ops
    match op with
    | .add h => t.count = if h ∈ a.H then s.count else s.count + 1
    | .remove h => t.count = if h ∈ a.H then s.count - 1 else s.count
    | .resize _ => t.count = s.count
    | .merge hs => s.count ≤ t.count ∧ t.count ≤ s.count + (hs.length : Nat) := by
  intro a
  have hI : C04.Inv auto s a :=
    C04.C04_partial_inv C04.C04_contained C04.C04_hashes C04.C04_B1_add C04.C04_B2_remove q auto b ops
      (fun o ho => hops o (List.mem_append_left _ ho)) s0 s hnew hrun
  have hI' := C04.step_inv C04.C04_contained C04.C04_hashes C04.C04_B1_add C04.C04_B2_remove auto b s a
    op t hI (hops op (by simp)) hstep
  have hc := C04.inv_count hI
  have hc' := C04.inv_count hI'
  have hsort := hI.sorted
  clear_value a
  cases op with
  | add h =>
      show t.count = _
      rw [hc', hc]
      show (((Spec.insertN h a.H).length : Nat) : Int) = _
      rw [C04.length_insertN hsort]
      split <;> simp
  | remove h =>
      show t.count = _
      rw [hc', hc]
      show (((a.H.erase h).length : Nat) : Int) = _
      by_cases hm : h ∈ a.H
      · have := Spec.length_erase_of_mem hm
        rw [if_pos hm]; omega
      · rw [if_neg hm, List.erase_of_not_mem hm]
  | resize qn =>
      show t.count = _
      rw [hc', hc]; rfl
  | merge hs =>
      show s.count ≤ t.count ∧ _
      rw [hc', hc]
      -- every re-inserted hash makes the set longer by at most one
      have key : ∀ (l : List Nat) (a : C04.Abs), Spec.SortedN a.H →
          a.H.length ≤ (l.foldl (C04.absAdd auto) a).H.length ∧
          (l.foldl (C04.absAdd auto) a).H.length ≤ a.H.length + l.length := by
        intro l
        induction l with
        | nil => intro a _; simp
        | cons x l ih =>
            intro a hsa
            have := ih (C04.absAdd auto a x) (Spec.sorted_insertBy Spec.ltN_total x a.H hsa)
            have hx : (C04.absAdd auto a x).H.length = _ := C04.length_insertN (h := x) hsa
            simp only [List.foldl_cons, List.length_cons]
            split at hx <;> omega
      have := key hs a hsort
      change ((a.H.length : Nat) : Int) ≤ (((hs.foldl (C04.absAdd auto) a).H.length : Nat) : Int) ∧
        (((hs.foldl (C04.absAdd auto) a).H.length : Nat) : Int) ≤ (a.H.length : Nat) + (hs.length : Nat)
      omega

/-! ### non-vacuity: the concrete history of C04's examples (wrapping run, one removal) -/

private def exOps : List C04.Op :=
  [.add (Spec.enc 3 (0, 1)), .add (Spec.enc 3 (7, 2)), .add (Spec.enc 3 (7, 0)),
   .remove (Spec.enc 3 (0, 1))]

private theorem exOps_range : ∀ op ∈ exOps, op.InRange := by
  intro op hop
  simp only [exOps, List.mem_cons, List.not_mem_nil, or_false] at hop
  rcases hop with rfl | rfl | rfl | rfl <;> simp only [C04.Op.InRange] <;> decide

private theorem exOps_run :
    C04.run 1 (QF.empty 3 false) exOps = .ok (Spec.layout 3 false [(7, 0), (7, 2)]) :=
  (QFBounded.okEq_iff _ _).1 (by decide +kernel)

/-- the theorem instantiated: the history did not raise, two hashes are stored, the counter is 2 -/
example : ∃ l, getHashes (Spec.layout 3 false [(7, 0), (7, 2)]) = .ok l ∧
    ((Spec.layout 3 false [(7, 0), (7, 2)]).count : Int) = (l.length : Nat) ∧ l.Nodup :=
  qf_count_eq_stored 3 false 1 exOps exOps_range _ _ rfl exOps_run

example : (Spec.layout 3 false [(7, 0), (7, 2)]).count = 2 := by decide +kernel

end PyProb.Corollaries
