/-
  **Layer B2 (removal refines the canonical layout), for every table size and every canonical set.**

  `QF.remove_layout`: removing a stored element `x` from the canonical table `layout q auto S` of a
  canonical set `S` with the model of `_remove_element` terminates (the fuel is not exhausted, no
  exception) and yields exactly the canonical table of `S` without `x`, counter decremented.

  Route: `S` is `S \ {x}` with `x` put back, so the canonical tables of both are in the linear view
  from the empty slot `e` of `S`, the sequence of `S` being the other with `x` inserted
  (`Spec.layout_pair`); on the linear view `_remove_element` computes the table of the sequence
  without the removed element (`QFRem.removeQR_lin`: look-up, walk back to the cluster start, edge
  case of the first move, left shift, clearing of the last slot, metadata repair pass).
-/
import PyProb.Lemmas.QFWriteRemoveLin

namespace PyProb.QF
open PyProb PyProb.QFLin PyProb.Spec PyProb.QFRem

/-- removal on the canonical layout of any sorted set that leaves a slot empty: neither the bound on
    the remainders nor `3 ≤ q ≤ 31` is needed -/
theorem remove_layout_sorted (q : Nat) (hq1 : 1 ≤ q) (auto : Bool) (S : List Spec.Elem) (x : Spec.Elem)
    (hS : Sorted S) (hq : ∀ y ∈ S, y.1 < 2 ^ q) (hlen : S.length < 2 ^ q) (hx : x ∈ S) :
    QF.removeQR (Spec.layout q auto S) x.1 x.2 = .ok (Spec.layout q auto (Spec.erase x S)) := by
  have hmem : ∀ y, y ∈ Spec.erase x S ↔ y ≠ x ∧ y ∈ S := fun y =>
    (sorted_nodup ltE_total hS).mem_erase_iff
  have hlen1 : (Spec.erase x S).length + 1 = S.length := by
    have h1 := List.length_erase_of_mem hx
    have h2 : 0 < S.length := List.length_pos_of_mem hx
    unfold Spec.erase
    omega
  obtain ⟨e, j, d, r, he, hj, X1, X⟩ := layout_pair q hq1 auto (Spec.erase x S) x
    (List.Pairwise.sublist List.erase_sublist hS)
    (fun y hy => hq y ((hmem y).1 hy).2) (hq x hx) (by omega) (fun h => ((hmem x).1 h).1 rfl)
  rw [show Spec.insert x (Spec.erase x S) = S from insertBy_erase ltE_total hS hx, hlen1] at X
  have T : LinX (layout q auto (Spec.erase x S)) (2 ^ q) e (S.length - 1)
      (del j (insAt j (off (2 ^ q) e x.1) d)) (del j (insAt j x.2 r)) := by
    rw [del_insAt, del_insAt, ← hlen1]
    exact X1
  have key := removeQR_lin X j (by omega) T rfl rfl (by simp only [layout_count]; omega)
  rwa [insAt_eq, insAt_eq, io_off (2 ^ q) e x.1 he (hq x hx)] at key

/-- **removal refines the canonical layout** (Layer B2 of C04, all table sizes) -/
theorem remove_layout (q : Nat) (auto : Bool) (S : List Spec.Elem) (x : Spec.Elem)
    (hc : Spec.Canon q S) (hx : x ∈ S) :
    QF.removeQR (Spec.layout q auto S) x.1 x.2 = .ok (Spec.layout q auto (Spec.erase x S)) :=
  remove_layout_sorted q (Nat.le_trans (by decide) hc.1) auto S x hc.2.2.1 (fun y hy => (hc.2.2.2.1 y hy).1)
    hc.2.2.2.2 hx

/-- test (non-vacuity): an instance with a cluster that is shifted left and split by the repair
    pass — removing `(0, 1)` from `{(0,1), (0,2), (1,0), (1,3)}` in the 8-slot table -/
example : QF.removeQR (Spec.layout 3 false [(0, 1), (0, 2), (1, 0), (1, 3)]) 0 1 =
    .ok (Spec.layout 3 false [(0, 2), (1, 0), (1, 3)]) :=
  remove_layout 3 false [(0, 1), (0, 2), (1, 0), (1, 3)] (0, 1) (by decide) (by decide)

end PyProb.QF
