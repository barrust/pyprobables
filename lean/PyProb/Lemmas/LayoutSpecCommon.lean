/-
  Bridges between the model's codecs (`Model/Base.lean`) and the independently written layout
  specification (`Spec/Layout.lean`): the part that does not depend on any data-structure family
  (integers, `struct.pack` on a layout without padding, cell arrays).
-/
import PyProb.Lemmas.Codec
import PyProb.Spec.Layout

namespace PyProb

theorem leBytes4_eq (v : Nat) : leBytes 4 v = Spec.u32le v := by
  simp only [leBytes, Spec.u32le, Nat.div_div_eq_div_mul]

theorem leBytes8_eq (v : Nat) : leBytes 8 v = Spec.u64le v := by
  simp only [leBytes, Spec.u64le, Nat.div_div_eq_div_mul]

theorem leBytesInt4_nat {v : Int} (h0 : 0 ≤ v) (h1 : v ≤ 4294967295) :
    leBytesInt 4 v = Spec.u32le v.toNat := by
  rw [leBytesInt_nonneg h0 (by simp; omega), leBytes4_eq]

theorem leBytesInt8_nat {v : Int} (h0 : 0 ≤ v) (h1 : v ≤ 18446744073709551615) :
    leBytesInt 8 v = Spec.u64le v.toNat := by
  rw [leBytesInt_nonneg h0 (by simp; omega), leBytes8_eq]

/-- the two's complement code of `v` in a word of `P` values, as the specification writes it -/
theorem emod_toNat {v P : Int} (h0 : -P ≤ 2 * v) (h1 : 2 * v < P) :
    (v % P).toNat = if v < 0 then (v + P).toNat else v.toNat := by
  split
  · rw [← Int.add_emod_right, Int.emod_eq_of_lt (by omega) (by omega)]
  · rw [Int.emod_eq_of_lt (by omega) (by omega)]

theorem leBytesInt4_int {v : Int} (h0 : -2147483648 ≤ v) (h1 : v ≤ 2147483647) :
    leBytesInt 4 v = Spec.i32le v := by
  unfold leBytesInt Spec.i32le
  rw [leBytes4_eq, emod_toNat (by omega) (by omega)]
  rfl

theorem leBytesInt8_int {v : Int} (h0 : -9223372036854775808 ≤ v) (h1 : v ≤ 9223372036854775807) :
    leBytesInt 8 v = Spec.i64le v := by
  unfold leBytesInt Spec.i64le
  rw [leBytes8_eq, emod_toNat (by omega) (by omega)]
  rfl

def inRange : List Field → List Int → Bool
  | [], [] => true
  | f :: fs, v :: vs => decide (f.lo ≤ v ∧ v ≤ f.hi) && inRange fs vs
  | _, _ => false

/-- the documented encoding of a value in the range of its field; the big-endian layouts store
    the same bytes most significant first -/
def specField (big : Bool) (f : Field) (v : Int) : Spec.Octets :=
  let le := match f with
    | .u8 => [v.toNat]
    | .u32 | .f32 => Spec.u32le v.toNat
    | .u64 => Spec.u64le v.toNat
    | .i32 => Spec.i32le v
    | .i64 => Spec.i64le v
  if big then le.reverse else le

def specFields (big : Bool) : List Field → List Int → Spec.Octets
  | f :: fs, v :: vs => specField big f v ++ specFields big fs vs
  | _, _ => []

theorem encField_spec (big : Bool) (f : Field) (v : Int) (hlo : f.lo ≤ v) (hhi : v ≤ f.hi) :
    encField big f v = specField big f v := by
  have hle : leBytesInt f.size v = specField false f v := by
    cases f
    · rw [leBytesInt_nonneg hlo (Int.lt_of_le_of_lt hhi (by decide))]
      have : v.toNat % 256 = v.toNat := Nat.mod_eq_of_lt (by simp only [Field.lo, Field.hi] at hlo hhi; omega)
      simp only [Field.size, leBytes, this]
      rfl
    · exact leBytesInt4_nat hlo hhi
    · exact leBytesInt4_int hlo hhi
    · exact leBytesInt8_nat hlo hhi
    · exact leBytesInt8_int hlo hhi
    · exact leBytesInt4_nat hlo hhi
  unfold encField
  rw [hle]
  cases big <;> rfl

theorem packFlat_spec (big : Bool) (fs : List Field) (vs : List Int) (acc : Bytes) :
    packFlat big fs vs acc =
      if inRange fs vs then .ok (acc ++ specFields big fs vs) else .error .structError := by
  induction fs generalizing vs acc with
  | nil => cases vs <;> simp [packFlat, inRange, specFields]
  | cons f fs ih =>
      cases vs with
      | nil => rfl
      | cons v vs =>
          simp only [packFlat, inRange, specFields, Bool.and_eq_true, decide_eq_true_eq]
          by_cases h : f.lo ≤ v ∧ v ≤ f.hi
          · rw [if_neg (by omega), ih, encField_spec big f v h.1 h.2]
            simp only [h, true_and, List.append_assoc]
          · rw [if_pos (by omega), if_neg (fun hh => h hh.1)]

theorem pack_spec (l : Layout) (h : noPad l 0 l.fields = true) (vs : List Int) :
    l.pack vs = if inRange l.fields vs then .ok (specFields l.isBig l.fields vs) else .error .structError := by
  rw [pack_eq_packFlat l h, packFlat_spec]
  rfl

/-- `c`: the footer's range condition in the documented form -/
theorem map_pack_spec {β} (l : Layout) (hp : noPad l 0 l.fields = true) (vs : List Int) (g : Bytes → β)
    (c : Prop) [Decidable c] (hc : inRange l.fields vs = true ↔ c) :
    (l.pack vs).map g = if c then .ok (g (specFields l.isBig l.fields vs)) else .error .structError := by
  rw [pack_spec l hp]
  by_cases h : c
  · rw [if_pos h, if_pos (hc.mpr h)]
    rfl
  · rw [if_neg h, if_neg fun hh => h (hc.mp hh)]
    rfl

theorem range_u32_nat (n : Nat) : (Field.u32.lo ≤ (n : Int) ∧ (n : Int) ≤ Field.u32.hi) ↔ n < 2 ^ 32 := by
  simp only [Field.lo, Field.hi]
  omega

theorem range_f32_nat (n : Nat) : (Field.f32.lo ≤ (n : Int) ∧ (n : Int) ≤ Field.f32.hi) ↔ n < 2 ^ 32 :=
  range_u32_nat n

theorem range_u64_nat (n : Nat) : (Field.u64.lo ≤ (n : Int) ∧ (n : Int) ≤ Field.u64.hi) ↔ n < 2 ^ 64 := by
  simp only [Field.lo, Field.hi]
  omega

theorem range_u64 (v : Int) : (Field.u64.lo ≤ v ∧ v ≤ Field.u64.hi) ↔ 0 ≤ v ∧ v < 2 ^ 64 := by
  simp only [Field.lo, Field.hi]
  omega

theorem cellsBytes_spec (f : Field) (cells : List Int) (h : ∀ x ∈ cells, f.lo ≤ x ∧ x ≤ f.hi) :
    cellsBytes f cells = cells.flatMap (specField false f) :=
  flatMap_congr_left fun x hx => encField_spec false f x (h x hx).1 (h x hx).2

end PyProb
