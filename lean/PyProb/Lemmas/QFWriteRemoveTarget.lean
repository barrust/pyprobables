/-
  Removing element `j` from a table `s` in the linear view: the cluster `a … b` of `j`, and the
  content of a table `t` that is the linear view of the sequence without `j`, slot by slot in terms
  of the content of `s`:
  * outside the slots `P = pos j … Z = pos b` nothing changes (`t_out`),
  * the slots `P … Z - 1` hold what their right neighbours held (`t_mid`),
  * slot `Z` is empty (`t_end`),
  * the occupied bits are those of `s`, except possibly at the home of `j` (`t_occ`).
-/
import PyProb.Lemmas.QFExtRemove

namespace PyProb.QFRem
open PyProb PyProb.QF PyProb.QFLin PyProb.Spec

theorem p_le_iff (d : Nat → Nat) (i k : Nat) : posF d i ≤ posF d k ↔ i ≤ k := by
  rw [← Nat.not_lt, p_lt_iff, Nat.not_lt]

theorem p_eq_iff (d : Nat → Nat) (i k : Nat) : posF d i = posF d k ↔ i = k :=
  ⟨p_inj d i k, congrArg (posF d)⟩

/-- element `j` of the table `s`, its cluster starts with element `a` and ends with element `b` -/
structure Ctx (s : QF) (n e m : Nat) (d r : Nat → Nat) (j a b : Nat) : Prop where
  X : LinX s n e m d r
  hj : j < m
  haj : a ≤ j
  hjb : j ≤ b
  hbm : b < m
  home : posF d a = d a
  shifted : ∀ k, a < k → k ≤ b → posF d k ≠ d k
  next : b + 1 < m → posF d (b + 1) = d (b + 1)

theorem ctx_exists {s : QF} {n e m : Nat} {d r : Nat → Nat} (X : LinX s n e m d r) (j : Nat) (hj : j < m) :
    ∃ a b, Ctx s n e m d r j a b := by
  obtain ⟨a, ha, hpa, hk⟩ := cluster d j
  -- `b` is the last index up to which everything behind `j` is shifted
  obtain ⟨b, hjb, hbm, hsh, hmax⟩ := exists_last (fun b => ∀ k, j < k → k ≤ b → posF d k ≠ d k) m j
    hj (fun k h1 h2 => absurd h2 (Nat.not_le_of_gt h1))
  refine ⟨a, b, X, hj, ha, hjb, hbm, hpa, fun k h1 h2 => ?_, fun hb1 => Classical.byContradiction fun hne =>
    hmax (b + 1) (Nat.lt_succ_self b) hb1 fun k h1 h2 => ?_⟩
  · by_cases h : k ≤ j
    · exact hk k h1 h
    · exact hsh k (by omega) h2
  · rcases Nat.eq_or_lt_of_le h2 with rfl | h3
    · exact hne
    · exact hsh k h1 (Nat.le_of_lt_succ h3)

section ctx
variable {s t : QF} {n e m : Nat} {d r : Nat → Nat} {j a b : Nat}

/-- element `i'` of `t` and element `i` of `s` are the same and sit at the same slot: the same cell -/
theorem cell_eq {m' i' i : Nat} {d' r' : Nat → Nat} (T : Lin t n e m' d' r') (L : Lin s n e m d r)
    (hi' : i' < m') (hi : i < m) (hp : posF d' i' = posF d i) (hr : r' i' = r i) (hd : d' i' = d i)
    (hc : contF d' i' = contF d i) :
    t.remAt (io n e (posF d i)) = s.remAt (io n e (posF d i)) ∧
      bit t.cont (io n e (posF d i)) = bit s.cont (io n e (posF d i)) ∧
      bit t.shift (io n e (posF d i)) = bit s.shift (io n e (posF d i)) := by
  rw [← hp, T.rem i' hi', cont_cell T i' hi', T.shift i' hi', hp, L.rem i hi, cont_cell L i hi, L.shift i hi, hr, hd, hc]
  exact ⟨rfl, rfl, rfl⟩

theorem Ctx.L (C : Ctx s n e m d r j a b) : Lin s n e m d r := C.X.lin

theorem Ctx.contig (C : Ctx s n e m d r j a b) (k : Nat) (h1 : a ≤ k) (h2 : k ≤ b) :
    posF d k = posF d a + (k - a) := QFLin.contig d a b C.shifted k h1 h2

theorem Ctx.contig_add (C : Ctx s n e m d r j a b) (k : Nat) (h : a + k ≤ b) : posF d (a + k) = posF d a + k := by
  rw [C.contig (a + k) (Nat.le_add_right a k) h, Nat.add_sub_cancel_left]

theorem Ctx.mono (C : Ctx s n e m d r j a b) (k : Nat) (h : k + 1 < m) : d k ≤ d (k + 1) := by
  have := C.L.sorted k h; omega

theorem Ctx.fitb (C : Ctx s n e m d r j a b) : posF d b + 2 ≤ n := C.L.fit b C.hbm

theorem Ctx.elem_at (C : Ctx s n e m d r j a b) (y : Nat) (h1 : posF d a ≤ y) (h2 : y ≤ posF d b) :
    ∃ k, a ≤ k ∧ k ≤ b ∧ posF d k = y := by
  have hab : a ≤ b := Nat.le_trans C.haj C.hjb
  have cb := C.contig b hab (Nat.le_refl b)
  have hk : a + (y - posF d a) ≤ b := by omega
  refine ⟨a + (y - posF d a), Nat.le_add_right _ _, hk, ?_⟩
  rw [C.contig_add _ hk]
  omega

theorem Ctx.pn_mid (C : Ctx s n e m d r j a b) (i : Nat) (h1 : j ≤ i) (h2 : i < b) :
    posF (del j d) i + 1 = posF d (i + 1) := by
  have := pos_del_mid d j b (C.mono j (by have := C.hbm; omega))
    (fun k h3 h4 => C.shifted k (by have := C.haj; omega) h4) (i - j) (by omega)
  rwa [show j + (i - j) = i by omega] at this

theorem Ctx.pn_ge (C : Ctx s n e m d r j a b) (i : Nat) (h1 : b ≤ i) (h2 : b + 1 < m) :
    posF (del j d) i = posF d (i + 1) := by
  have := pos_del_ge d j b C.hjb (C.next h2) (i - b)
  rwa [show b + (i - b) = i by omega] at this

theorem Ctx.cont_ge (C : Ctx s n e m d r j a b) (i : Nat) (h1 : b ≤ i) (h2 : i + 1 < m) :
    contF (del j d) i = contF d (i + 1) := by
  rcases Nat.lt_or_ge j i with hji | hji
  · exact contF_del_gt d j i hji
  · -- `i = j = b`: the elements `b + 1` of `d` and `b` of `del j d` are both at home
    obtain rfl : i = j := Nat.le_antisymm hji (Nat.le_trans C.hjb h1)
    obtain rfl : b = i := Nat.le_antisymm h1 C.hjb
    have hh := C.next h2
    rw [contF_home d _ hh]
    apply contF_home
    rw [C.pn_ge b (Nat.le_refl b) h2, hh, del_ge b d b (Nat.le_refl b)]

theorem Ctx.new_nocell (C : Ctx s n e m d r j a b) (y : Nat) (h : y < posF d j ∨ posF d b ≤ y)
    (hno : ∀ k, k < m → k ≠ b → posF d k ≠ y) : ∀ i, i < m - 1 → posF (del j d) i ≠ y := by
  have hjb := C.hjb
  intro i hi hp
  by_cases hij : i < j
  · exact hno i (by omega) (by omega) ((pos_del_lt d j i hij).symm.trans hp)
  · by_cases hib : i < b
    · -- slot `posF d (i + 1) - 1` lies in `posF d j … posF d b - 1`
      have h1 := C.pn_mid i (Nat.le_of_not_lt hij) hib
      have h2 := (p_lt_iff d j (i + 1)).2 (by omega)
      have h3 := (p_le_iff d (i + 1) b).2 hib
      omega
    · exact hno (i + 1) (by omega) (by omega) ((C.pn_ge i (by omega) (by omega)).symm.trans hp)

theorem new_nocell_Z (C : Ctx s n e m d r j a b) : ∀ i, i < m - 1 → posF (del j d) i ≠ posF d b :=
  C.new_nocell (posF d b) (Or.inr (Nat.le_refl _)) (fun k _ hkb hp => hkb (p_inj d k b hp))

theorem Ctx.after (C : Ctx s n e m d r j a b) :
    (s.isEmpty (io n e (posF d b + 1)) || s.isClusterStart (io n e (posF d b + 1))) = true := by
  rcases p_next d m b with h | h
  · rw [← h.2, isClusterStart_cell C.L (b + 1) h.1, decide_eq_true (C.next h.1), Bool.or_true]
  · rw [isEmpty_nocell C.L _ C.fitb h.1]
    rfl

theorem Ctx.inside (C : Ctx s n e m d r j a b) (k : Nat) (h1 : a < k) (h2 : k ≤ b) :
    s.isEmpty (io n e (posF d k)) = false ∧ s.isClusterStart (io n e (posF d k)) = false := by
  have hk : k < m := by have := C.hbm; omega
  refine ⟨isEmpty_cell C.L k hk, ?_⟩
  rw [isClusterStart_cell C.L k hk]
  simp [C.shifted k h1 h2]

theorem Ctx.inside_slot (C : Ctx s n e m d r j a b) (y : Nat) (h1 : posF d a < y) (h2 : y ≤ posF d b) :
    s.isEmpty (io n e y) = false ∧ s.isClusterStart (io n e y) = false := by
  obtain ⟨k, hk1, hk2, rfl⟩ := C.elem_at y (Nat.le_of_lt h1) h2
  exact C.inside k ((p_lt_iff d a k).1 h1) hk2

theorem t_out (C : Ctx s n e m d r j a b) (T : LinX t n e (m - 1) (del j d) (del j r)) (y : Nat) (hy : y < n)
    (h : y < posF d j ∨ posF d b < y) :
    t.remAt (io n e y) = s.remAt (io n e y) ∧ bit t.cont (io n e y) = bit s.cont (io n e y) ∧
      bit t.shift (io n e y) = bit s.shift (io n e y) := by
  have hjb := C.hjb
  have hbm := C.hbm
  by_cases hcell : ∃ i, i < m ∧ posF d i = y
  · obtain ⟨i, hi, rfl⟩ := hcell
    rcases h.imp (p_lt_iff d i j).1 (p_lt_iff d b i).1 with hij | hbi
    · -- the same element at the same slot
      exact cell_eq T.lin C.L (by omega) hi (pos_del_lt d j i hij) (del_lt j r i hij) (del_lt j d i hij)
        (contF_del_lt d j i hij)
    · -- an element behind the cluster: same slot, index one less
      obtain ⟨i, rfl⟩ : ∃ i', i = i' + 1 := ⟨i - 1, by omega⟩
      exact cell_eq T.lin C.L (by omega) hi (C.pn_ge i (by omega) (by omega)) (del_ge j r i (by omega))
        (del_ge j d i (by omega)) (C.cont_ge i (by omega) hi)
  · -- no element before, none after
    have hno : ∀ i, i < m → posF d i ≠ y := fun i hi h => hcell ⟨i, hi, h⟩
    have hno' := C.new_nocell y (by omega) (fun k hk _ => hno k hk)
    have e2 := T.lin.nocell y hy hno'
    have f2 := C.L.nocell y hy hno
    rw [T.rem0 y hy hno', e2.1, e2.2, C.X.rem0 y hy hno, f2.1, f2.2]
    exact ⟨rfl, rfl, rfl⟩

theorem t_mid_idx (C : Ctx s n e m d r j a b) (T : LinX t n e (m - 1) (del j d) (del j r)) (i : Nat)
    (h1 : j ≤ i) (h2 : i < b) :
    t.remAt (io n e (posF (del j d) i)) = s.remAt (io n e (posF d (i + 1))) ∧
      bit t.cont (io n e (posF (del j d) i)) =
        (if i = j then (contF d j && contF d (j + 1)) else bit s.cont (io n e (posF d (i + 1)))) ∧
      bit s.shift (io n e (posF d (i + 1))) = true := by
  have hbm := C.hbm
  have him : i < m - 1 := by omega
  have hi1 : i + 1 < m := by omega
  refine ⟨?_, ?_, ?_⟩
  · rw [T.lin.rem i him, C.L.rem (i + 1) hi1, del_ge j r i h1]
  · rw [cont_cell T.lin i him]
    by_cases hij : i = j
    · subst hij
      rw [if_pos rfl]
      exact contF_del_eq d i (fun h0 => by have := C.mono (i - 1) (by omega); rwa [show i - 1 + 1 = i by omega] at this)
        (C.mono i hi1)
    · rw [if_neg hij, cont_cell C.L (i + 1) hi1]
      exact contF_del_gt d j i (by omega)
  · rw [C.L.shift (i + 1) hi1]
    exact decide_eq_true (C.shifted (i + 1) (by have := C.haj; omega) h2)

theorem t_mid (C : Ctx s n e m d r j a b) (T : LinX t n e (m - 1) (del j d) (del j r)) (y : Nat)
    (h1 : posF d j ≤ y) (h2 : y < posF d b) :
    t.remAt (io n e y) = s.remAt (io n e (y + 1)) ∧
      bit t.cont (io n e y) =
        (if y = posF d j then (contF d j && contF d (j + 1)) else bit s.cont (io n e (y + 1))) ∧
      bit s.shift (io n e (y + 1)) = true := by
  -- the element `i` at slot `y`; its right neighbour is shifted, and `i` stays where it is
  obtain ⟨i, _, _, rfl⟩ := C.elem_at y (Nat.le_trans ((p_le_iff d a j).2 C.haj) h1) (Nat.le_of_lt h2)
  have hji : j ≤ i := (p_le_iff d j i).1 h1
  have hib : i < b := (p_lt_iff d i b).1 h2
  have hs := p_shifted d i (C.shifted (i + 1) (Nat.lt_succ_of_le (Nat.le_trans C.haj hji)) hib)
  have hp : posF (del j d) i = posF d i := Nat.add_right_cancel ((C.pn_mid i hji hib).trans hs)
  have := t_mid_idx C T i hji hib
  rw [hp, hs] at this
  simpa only [p_eq_iff] using this

theorem t_end (C : Ctx s n e m d r j a b) (T : LinX t n e (m - 1) (del j d) (del j r)) :
    t.remAt (io n e (posF d b)) = 0 ∧ bit t.cont (io n e (posF d b)) = false ∧
      bit t.shift (io n e (posF d b)) = false ∧ bit t.occ (io n e (posF d b)) = false := by
  have hZ : posF d b < n := by have := C.fitb; omega
  have hno := new_nocell_Z C
  have e2 := T.lin.nocell _ hZ hno
  exact ⟨T.rem0 _ hZ hno, e2.1, e2.2, occ_nocell T.lin _ hZ hno⟩

/-- a sorted sequence is constant between two equal values -/
theorem d_const (L : Lin s n e m d r) (i k l : Nat) (h1 : i ≤ k) (h2 : k ≤ l) (hl : l < m) (h : d i = d l) :
    d k = d l :=
  Nat.le_antisymm (d_mono L k l h2 hl) (Nat.le_trans (Nat.le_of_eq h.symm) (d_mono L i k h1 (Nat.lt_of_le_of_lt h2 hl)))

/-- `j` is the only element with its home -/
def only (d : Nat → Nat) (m j : Nat) : Bool := !contF d j && !(decide (j + 1 < m) && contF d (j + 1))

theorem only_eq_false (L : Lin s n e m d r) (j : Nat) (hj : j < m) :
    only d m j = false ↔ ∃ k, k < m ∧ k ≠ j ∧ d k = d j := by
  simp only [only, contF, Bool.and_eq_false_iff, Bool.not_eq_false', Bool.and_eq_true, decide_eq_true_eq,
    Nat.add_sub_cancel]
  constructor
  · rintro (⟨h0, h1⟩ | ⟨h0, _, h1⟩)
    · exact ⟨j - 1, by omega, by omega, h1.symm⟩
    · exact ⟨j + 1, h0, by omega, h1⟩
  · rintro ⟨k, hk, hkj, hdk⟩
    rcases Nat.lt_or_gt_of_ne hkj with hlt | hgt
    · exact Or.inl ⟨by omega, (d_const L k (j - 1) j (by omega) (by omega) hj hdk).symm⟩
    · exact Or.inr ⟨by omega, by omega, (d_const L j (j + 1) k (by omega) hgt hk hdk.symm).trans hdk⟩

theorem t_occ (C : Ctx s n e m d r j a b) (T : LinX t n e (m - 1) (del j d) (del j r)) (y : Nat) (hy : y < n) :
    bit t.occ (io n e y) = (bit s.occ (io n e y) && !(decide (y = d j) && only d m j)) := by
  rw [Bool.eq_iff_iff, T.lin.occ y hy, del_exists d j m y C.hj, Bool.and_eq_true, C.L.occ y hy]
  constructor
  · rintro ⟨k, hk, hkj, hdk⟩
    refine ⟨⟨k, hk, hdk⟩, ?_⟩
    by_cases hyd : y = d j
    · rw [(only_eq_false C.L j C.hj).2 ⟨k, hk, hkj, hdk.trans hyd⟩, Bool.and_false]
      rfl
    · rw [decide_eq_false hyd]
      rfl
  · rintro ⟨⟨k, hk, hdk⟩, hnot⟩
    by_cases hkj : k = j
    · subst hkj
      rw [decide_eq_true hdk.symm, Bool.true_and, Bool.not_eq_true'] at hnot
      obtain ⟨k', h1, h2, h3⟩ := (only_eq_false C.L k hk).1 hnot
      exact ⟨k', h1, h2, h3.trans hdk⟩
    · exact ⟨k, hk, hkj, hdk⟩

/-- the cluster of `t` the repair pass walks over: the elements `a … b - 1` at consecutive slots -/
theorem new_cluster (C : Ctx s n e m d r j a b) (hjb : j < b) (k : Nat) (hk : k < b - a) :
    a + k < m - 1 ∧ posF (del j d) (a + k) = posF d a + k := by
  have hbm := C.hbm
  have haj := C.haj
  refine ⟨by omega, ?_⟩
  by_cases h : a + k < j
  · rw [pos_del_lt d j _ h]
    exact C.contig_add k (by omega)
  · have h1 := C.pn_mid (a + k) (by omega) (by omega)
    exact Nat.add_right_cancel (h1.trans (C.contig_add (k + 1) (by omega)))

/-- no element of `t` in front of its cluster has its home inside -/
theorem new_B (C : Ctx s n e m d r j a b) (T : LinX t n e (m - 1) (del j d) (del j r)) (hjb : j < b) :
    Bfn (del j d) (m - 1) (posF d a) ≤ a := by
  have hbm := C.hbm
  apply Classical.byContradiction
  intro hh
  have h1 := B_le_m (del j d) (m - 1) (posF d a)
  have h2 := (B_char T.lin (posF d a) a (by omega)).1 (by omega)
  by_cases haj' : a < j
  · rw [del_lt j d a haj', ← C.home] at h2; omega
  · have : a = j := by have := C.haj; omega
    subst this
    rw [del_ge a d a (Nat.le_refl _)] at h2
    have := C.mono a (by omega)
    rw [← C.home] at this
    omega

end ctx
end PyProb.QFRem
