/-
  The bounded statements of `QFBoundedDefs.lean` hold for EVERY strictly sorted universe `U` of
  elements of the 8-slot table: a subset of `U` of fewer than 8 elements is a canonical set, so each
  check is the instance at `q = 3` of the layer theorem it is named after (`contained_layout`,
  `hashes_layout`, `add_layout`, `remove_layout`), and the subsets of `U` are closed under insertion
  and erasure because they are exactly the sublists of `U`.
-/
import PyProb.Lemmas.QFBoundedDefs
import PyProb.Lemmas.QFWriteAdd
import PyProb.Lemmas.QFWriteRemove

namespace PyProb.QFBounded
open PyProb PyProb.Spec PyProb.QF
open PyProb.QFWriteAdd (InRange)

theorem mem_subsets {α : Type} {S U : List α} : S ∈ subsets U ↔ S.Sublist U := by
  induction U generalizing S with
  | nil => simp [subsets]
  | cons u U ih =>
      simp only [subsets, List.mem_append, List.mem_map, ih, List.sublist_cons_iff]
      constructor
      · rintro (h | ⟨r, hr, rfl⟩)
        · exact Or.inl h
        · exact Or.inr ⟨r, rfl, hr⟩
      · rintro (h | ⟨r, rfl, hr⟩)
        · exact Or.inl h
        · exact Or.inr ⟨r, hr, rfl⟩

/-- a strictly sorted list whose members all lie in the strictly sorted `U` is a sublist of `U` -/
theorem sublist_of_sorted {α : Type} {lt : α → α → Bool} (ho : StrictTotal lt) {L U : List α}
    (hL : SortedBy lt L) (hU : SortedBy lt U) (h : ∀ a ∈ L, a ∈ U) : L.Sublist U := by
  induction U generalizing L with
  | nil =>
      cases L with
      | nil => exact List.Sublist.slnil
      | cons a _ => exact absurd (h a List.mem_cons_self) List.not_mem_nil
  | cons u U ih =>
      rw [sorted_cons] at hU
      cases L with
      | nil => exact List.nil_sublist _
      | cons a L =>
          rw [sorted_cons] at hL
          have hne : ∀ b ∈ L, b ≠ a := by
            intro b hb e
            have := hL.1 b hb
            rw [e, ho.irrefl] at this
            cases this
          by_cases e : a = u
          · subst e
            refine List.Sublist.cons_cons a (ih hL.2 hU.2 ?_)
            intro b hb
            exact (List.mem_cons.1 (h b (List.mem_cons_of_mem _ hb))).resolve_left (hne b hb)
          · -- `u < a`, and everything in `L` is above `a`: `u` does not occur in `a :: L`
            have hua : lt u a = true :=
              hU.1 a ((List.mem_cons.1 (h a List.mem_cons_self)).resolve_left e)
            refine List.Sublist.cons u (ih (sorted_cons.2 hL) hU.2 ?_)
            intro b hb
            refine (List.mem_cons.1 (h b hb)).resolve_left ?_
            intro e'
            rcases List.mem_cons.1 hb with e'' | hb'
            · exact e (e''.symm.trans e')
            · have := ho.trans u a b hua (hL.1 b hb')
              rw [e', ho.irrefl] at this
              cases this

variable {U : List Elem}

/-- the sets the checks range over are canonical -/
theorem canon_of_mem_subsets (hU : Sorted U) (hr : ∀ x ∈ U, InRange 3 x) {S : List Elem}
    (hS : S ∈ subsets U) (hl : S.length < 8) : Canon 3 S := by
  have hsub := mem_subsets.1 hS
  exact ⟨by decide, by decide, hU.sublist hsub, fun x hx => hr x (hsub.subset hx), hl⟩

theorem checkContained_universe (hU : Sorted U) (hr : ∀ x ∈ U, InRange 3 x) :
    checkContained U = true := by
  refine all_sub_iff.2 fun S hS hl x hx => ?_
  obtain ⟨_, _, hs, hq, _⟩ := canon_of_mem_subsets hU hr hS hl
  obtain ⟨o, ho, hiff⟩ :=
    contained_layout 3 (by decide) false S hs (fun y hy => (hq y hy).1) hl x (hr x hx).1
  simp only [containedOk, ho, beq_iff_eq]
  rw [Bool.eq_iff_iff, hiff, List.contains_iff_mem]

theorem checkHashes_universe (hU : Sorted U) (hr : ∀ x ∈ U, InRange 3 x) :
    checkHashes U = true := by
  simp only [checkHashes, List.all_eq_true, Bool.or_eq_true, decide_eq_true_eq]
  intro S hS
  by_cases hl : S.length ≥ 8
  · exact Or.inl hl
  · obtain ⟨_, _, hs, hq, hl'⟩ := canon_of_mem_subsets hU hr hS (by omega)
    obtain ⟨l, hl, hp⟩ := hashes_layout 3 (by decide) false S hs (fun y hy => (hq y hy).1) hl'
    right
    simp only [hashesOk, hl, List.isPerm_iff]
    exact hp

theorem checkAdd_universe (hU : Sorted U) (hr : ∀ x ∈ U, InRange 3 x) :
    checkAdd U = true := by
  refine all_sub_iff.2 fun S hS hl x hx => ?_
  simp only [addOk, Bool.or_eq_true, decide_eq_true_eq, List.contains_iff_mem, okEq_iff]
  by_cases hm : x ∈ S
  · exact Or.inl (Or.inl hm)
  · by_cases hroom : S.length + 1 ≥ 8
    · exact Or.inl (Or.inr hroom)
    · exact Or.inr (add_layout 3 false S x (canon_of_mem_subsets hU hr hS hl) (hr x hx)
        (by have : 2 ^ 3 = 8 := rfl; omega) hm)

theorem checkRemove_universe (hU : Sorted U) (hr : ∀ x ∈ U, InRange 3 x) :
    checkRemove U = true := by
  refine all_sub_iff.2 fun S hS hl x hx => ?_
  have hC := canon_of_mem_subsets hU hr hS hl
  rw [removeOk, okEq_iff]
  by_cases hm : x ∈ S
  · exact remove_layout 3 false S x hC hm
  · -- the look-up does not find `x`, and `_remove_element` then returns the table as it is
    have ⟨_, _, hs, hq, _⟩ := hC
    obtain ⟨o, ho, hiff⟩ :=
      contained_layout 3 (by decide) false S hs (fun y hy => (hq y hy).1) hl x (hr x hx).1
    cases o with
    | some idx => exact absurd (hiff.1 rfl) hm
    | none => rw [Spec.erase, List.erase_of_not_mem hm]; simp [removeQR, ho]

theorem checkAddAlt_universe (hU : Sorted U) (hr : ∀ x ∈ U, InRange 3 x) :
    checkAddAlt U = true := by
  refine all_sub_iff.2 fun S hS hl x hx => ?_
  have hC := canon_of_mem_subsets hU hr hS hl
  have ⟨_, _, hs, hq, _⟩ := hC
  obtain ⟨o, ho, hiff⟩ :=
    contained_layout 3 (by decide) false S hs (fun y hy => (hq y hy).1) hl x (hr x hx).1
  have hde : dec 3 (enc 3 x) = x := dec_enc 3 x (hr x hx).2
  have e1 : (layout 3 false S).quotOf (enc 3 x) = x.1 := congrArg Prod.fst hde
  have e2 : (layout 3 false S).remOf (enc 3 x) = x.2 := congrArg Prod.snd hde
  rw [addAltOk, addAlt_noresize 0 _ _ (by rfl), addTail, e1, e2, ho]
  cases o with
  | some idx =>
      have hm : x ∈ S := hiff.1 rfl
      rw [if_pos (by simp [hm]), okEq_iff, Spec.insert, insertBy_of_mem ltE_total x S hs hm]
  | none =>
      have hm : x ∉ S := fun hm => by simpa using hiff.2 hm
      by_cases hroom : S.length + 1 < 8
      · rw [if_pos (by simp [hroom]), okEq_iff]
        exact add_layout 3 false S x hC (hr x hx) hroom hm
      · rw [if_neg (by simp [hm, hroom])]
        show (match addQR (layout 3 false S) x.1 x.2 with
          | .error .qfError => true
          | _ => false) = true
        rw [addQR_eq, if_pos]
        simp only [layout_count, layout_size]
        have : 2 ^ 3 = 8 := rfl
        omega

theorem checkClosed_universe (hU : Sorted U) : checkClosed U = true := by
  refine all_sub_iff.2 fun S hS hl x hx => ?_
  have hsub := mem_subsets.1 hS
  rw [Bool.and_eq_true, List.contains_iff_mem, List.contains_iff_mem, mem_subsets, mem_subsets]
  refine ⟨sublist_of_sorted ltE_total (sorted_insertBy ltE_total x S (hU.sublist hsub)) hU ?_,
    List.erase_sublist.trans hsub⟩
  intro a ha
  rcases (mem_insertBy x a S).1 ha with rfl | ha
  · exact hx
  · exact hsub.subset ha

theorem checkAddAlt_UB : checkAddAlt UB = true := checkAddAlt_universe (by decide) (by decide)

end PyProb.QFBounded
