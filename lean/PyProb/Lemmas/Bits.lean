/-
  Lemmas on bit addressing in byte lists (shared by Bitarray and the Bloom family).
-/
import PyProb.Lemmas.Lists
import PyProb.Model.Bitarray

namespace PyProb

theorem and_one_shiftLeft_ne_zero (x i : Nat) : ((x &&& (1 <<< i)) != 0) = x.testBit i := by
  rw [Nat.one_shiftLeft]
  cases h : x.testBit i
  · have : x &&& 2 ^ i = 0 := by
      apply Nat.eq_of_testBit_eq
      intro j
      simp only [Nat.testBit_and, Nat.testBit_two_pow, Nat.zero_testBit]
      by_cases hj : i = j
      · subst hj; simp [h]
      · simp [hj]
    simp [this]
  · have : (x &&& 2 ^ i).testBit i = true := by simp [h]
    have hne : x &&& 2 ^ i ≠ 0 := by
      intro h0; rw [h0] at this; simp at this
    simpa using hne

theorem testBitB_eq (bs : Bytes) (k : Nat) : testBitB bs k = (bs.getD (k / 8) 0).testBit (k % 8) := by
  unfold testBitB; exact and_one_shiftLeft_ne_zero _ _

theorem setBitB_length (bs : Bytes) (k : Nat) : (setBitB bs k).length = bs.length := by
  simp [setBitB]

theorem clearBitB_length (bs : Bytes) (k : Nat) : (clearBitB bs k).length = bs.length := by
  simp [clearBitB]

theorem index_eq_of_split {j k : Nat} (hd : j / 8 = k / 8) (hm : j % 8 = k % 8) : j = k :=
  (Nat.div_add_mod j 8).symm.trans (by rw [hd, hm]; exact Nat.div_add_mod k 8)

theorem split_index_ne {j k : Nat} (h : j ≠ k) : j / 8 ≠ k / 8 ∨ j % 8 ≠ k % 8 := by
  by_cases hd : j / 8 = k / 8
  · exact .inr fun hm => h (index_eq_of_split hd hm)
  · exact .inl hd

theorem byte_or_testBit (x i j : Nat) : (x ||| 1 <<< i).testBit j = (decide (i = j) || x.testBit j) := by
  rw [Nat.one_shiftLeft, Nat.testBit_or, Nat.testBit_two_pow, Bool.or_comm]

theorem byte_clear_testBit (x i j : Nat) (hj : j < 8) :
    (x &&& (255 ^^^ 1 <<< i)).testBit j = (!decide (i = j) && x.testBit j) := by
  have h255 : (255 : Nat).testBit j = true := by
    rw [show (255 : Nat) = 2 ^ 8 - 1 by rfl, Nat.testBit_two_pow_sub_one]; simpa using hj
  rw [Nat.one_shiftLeft, Nat.testBit_and, Nat.testBit_xor, Nat.testBit_two_pow, h255, Bool.and_comm]
  cases decide (i = j) <;> simp

theorem testBitB_set (bs : Bytes) (i v j : Nat) (hi : i < bs.length) :
    testBitB (bs.set i v) j = if j / 8 = i then v.testBit (j % 8) else testBitB bs j := by
  rw [testBitB_eq, testBitB_eq]
  split
  · rename_i h; rw [h, getD_set_eq hi]
  · rename_i h; rw [getD_set_ne (fun e => h e.symm)]

theorem testBitB_setBitB (bs : Bytes) (k j : Nat) (hk : k / 8 < bs.length) :
    testBitB (setBitB bs k) j = (decide (j = k) || testBitB bs j) := by
  rw [setBitB, testBitB_set _ _ _ _ hk]
  split
  · rename_i hb
    rw [byte_or_testBit, testBitB_eq, hb]
    congr 1
    exact decide_eq_decide.mpr ⟨fun hm => index_eq_of_split hb hm.symm, fun h => by rw [h]⟩
  · rename_i hb
    rw [decide_eq_false (fun e => hb (by rw [e])), Bool.false_or]

theorem testBitB_clearBitB (bs : Bytes) (k j : Nat) (hk : k / 8 < bs.length) :
    testBitB (clearBitB bs k) j = (!decide (j = k) && testBitB bs j) := by
  rw [clearBitB, testBitB_set _ _ _ _ hk]
  split
  · rename_i hb
    rw [byte_clear_testBit _ _ _ (Nat.mod_lt j (by decide)), testBitB_eq, hb]
    congr 2
    exact decide_eq_decide.mpr ⟨fun hm => index_eq_of_split hb hm.symm, fun h => by rw [h]⟩
  · rename_i hb
    rw [decide_eq_false (fun e => hb (by rw [e])), Bool.not_false, Bool.true_and]

theorem testBitB_replicate_zero (n k : Nat) : testBitB (List.replicate n 0) k = false := by
  simp only [testBitB_eq, List.getD_eq_getElem?_getD, List.getElem?_replicate]
  split <;> simp

theorem index_in_range {k m : Nat} (h : k < m) : k / 8 < (m + 7) / 8 := by
  obtain ⟨n, rfl⟩ : ∃ n, m = n + 1 := ⟨m - 1, (Nat.sub_add_cancel (Nat.lt_of_le_of_lt (Nat.zero_le k) h)).symm⟩
  show k / 8 < (n + 8) / 8
  rw [Nat.add_div_right n (by decide)]
  exact Nat.lt_succ_of_le (Nat.div_le_div_right (Nat.le_of_lt_succ h))

/-- reading a byte array out of range gives 0, so every read is a byte -/
theorem getD_lt (l : Bytes) (h : ∀ x ∈ l, x < 256) (i : Nat) : l.getD i 0 < 2 ^ 8 :=
  getD_of_forall_mem h (Nat.two_pow_pos 8) i

/-- setting a bit ORs `2 ^ (k % 8) < 2 ^ 8` into one byte, so bytes stay bytes -/
theorem setBitB_byte_lt (bs : Bytes) (k : Nat) (h : ∀ x ∈ bs, x < 256) : ∀ x ∈ setBitB bs k, x < 256 := by
  intro x hx
  rcases List.mem_or_eq_of_mem_set hx with hx | rfl
  · exact h x hx
  · exact Nat.or_lt_two_pow (getD_lt bs h _)
      (by rw [Nat.one_shiftLeft]; exact Nat.pow_lt_pow_right (by decide) (Nat.mod_lt _ (by decide)))

end PyProb
