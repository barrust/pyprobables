/-
  Helper lemmas for C16 (saturating counters), counting-Bloom half: cells stay valid `uint32`
  values under the store loops of `CBF.add_alt` / `CBF.remove_alt`; what `remove_alt` does to a
  cell at the limit.
-/
import PyProb.Lemmas.CbfCore

namespace PyProb.Saturation
open PyProb

def CellsOK (cells : List Int) : Prop := ∀ x ∈ cells, 0 ≤ x ∧ x ≤ Gen.uint32Max

theorem CellsOK.getD {cells : List Int} (h : CellsOK cells) (k : Nat) :
    0 ≤ cells.getD k 0 ∧ cells.getD k 0 ≤ Gen.uint32Max :=
  getD_of_forall_mem h ⟨Int.le_refl 0, by decide⟩ k

theorem CellsOK.set {cells : List Int} (h : CellsOK cells) (k : Nat) (v : Int)
    (h0 : 0 ≤ v) (h1 : v ≤ Gen.uint32Max) : CellsOK (cells.set k v) := by
  intro x hx
  rcases List.mem_or_eq_of_mem_set hx with e | e
  · exact h x e
  · subst e; exact ⟨h0, h1⟩

theorem CellsOK.replicate (m : Nat) : CellsOK (List.replicate m 0) := by
  intro x hx
  have := (List.mem_replicate.1 hx).2
  subst this; simp [Gen.uint32Max]

theorem clampCell_range (v : Int) (h : 0 ≤ v) :
    0 ≤ CBF.clampCell v ∧ CBF.clampCell v ≤ Gen.uint32Max ∧
      CBF.clampCell v = min Gen.uint32Max v := by
  rw [Cbf.clampCell_eq_min]
  exact ⟨Int.le_min.2 ⟨by decide, h⟩, Int.min_le_left _ _, rfl⟩

theorem CellsOK.bump {cells : List Int} (h : CellsOK cells) {n : Int} (hn : 0 ≤ n) (idx : List Nat) :
    CellsOK (Cbf.bumpWith (fun v => CBF.clampCell (v + n)) cells idx) := by
  apply Cbf.forall_mem_of_forall_getD
  intro j hj
  have hx := h.getD j
  have hc := Int.mul_nonneg (Int.natCast_nonneg (idx.count j)) hn
  rw [Cbf.getD_bumpWith _ _ _ _ (by simpa using hj), Cbf.repeat_clampAdd hn _ hx.2]
  omega

/-- what every store of the decrement loop keeps, the loop keeps, also when it stops half-way -/
theorem cbf_removeLoop_inv (P : List Int → Prop) (r : Int)
    (hset : ∀ cells k, P cells → cells.getD k 0 < Gen.uint32Max → 0 ≤ cells.getD k 0 - r →
      P (cells.set k (cells.getD k 0 - r)))
    (idx : List Nat) (cells : List Int) (h : P cells) : P (CBF.removeLoop r cells idx).1 := by
  induction idx generalizing cells with
  | nil => exact h
  | cons x t ih =>
      simp only [CBF.removeLoop]
      split
      · rename_i hlt
        split
        · exact h
        · rename_i hge
          exact ih _ (hset cells x h hlt (Int.not_lt.mp hge))
      · exact ih _ h

theorem cbf_removeLoop_length (r : Int) (idx : List Nat) (cells : List Int) :
    (CBF.removeLoop r cells idx).1.length = cells.length :=
  cbf_removeLoop_inv (fun cs => cs.length = cells.length) r
    (fun cs k h _ _ => by rw [List.length_set]; exact h) idx cells rfl

theorem cbf_removeLoop_frozen (r : Int) (idx : List Nat) (cells : List Int) (j : Nat)
    (hj : cells[j]? = some Gen.uint32Max) :
    (CBF.removeLoop r cells idx).1[j]? = some Gen.uint32Max := by
  apply cbf_removeLoop_inv (fun cs => cs[j]? = some Gen.uint32Max) r _ idx cells hj
  intro cs k h hlt _
  rw [List.getElem?_set]
  split
  · rename_i e
    rw [e, List.getD_eq_getElem?_getD, h, Option.getD_some] at hlt
    exact absurd hlt (Int.lt_irrefl _)
  · exact h

theorem cbf_removeLoop_ok (r : Int) (hr : 0 ≤ r) (idx : List Nat) (cells : List Int)
    (h : CellsOK cells) : CellsOK (CBF.removeLoop r cells idx).1 :=
  cbf_removeLoop_inv CellsOK r
    (fun cs k h _ hge => h.set k _ hge (by have := (h.getD k).2; omega)) idx cells h

theorem cbf_removeAlt_cases (c : CBF) (hs : List Nat) (n : Int) :
    (c.removeAlt hs n).1 = c ∨
    ∃ r, (0 ≤ n → CellsOK c.cells → 0 ≤ r) ∧
      (c.removeAlt hs n).1.cells = (CBF.removeLoop r c.cells (Counters.touched c hs)).1 ∧
      (c.removeAlt hs n).1.m = c.m ∧ (c.removeAlt hs n).1.k = c.k := by
  rw [Counters.cbf_removeAlt_eq]
  by_cases hk : hs.length < c.k
  · rw [if_pos hk]
    exact Or.inl rfl
  by_cases hne : Counters.touched c hs = []
  · rw [if_neg hk, if_pos hne]
    exact Or.inl rfl
  by_cases h1 : Counters.touchedMin c hs = Gen.uint32Max
  · rw [if_neg hk, if_neg hne, if_pos h1]
    exact Or.inl rfl
  by_cases h2 : Counters.touchedMin c hs = 0
  · rw [if_neg hk, if_neg hne, if_neg h1, if_pos h2]
    exact Or.inl rfl
  rw [if_neg hk, if_neg hne, if_neg h1, if_neg h2]
  refine Or.inr ⟨min n (Counters.touchedMin c hs), fun hn hok => Int.le_min.2 ⟨hn, ?_⟩, ?_⟩
  · -- every touched cell is a cell, hence non-negative on a well-formed filter
    apply Cbf.le_minList (fun e => hne (List.map_eq_nil_iff.1 e))
    intro x hx
    obtain ⟨k, _, e⟩ := List.mem_map.1 hx
    rw [← e]
    exact (hok.getD k).1
  · generalize CBF.removeLoop _ c.cells _ = res
    obtain ⟨cells, _ | e⟩ := res
    · exact ⟨rfl, rfl, rfl⟩
    · exact ⟨rfl, rfl, rfl⟩

theorem cbf_removeAlt_at_limit (c : CBF) (hs : List Nat) (n : Int) (hl : c.k ≤ hs.length)
    (hne : Counters.touched c hs ≠ [])
    (hmin : CBF.minList ((Counters.touched c hs).map fun k => c.cells.getD k 0) = Gen.uint32Max) :
    c.removeAlt hs n = (c, .ok Gen.uint32Max) := by
  rw [Counters.cbf_removeAlt_eq, if_neg (Nat.not_lt.mpr hl),
    if_neg (show Counters.touched c hs ≠ [] from hne),
    if_pos (show Counters.touchedMin c hs = Gen.uint32Max from hmin)]

end PyProb.Saturation
