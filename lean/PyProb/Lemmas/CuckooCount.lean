/-
  The counter invariant `CountInv` (`_inserted_elements` is the sum of the stored counts,
  `__unique_elements` the number of bins) for the fresh filter, `_expand_logic`, the exchange of one
  stored bin and `load`.  Core Lean only.  Used by `PyProb/Properties/C14.lean`.
-/
import PyProb.Lemmas.CuckooCore

namespace PyProb.Cuckoo

theorem tsum_wOne (c : Cuckoo) : tsum wOne c = c.buckets.flatten.length := by
  rw [tsum_eq_flatten, bsum_wOne]

theorem tsum_wCnt (c : Cuckoo) : tsum wCnt c = (c.buckets.flatten.map (·.2)).sum := by
  rw [tsum_eq_flatten]; rfl

theorem bsum_wCnt_of_ones (l : List CBin) (h : ∀ bin ∈ l, bin.2 = 1) : bsum wCnt l = l.length := by
  rw [← bsum_wOne]; exact bsum_congr _ _ _ h

theorem CountInv_new (counting : Bool) (cap b maxSwaps rate : Nat) (auto : Bool) (fpBits : Nat) :
    CountInv (Cuckoo.new counting cap b maxSwaps rate auto fpBits) :=
  CountInv_of_empty cap rfl rfl rfl

theorem expandLogic_countInv {G : Nat → Nat} {c : Cuckoo} (extra : Option CBin) (o : List Nat)
    (hs : TS G c) (hr : 0 < c.rate) (hc : CountInv c) : CountInv (expandLogic G c extra o).1 := by
  rcases expandLogic_spec extra o hs hr with ⟨_, _, _, _, _, hci⟩ | ⟨_, hsame⟩
  · exact hci
  · rw [hsame]; exact hc

theorem expandLogic_countInv_of_ok {G : Nat → Nat} {c : Cuckoo} (extra : Option CBin) (o : List Nat)
    (hs : TS G c) (hr : 0 < c.rate) (hok : (expandLogic G c extra o).2.1 = none) :
    CountInv (expandLogic G c extra o).1 := by
  rcases expandLogic_spec extra o hs hr with ⟨_, _, _, _, _, hci⟩ | ⟨he, _⟩
  · exact hci
  · rw [hok] at he; cases he

/-- the shape of what `add` and `remove` do to a stored fingerprint: bin `a` out, `a'` (or nothing) in -/
theorem CountInv_exchange {c c' : Cuckoo} {a : CBin} {a' : Option CBin} (hc : CountInv c)
    (ht : ∀ f, tsum f c' + f a = tsum f c + optW f a') (hcnt : c'.counting = c.counting)
    (e1 : c'.count + (a.2 : Int) = c.count + (optW wCnt a' : Int))
    (e2 : c.counting = true → c'.unique + 1 = c.unique + (optW wOne a' : Int))
    (e3 : c.counting = false → c'.unique = c.unique) : CountInv c' := by
  obtain ⟨h1, h2, h3⟩ := hc
  have g1 : tsum wCnt c' + a.2 = tsum wCnt c + optW wCnt a' := ht wCnt
  have g2 : tsum wOne c' + 1 = tsum wOne c + optW wOne a' := ht wOne
  refine ⟨by omega, fun hf => ?_, fun hf => ?_⟩
  · rw [hcnt] at hf
    have := h2 hf
    have := e2 hf
    omega
  · rw [hcnt] at hf
    rw [e3 hf]; exact h3 hf

theorem load_countInv (template : Cuckoo) (file : Bytes) (c : Cuckoo) (h : load template file = .ok c) :
    CountInv c := by
  unfold load at h
  by_cases h1 : file.length < Gen.cuckooFooter.size
  · rw [if_pos h1] at h; cases h
  · rw [if_neg h1] at h
    split at h
    · cases h
    · rename_i b swaps _
      by_cases h2 : (b.toNat == 0) = true
      · rw [if_pos h2] at h; cases h
      · rw [if_neg h2] at h
        cases h
        refine ⟨rfl, fun hcount => ?_, fun hcount => ?_⟩
        · show (if template.counting = true then _ else _) = _
          rw [if_pos hcount, tsum_wOne, List.length_flatten]
        · show (if template.counting = true then _ else _) = _
          rw [if_neg (by rw [hcount]; decide)]
    · cases h

end PyProb.Cuckoo
