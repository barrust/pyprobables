/-
  Expanding Bloom filter, C09 joined with C05: the growth law of C09 continues to hold when the
  filter is exported and loaded in the middle of a history.

  C09 states its theorems from any state with the invariant and the shape (`…_from`,
  `C09_reload`); C05 proves `load (export e) = e` for every state with uniform sub-filters
  (`SubsOK`) and a non-empty queue.  Every state reachable by a C09 history from `new` has uniform
  sub-filters and a non-empty queue (`expanding_run_subs`), so the two apply to histories
  `ops₁ ++ [export; load] ++ ops₂`.

  Hypotheses: `GeomStable geom est fpr32 k m` (the loader re-derives the geometry from
  the footer with the float parameter function `geom`; the same hypothesis as in C05) and "the
  export succeeded" (64-bit range of the counters, as in C05).
-/
import PyProb.Properties.C05_bloom
import PyProb.Properties.C09

namespace PyProb.Corollaries
open PyProb PyProb.Expanding

theorem expanding_step_subs (e : Expanding) (op : C09.Op) (hne : e.blooms ≠ [])
    (hsubs : C05.SubsOK e) : (C09.step e op).blooms ≠ [] ∧ C05.SubsOK (C09.step e op) := by
  cases op with
  | add p hs f =>
      have h := expanding_addCore_ok e p hs f hsubs hne
      exact ⟨h.2, h.1⟩
  | push =>
      exact ⟨List.append_ne_nil_of_right_ne_nil _ (List.cons_ne_nil _ _), C05.C05_expanding_push_subs e hsubs⟩

theorem expanding_run_subs (e : Expanding) (ops : List C09.Op) (hne : e.blooms ≠ [])
    (hsubs : C05.SubsOK e) : (C09.run e ops).blooms ≠ [] ∧ C05.SubsOK (C09.run e ops) :=
  foldl_invariant C09.step (fun s => s.blooms ≠ [] ∧ C05.SubsOK s) ops e ⟨hne, hsubs⟩
    (fun s hs op _ => expanding_step_subs s op hs.1 hs.2)

theorem expanding_new_subs (est fpr32 k m : Nat) :
    (Expanding.new est fpr32 k m).blooms ≠ [] ∧ C05.SubsOK (Expanding.new est fpr32 k m) := by
  refine ⟨by simp [Expanding.new], ?_⟩
  intro b hb
  simp only [Expanding.new, List.mem_singleton] at hb
  subst hb; simp [Bloom.new, Expanding.new]

theorem effCount_append (ops₁ ops₂ : List C09.Op) :
    C09.effCount (ops₁ ++ ops₂) = C09.effCount ops₁ + C09.effCount ops₂ := by
  simp [C09.effCount, List.countP_append]

theorem addCount_append (ops₁ ops₂ : List C09.Op) :
    C09.addCount (ops₁ ++ ops₂) = C09.addCount ops₁ + C09.addCount ops₂ := by
  simp [C09.addCount, List.countP_append]

theorem expanding_reload_state (geom : Geom) (est fpr32 k m : Nat)
    (hg : C05.GeomStable geom est fpr32 k m) (ops : List C09.Op) (bytes : Bytes)
    (hexp : (C09.run (Expanding.new est fpr32 k m) ops).exportBytes = .ok bytes) :
    Expanding.load geom bytes = .ok (C09.run (Expanding.new est fpr32 k m) ops) := by
  obtain ⟨hne0, hs0⟩ := expanding_new_subs est fpr32 k m
  obtain ⟨hne, hs⟩ := expanding_run_subs _ ops hne0 hs0
  obtain ⟨a, b, c, d⟩ := C09.run_static (Expanding.new est fpr32 k m) ops
  apply C05.C05_expanding_roundtrip geom _ bytes hne hs _ hexp
  rw [a, b, c, d]; exact hg

/-- `ops₁` and `ops₂` are `push`-free; after `ops₁` the filter is exported and the bytes are loaded
    into `e'`.  Then `e'` satisfies the C09 invariant and has the shape of `effCount ops₁`
    insertions, and after `ops₂` state, bound, per-filter counts, `expansions` and `elements_added`
    are those of the uninterrupted history `ops₁ ++ ops₂`. -/
theorem expanding_reload_growth (geom : Geom) (est fpr32 k m : Nat) (h1 : 1 ≤ est)
    (hg : C05.GeomStable geom est fpr32 k m) (ops₁ ops₂ : List C09.Op)
    (hok₁ : ∀ op ∈ ops₁, op.ok k) (hadds₁ : ∀ op ∈ ops₁, op.isAdd = true)
    (hok₂ : ∀ op ∈ ops₂, op.ok k) (hadds₂ : ∀ op ∈ ops₂, op.isAdd = true)
    (bytes : Bytes)
    (hexp : (C09.run (Expanding.new est fpr32 k m) ops₁).exportBytes = .ok bytes)
    (e' : Expanding) (hload : Expanding.load geom bytes = .ok e') :
    e'.Inv ∧ e'.Shape (C09.effCount ops₁) ∧ e'.est = est ∧ e'.k = k ∧
    C09.run e' ops₂ = C09.run (Expanding.new est fpr32 k m) (ops₁ ++ ops₂) ∧
    (∀ b ∈ (C09.run e' ops₂).blooms, 0 ≤ b.count ∧ b.count ≤ est) ∧
    (C09.run e' ops₂).Shape (C09.effCount ops₁ + C09.effCount ops₂) ∧
    (C09.run e' ops₂).expansions =
      ((if C09.effCount ops₁ + C09.effCount ops₂ = 0 then 0
        else (C09.effCount ops₁ + C09.effCount ops₂ - 1) / est : Nat) : Int) ∧
    (C09.run e' ops₂).added = (C09.addCount ops₁ + C09.addCount ops₂ : Nat) := by
  rw [expanding_reload_state geom est fpr32 k m hg ops₁ bytes hexp] at hload
  injection hload with hload
  subst hload
  obtain ⟨a, b, _, _⟩ := C09.run_static (Expanding.new est fpr32 k m) ops₁
  have hi0 := C09.C09_inv_new est fpr32 k m h1
  have hi : (C09.run (Expanding.new est fpr32 k m) ops₁).Inv := C09.C09_inv_run _ ops₁ hok₁ hi0
  have hs : (C09.run (Expanding.new est fpr32 k m) ops₁).Shape (C09.effCount ops₁) := by
    have := C09.C09_shape_from (Expanding.new est fpr32 k m) 0 ops₁ hok₁ hadds₁ hi0
      (shape_new est fpr32 k m)
    rwa [Nat.zero_add] at this
  have hok₂' : ∀ op ∈ ops₂, op.ok (C09.run (Expanding.new est fpr32 k m) ops₁).k := by
    rw [b]; exact hok₂
  obtain ⟨r1, r2, r3, r4⟩ := C09.C09_reload _ (C09.effCount ops₁) ops₂ hok₂' hadds₂ hi hs
  rw [a] at r1 r3
  refine ⟨hi, hs, a, b, (C09.run_append _ ops₁ ops₂).symm, r1, r2, r3, ?_⟩
  rw [r4, C09.C09_counted]
  simp only [Expanding.new, Int.zero_add, Int.natCast_add]

/-- with `push` anywhere in the two parts only the bound survives (as in C09), and it does so
    across the reload -/
theorem expanding_reload_bound (geom : Geom) (est fpr32 k m : Nat) (h1 : 1 ≤ est)
    (hg : C05.GeomStable geom est fpr32 k m) (ops₁ ops₂ : List C09.Op)
    (hok₁ : ∀ op ∈ ops₁, op.ok k) (hok₂ : ∀ op ∈ ops₂, op.ok k) (bytes : Bytes)
    (hexp : (C09.run (Expanding.new est fpr32 k m) ops₁).exportBytes = .ok bytes)
    (e' : Expanding) (hload : Expanding.load geom bytes = .ok e') :
    C09.run e' ops₂ = C09.run (Expanding.new est fpr32 k m) (ops₁ ++ ops₂) ∧
    (C09.run e' ops₂).blooms ≠ [] ∧
    ∀ b ∈ (C09.run e' ops₂).blooms, 0 ≤ b.count ∧ b.count ≤ est := by
  rw [expanding_reload_state geom est fpr32 k m hg ops₁ bytes hexp] at hload
  injection hload with hload
  subst hload
  have hok : ∀ op ∈ ops₁ ++ ops₂, op.ok k :=
    fun op hop => (List.mem_append.mp hop).elim (hok₁ op) (hok₂ op)
  rw [← C09.run_append]
  exact ⟨rfl, C09.C09_nonempty est fpr32 k m h1 _ hok, C09.C09_bound est fpr32 k m h1 _ hok⟩

theorem expanding_reload_api (geom : Geom) (est fpr32 k m : Nat) (h1 : 1 ≤ est)
    (hg : C05.GeomStable geom est fpr32 k m) (aops₁ aops₂ : List C09.AOp)
    (hok₁ : ∀ a ∈ aops₁, a.ok k) (bytes : Bytes)
    (hexp : (C09.runA (Expanding.new est fpr32 k m) aops₁).exportBytes = .ok bytes)
    (e' : Expanding) (hload : Expanding.load geom bytes = .ok e') :
    e' = C09.runA (Expanding.new est fpr32 k m) aops₁ ∧
    C09.runA e' aops₂ = C09.runA (Expanding.new est fpr32 k m) (aops₁ ++ aops₂) := by
  obtain ⟨ops, _, _, hrun⟩ := C09.C09_api (Expanding.new est fpr32 k m) aops₁ hok₁
    (C09.C09_inv_new est fpr32 k m h1)
  rw [hrun] at hexp
  rw [expanding_reload_state geom est fpr32 k m hg ops bytes hexp] at hload
  injection hload with hload
  subst hload
  refine ⟨hrun.symm, ?_⟩
  rw [← hrun]
  simp [C09.runA, List.foldl_append]

private def g16 : Geom := fun _ f => .ok (f, 2, 16)

example :
    let e₁ := C09.run (Expanding.new 2 0 2 16) (C09.sampleOps.take 4)
    ∃ bytes e', e₁.exportBytes = .ok bytes ∧ Expanding.load g16 bytes = .ok e' ∧
      e'.blooms.map (·.count) = [2, 1] ∧
      (C09.run e' (C09.sampleOps.drop 4)).blooms.map (·.count) = [2, 2, 2] ∧
      (C09.run e' (C09.sampleOps.drop 4)).expansions = 2 := by
  refine ⟨_, _, rfl, rfl, ?_⟩
  decide

example := expanding_reload_growth g16 2 0 2 16 (by decide) rfl (C09.sampleOps.take 4)
  (C09.sampleOps.drop 4) (by decide) (by decide) (by decide) (by decide) _ rfl _ rfl

end PyProb.Corollaries
