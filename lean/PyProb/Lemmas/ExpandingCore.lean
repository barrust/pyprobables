/-
  One step of the expanding Bloom filter model (`Model/Expanding.lean`, structure `Expanding`).
  An effective `addCore` is `grow` followed by an insertion into the newest sub-filter
  (`addToLast`), so each invariant (`Expanding.Inv`, `Expanding.Geo`, `Expanding.Shape`) is shown to
  survive these two.  `Shape` advances with the number of effective insertions; histories follow it
  with `foldl_invariant_count` (`Lemmas/Histories.lean`).

  The predicates: `Bloom.GeoOK m` fixes one sub-filter's `m` and byte length (with `0 < m` it gives
  `Bloom.WF`); `Expanding.Geo` is `GeoOK` of every sub-filter, `Expanding.Inv` the bounds on their
  counts and their `k`, `Expanding.Shape` the exact counts.  `GoodBlooms`/`Expanding.WF`
  (`Lemmas/ExpandingOps.lean`) is the membership-side invariant: non-empty, `Bloom.WF`, same `k`, `m`.
-/
import PyProb.Lemmas.GuardCanon
import PyProb.Model.Expanding
import PyProb.Lemmas.BloomOps
import PyProb.Lemmas.Histories

namespace PyProb

/-- what the growth guard taken from the repository (`Generated/Repo.lean`) computes -/
theorem expGrow_eval (a b : Int) : Gen.expGrowCmp.evalInt a b = decide (a ≥ b) := rfl

def Bloom.GeoOK (m : Nat) (b : Bloom) : Prop := b.m = m ∧ b.bits.length = (m + 7) / 8

theorem Bloom.geoOK_new (est fpr32 k m : Nat) : (Bloom.new est fpr32 k m).GeoOK m := by
  simp [Bloom.GeoOK, Bloom.new, Bloom.lengthOf_eq]

theorem Bloom.geoOK_addAlt (m : Nat) (b : Bloom) (hs : List Nat) (h : b.GeoOK m) :
    (b.addAlt hs).1.GeoOK m := by
  refine ⟨by rw [Bloom.addAlt_m]; exact h.1, ?_⟩
  rw [Bloom.addAlt_bits, foldl_setBitB_length]; exact h.2

theorem Bloom.GeoOK.wf {m : Nat} {b : Bloom} (hg : b.GeoOK m) (hm : 0 < m) : b.WF := by
  obtain ⟨rfl, h2⟩ := hg
  exact ⟨h2, hm⟩

/-- `b'` is `b0` after zero or more further insertions (nothing else happened to it) -/
def Bloom.Ext (b0 b' : Bloom) : Prop :=
  ∃ hss : List (List Nat), b' = hss.foldl (fun b h => (b.addAlt h).1) b0

theorem Bloom.ext_iff (b0 b' : Bloom) : Bloom.Ext b0 b' ↔ ∃ hss, b' = b0.runAdds hss := Iff.rfl

theorem Bloom.Ext.refl (b : Bloom) : Bloom.Ext b b := ⟨[], rfl⟩

theorem Bloom.Ext.step {b0 b' : Bloom} (h : Bloom.Ext b0 b') (hs : List Nat) :
    Bloom.Ext b0 (b'.addAlt hs).1 := by
  obtain ⟨hss, rfl⟩ := (Bloom.ext_iff b0 b').mp h
  exact ⟨hss ++ [hs], by rw [← Bloom.runAdds, Bloom.runAdds_append]; rfl⟩

theorem Bloom.Ext.check {b0 b' : Bloom} (h : Bloom.Ext b0 b') (hw : b0.WF) (hs : List Nat)
    (hc : b0.checkAlt hs = .ok true) : b'.checkAlt hs = .ok true := by
  obtain ⟨hss, rfl⟩ := h
  exact Bloom.checkAlt_runAdds_mono hss b0 hw hs hc

theorem Bloom.Ext.k {b0 b' : Bloom} (h : Bloom.Ext b0 b') : b'.k = b0.k := by
  obtain ⟨hss, rfl⟩ := (Bloom.ext_iff b0 b').mp h
  exact (Bloom.runAdds_spec hss b0).1

namespace Expanding

theorem checkGo_spec (hs : List Nat) (bs : List Bloom) (hk : ∀ b ∈ bs, b.k ≤ hs.length) :
    ∃ p, checkGo hs bs = .ok p ∧ ((∃ b ∈ bs, b.checkAlt hs = .ok true) → p = true) := by
  induction bs with
  | nil => exact ⟨false, rfl, fun ⟨_, hb, _⟩ => absurd hb List.not_mem_nil⟩
  | cons b bs ih =>
      obtain ⟨p, hp, hpt⟩ := ih (fun c hc => hk c (List.mem_cons_of_mem _ hc))
      have hb : b.checkAlt hs = _ := Bloom.checkGo_ok _ _ _ _ (hk b List.mem_cons_self)
      unfold checkGo
      rw [hb]
      cases hall : (hs.take b.k).all fun h => testBitB b.bits (h % b.m)
      · refine ⟨p, hp, fun ⟨c, hc, hcc⟩ => hpt ?_⟩
        rcases List.mem_cons.mp hc with rfl | hm
        · rw [hb, hall] at hcc
          cases hcc
        · exact ⟨c, hm, hcc⟩
      · exact ⟨true, rfl, fun _ => rfl⟩

theorem checkGo_total (hs : List Nat) (bs : List Bloom) (hk : ∀ b ∈ bs, b.k ≤ hs.length) :
    ∃ p, checkGo hs bs = .ok p :=
  (checkGo_spec hs bs hk).imp fun _ h => h.1

theorem checkGo_true_of_mem (hs : List Nat) (bs : List Bloom) (hk : ∀ b ∈ bs, b.k ≤ hs.length)
    (b : Bloom) (hb : b ∈ bs) (h : b.checkAlt hs = .ok true) : Expanding.checkGo hs bs = .ok true := by
  obtain ⟨p, hp, hpt⟩ := Expanding.checkGo_spec hs bs hk
  rw [hp, hpt ⟨b, hb, h⟩]

theorem checkGo_true_mem (hs : List Nat) (bs : List Bloom) (h : checkGo hs bs = .ok true) :
    ∃ b ∈ bs, b.checkAlt hs = .ok true := by
  induction bs with
  | nil => cases h
  | cons b bs ih =>
      unfold checkGo at h
      split at h
      · cases h
      · exact ⟨b, List.mem_cons_self, by assumption⟩
      · obtain ⟨c, hc, hcc⟩ := ih h
        exact ⟨c, List.mem_cons_of_mem _ hc, hcc⟩

theorem addToLast_concat (init : List Bloom) (z : Bloom) (hs : List Nat) :
    addToLast (init ++ [z]) hs = (init ++ [(z.addAlt hs).1], (z.addAlt hs).2) := by
  simp [addToLast]

theorem addToLast_ne_nil (bs : List Bloom) (hs : List Nat) (hne : bs ≠ []) : (addToLast bs hs).1 ≠ [] := by
  obtain ⟨init, z, rfl⟩ := exists_concat bs hne
  rw [addToLast_concat]
  exact List.append_ne_nil_of_right_ne_nil _ (List.cons_ne_nil _ _)

theorem fresh_count (e : Expanding) : e.fresh.count = 0 := rfl
theorem fresh_k (e : Expanding) : e.fresh.k = e.k := rfl
theorem fresh_geo (e : Expanding) : e.fresh.GeoOK e.m := Bloom.geoOK_new _ _ _ _

/-- the property may be weakened from `P` to `Q` by the insertion -/
theorem addToLast_forall (P Q : Bloom → Prop) (bs : List Bloom) (hs : List Nat)
    (hPQ : ∀ b, P b → Q b) (hadd : ∀ b, P b → Q (b.addAlt hs).1) (h : ∀ b ∈ bs, P b) :
    ∀ b ∈ (addToLast bs hs).1, Q b := by
  intro b hb
  rcases List.eq_nil_or_concat bs with rfl | ⟨init, z, rfl⟩
  · exact hPQ b (h b hb)
  · rw [List.concat_eq_append] at h hb
    rw [addToLast_concat] at hb
    rcases List.mem_append.mp hb with hm | hm
    · exact hPQ b (h b (List.mem_append_left _ hm))
    · rw [List.mem_singleton.mp hm]
      exact hadd z (h z (by simp))

theorem grow_static (e : Expanding) :
    e.grow.est = e.est ∧ e.grow.fpr32 = e.fpr32 ∧ e.grow.k = e.k ∧ e.grow.m = e.m ∧
    e.grow.added = e.added := by
  unfold grow
  split
  · exact ⟨rfl, rfl, rfl, rfl, rfl⟩
  · split <;> exact ⟨rfl, rfl, rfl, rfl, rfl⟩

theorem grow_blooms_eq (e : Expanding) (init : List Bloom) (z : Bloom) (hb : e.blooms = init ++ [z]) :
    e.grow.blooms = if (e.est : Int) ≤ z.count then e.blooms ++ [e.fresh] else e.blooms := by
  unfold grow
  simp only [hb, List.getLast?_concat, expGrow_eval, ge_iff_le, decide_eq_true_eq]
  split
  · rfl
  · exact hb

theorem grow_ne_nil (e : Expanding) (hne : e.blooms ≠ []) : e.grow.blooms ≠ [] := by
  obtain ⟨init, z, hb⟩ := exists_concat e.blooms hne
  rw [grow_blooms_eq e init z hb]
  split
  · exact List.append_ne_nil_of_right_ne_nil _ (List.cons_ne_nil _ _)
  · exact hne

theorem grow_mem (e : Expanding) : ∀ b ∈ e.grow.blooms, b ∈ e.blooms ∨ b = e.fresh := by
  intro b hb
  unfold grow at hb
  split at hb
  · exact Or.inl hb
  · split at hb
    · exact (List.mem_append.mp hb).imp_right List.mem_singleton.mp
    · exact Or.inl hb

theorem addCore_static (e : Expanding) (p : Bool) (hs : List Nat) (f : Bool) :
    (e.addCore p hs f).1.est = e.est ∧ (e.addCore p hs f).1.fpr32 = e.fpr32 ∧
    (e.addCore p hs f).1.k = e.k ∧ (e.addCore p hs f).1.m = e.m ∧
    (e.addCore p hs f).1.added = e.added + 1 := by
  simp only [addCore]
  split
  · exact grow_static { e with added := e.added + 1 }
  · exact ⟨rfl, rfl, rfl, rfl, rfl⟩

theorem addCore_noeff (e : Expanding) (p : Bool) (hs : List Nat) (f : Bool)
    (h : (f || !p) = false) :
    (e.addCore p hs f).1.blooms = e.blooms ∧ (e.addCore p hs f).2 = none := by
  simp [addCore, h]

theorem addCore_eff (e : Expanding) (p : Bool) (hs : List Nat) (f : Bool) (h : (f || !p) = true) :
    (e.addCore p hs f).1.blooms = (addToLast ({ e with added := e.added + 1 } : Expanding).grow.blooms hs).1 ∧
    (e.addCore p hs f).2 = (addToLast ({ e with added := e.added + 1 } : Expanding).grow.blooms hs).2 := by
  constructor <;> simp only [addCore, h, if_true]

theorem addCore_blooms_eff (e : Expanding) (init : List Bloom) (z : Bloom)
    (p : Bool) (hs : List Nat) (f : Bool)
    (hb : e.blooms = init ++ [z]) (h : (f || !p) = true) :
    (e.addCore p hs f).1.blooms =
      if (e.est : Int) ≤ z.count then init ++ [z] ++ [(e.fresh.addAlt hs).1]
      else init ++ [(z.addAlt hs).1] := by
  rw [(addCore_eff e p hs f h).1, grow_blooms_eq { e with added := e.added + 1 } init z hb]
  show (addToLast (if (e.est : Int) ≤ z.count then e.blooms ++ [e.fresh] else e.blooms) hs).1 = _
  rw [hb]
  split <;> rw [addToLast_concat]

theorem addCore_ne_nil (e : Expanding) (p : Bool) (hs : List Nat) (f : Bool) (hne : e.blooms ≠ []) :
    (e.addCore p hs f).1.blooms ≠ [] := by
  cases hf : (f || !p)
  · rw [(addCore_noeff e p hs f hf).1]
    exact hne
  · rw [(addCore_eff e p hs f hf).1]
    exact addToLast_ne_nil _ hs (grow_ne_nil { e with added := e.added + 1 } hne)

/-- `P` must also hold of a fresh sub-filter -/
theorem addCore_forall₂ (P Q : Bloom → Prop) (e : Expanding) (p : Bool) (hs : List Nat) (f : Bool)
    (hPQ : ∀ b, P b → Q b) (hadd : ∀ b, P b → Q (b.addAlt hs).1) (hfresh : P e.fresh)
    (h : ∀ b ∈ e.blooms, P b) : ∀ b ∈ (e.addCore p hs f).1.blooms, Q b := by
  intro b hb
  cases hf : (f || !p)
  · rw [(addCore_noeff e p hs f hf).1] at hb
    exact hPQ b (h b hb)
  · rw [(addCore_eff e p hs f hf).1] at hb
    exact addToLast_forall P Q _ hs hPQ hadd
      (fun z hz => (grow_mem { e with added := e.added + 1 } z hz).elim (h z) (fun hz => hz ▸ hfresh)) b hb

theorem push_forall (P : Bloom → Prop) (e : Expanding) (hfresh : P e.fresh)
    (h : ∀ b ∈ e.blooms, P b) : ∀ b ∈ e.push.blooms, P b := by
  intro b hm
  rcases List.mem_append.mp hm with hm | hm
  · exact h b hm
  · rw [List.mem_singleton.mp hm]; exact hfresh

def Inv (e : Expanding) : Prop :=
  1 ≤ e.est ∧ e.blooms ≠ [] ∧ ∀ b ∈ e.blooms, 0 ≤ b.count ∧ b.count ≤ e.est ∧ b.k = e.k

/-- geometry invariant (only needed for statements about membership) -/
def Geo (e : Expanding) : Prop := 0 < e.m ∧ ∀ b ∈ e.blooms, b.GeoOK e.m

theorem inv_new (est fpr32 k m : Nat) (h : 1 ≤ est) : (Expanding.new est fpr32 k m).Inv := by
  refine ⟨h, List.cons_ne_nil _ _, fun b hb => ?_⟩
  rw [List.mem_singleton.mp hb]
  exact ⟨Int.le_refl 0, Int.natCast_nonneg est, rfl⟩

theorem geo_new (est fpr32 k m : Nat) (h : 0 < m) : (Expanding.new est fpr32 k m).Geo := by
  refine ⟨h, fun b hb => ?_⟩
  rw [List.mem_singleton.mp hb]
  exact Bloom.geoOK_new _ _ _ _

theorem inv_grow (e : Expanding) (hi : e.Inv) :
    e.grow.Inv ∧ ∃ init y, e.grow.blooms = init ++ [y] ∧ y.count < (e.est : Int) := by
  obtain ⟨h1, hne, hall⟩ := hi
  obtain ⟨init, z, hb⟩ := exists_concat e.blooms hne
  obtain ⟨s1, -, s3, -, -⟩ := grow_static e
  have hg := grow_blooms_eq e init z hb
  refine ⟨⟨by rw [s1]; exact h1, grow_ne_nil e hne, ?_⟩, ?_⟩
  · rw [s1, s3]
    exact fun b hb' => (grow_mem e b hb').elim (hall b)
      (fun h => h ▸ ⟨Int.le_refl 0, Int.natCast_nonneg _, rfl⟩)
  · rw [hg]; split
    · exact ⟨e.blooms, e.fresh, rfl, by rw [fresh_count]; omega⟩
    · exact ⟨init, z, hb, by omega⟩

theorem inv_addToLast (e : Expanding) (init : List Bloom) (y : Bloom) (hs : List Nat)
    (hk : e.k ≤ hs.length) (hi : e.Inv) (hb : e.blooms = init ++ [y]) (hy : y.count < (e.est : Int)) :
    ({ e with blooms := (addToLast e.blooms hs).1 } : Expanding).Inv ∧ (addToLast e.blooms hs).2 = none := by
  obtain ⟨h1, -, hall⟩ := hi
  obtain ⟨h0, -, hyk⟩ := hall y (by rw [hb]; simp)
  have hyl : y.k ≤ hs.length := by rw [hyk]; exact hk
  rw [hb, addToLast_concat]
  refine ⟨⟨h1, List.append_ne_nil_of_right_ne_nil _ (List.cons_ne_nil _ _), fun b hm => ?_⟩, ?_⟩
  · show 0 ≤ b.count ∧ b.count ≤ (e.est : Int) ∧ b.k = e.k
    rcases List.mem_append.mp hm with hm | hm
    · exact hall b (by rw [hb]; exact List.mem_append_left _ hm)
    · rw [List.mem_singleton.mp hm, Bloom.addAlt_count_of_le y hs hyl, Bloom.addAlt_k]
      exact ⟨by omega, by omega, hyk⟩
  · exact Bloom.addAlt_err_of_le y hs hyl

theorem inv_addCore (e : Expanding) (p : Bool) (hs : List Nat) (f : Bool) (hk : e.k ≤ hs.length)
    (hi : e.Inv) : (e.addCore p hs f).1.Inv ∧ (e.addCore p hs f).2 = none := by
  cases hf : (f || !p)
  · simp only [addCore, hf, Bool.false_eq_true, if_false]
    exact ⟨hi, trivial⟩
  · obtain ⟨hg, init, y, hb, hy⟩ := inv_grow ({ e with added := e.added + 1 }) hi
    obtain ⟨s1, -, s3, -, -⟩ := grow_static ({ e with added := e.added + 1 })
    have := inv_addToLast _ init y hs (by rw [s3]; exact hk) hg hb (by rw [s1]; exact hy)
    simp only [addCore, hf, if_true]
    exact this

theorem inv_push (e : Expanding) (hi : e.Inv) : e.push.Inv := by
  obtain ⟨h1, hne, hall⟩ := hi
  refine ⟨h1, List.append_ne_nil_of_right_ne_nil _ (List.cons_ne_nil _ _), ?_⟩
  exact push_forall (fun b => 0 ≤ b.count ∧ b.count ≤ (e.est : Int) ∧ b.k = e.k) e
    ⟨Int.le_refl 0, Int.natCast_nonneg _, rfl⟩ hall

theorem geo_addCore (e : Expanding) (p : Bool) (hs : List Nat) (f : Bool) (hne : e.blooms ≠ [])
    (hg : e.Geo) : (e.addCore p hs f).1.Geo := by
  obtain ⟨-, -, -, s4, -⟩ := addCore_static e p hs f
  rw [Geo, s4]
  exact ⟨hg.1, addCore_forall₂ (fun b => b.GeoOK e.m) _ e p hs f (fun _ h => h)
    (fun b h => Bloom.geoOK_addAlt _ b hs h) (fresh_geo e) hg.2⟩

theorem geo_push (e : Expanding) (hg : e.Geo) : e.push.Geo :=
  ⟨hg.1, push_forall (fun b => b.GeoOK e.m) e (fresh_geo e) hg.2⟩

theorem addCore_short_error (e : Expanding) (p : Bool) (hs : List Nat) (f : Bool)
    (hk : hs.length < e.k) (hf : (f || !p) = true) (hi : e.Inv) :
    (e.addCore p hs f).2 = some .indexError := by
  obtain ⟨hg, init, y, hb, -⟩ := inv_grow { e with added := e.added + 1 } hi
  have hyk : y.k = e.k := (hg.2.2 y (by rw [hb]; simp)).2.2.trans (grow_static _).2.2.1
  rw [(addCore_eff e p hs f hf).2, hb, addToLast_concat, Bloom.addAlt_err, hyk, if_pos hk]

theorem addAlt_eq_addCore (e : Expanding) (hs : List Nat) (f : Bool) (hk : e.k ≤ hs.length)
    (hi : e.Inv) : ∃ p, e.checkAlt hs = .ok p ∧ e.addAlt hs f = e.addCore p hs f := by
  obtain ⟨p, hp⟩ := checkGo_total hs e.blooms (fun b hb => by rw [(hi.2.2 b hb).2.2]; exact hk)
  refine ⟨p, hp, ?_⟩
  unfold addAlt
  cases f
  · simp only [checkAlt, hp]; rfl
  · simp [addCore]

/-- after `n` effective insertions and no `push`; the newest is non-empty once the filter has grown -/
def Shape (e : Expanding) (n : Nat) : Prop :=
  ∃ x c : Nat, e.blooms.map (·.count) = List.replicate x (e.est : Int) ++ [(c : Int)] ∧
    (0 < x → 1 ≤ c) ∧ c ≤ e.est ∧ n = x * e.est + c

theorem shape_new (est fpr32 k m : Nat) : (Expanding.new est fpr32 k m).Shape 0 :=
  ⟨0, 0, by simp [Expanding.new, Bloom.new], by simp, by simp, by simp⟩

/-- `x = ⌈n/est⌉ − 1` -/
theorem shape_div {x c est n : Nat} (h1 : 1 ≤ est) (hx : 0 < x → 1 ≤ c) (hc : c ≤ est)
    (hn : n = x * est + c) : (if n = 0 then 0 else (n - 1) / est) = x := by
  subst hn
  rcases Nat.eq_zero_or_pos x with rfl | hpos
  · rw [Nat.zero_mul, Nat.zero_add]
    split
    · rfl
    · exact Nat.div_eq_of_lt (Nat.lt_of_lt_of_le (Nat.sub_lt (by omega) Nat.one_pos) hc)
  · obtain ⟨c', rfl⟩ : ∃ c', c = c' + 1 := ⟨c - 1, (Nat.sub_add_cancel (hx hpos)).symm⟩
    rw [← Nat.add_assoc, if_neg (Nat.succ_ne_zero _), Nat.add_sub_cancel]
    rw [Nat.mul_comm, Nat.mul_add_div h1, Nat.div_eq_of_lt hc, Nat.add_zero]

theorem Shape.length {e : Expanding} {n : Nat} (h : e.Shape n) (h1 : 1 ≤ e.est) :
    e.blooms.length = (if n = 0 then 0 else (n - 1) / e.est) + 1 := by
  obtain ⟨x, c, hm, hx, hc, hn⟩ := h
  have hl := congrArg List.length hm
  rw [List.length_map, List.length_append, List.length_replicate, List.length_singleton] at hl
  rw [hl, shape_div h1 hx hc hn]

theorem shape_addCore (e : Expanding) (n : Nat) (p : Bool) (hs : List Nat) (f : Bool)
    (hk : e.k ≤ hs.length) (hinv : e.Inv) (h : e.Shape n) :
    (e.addCore p hs f).1.Shape (n + if (f || !p) = true then 1 else 0) := by
  obtain ⟨x, c, hm, hx, hc, hn⟩ := h
  rw [Shape, (addCore_static e p hs f).1]
  cases hf : (f || !p)
  · rw [(addCore_noeff e p hs f hf).1]
    exact ⟨x, c, hm, hx, hc, hn⟩
  obtain ⟨h1, hne, hall⟩ := hinv
  obtain ⟨init, z, hb⟩ := exists_concat e.blooms hne
  rw [hb, List.map_append, List.map_singleton] at hm
  obtain ⟨hi, hz⟩ := List.append_inj' hm rfl
  have hz : z.count = (c : Int) := (List.cons.inj hz).1
  have hzk : z.k = e.k := (hall z (by rw [hb]; simp)).2.2
  rw [addCore_blooms_eff e init z p hs f hb hf]
  split
  · have hce : c = e.est := by omega
    refine ⟨x + 1, 1, ?_, fun _ => Nat.le_refl 1, h1, by rw [hn, hce, Nat.succ_mul]; rfl⟩
    rw [List.map_append, List.map_append, hi, List.map_singleton, List.map_singleton,
      Bloom.addAlt_count_of_le e.fresh hs (by rw [fresh_k]; exact hk), fresh_count, hz, hce,
      List.replicate_succ']
    rfl
  · refine ⟨x, c + 1, ?_, fun _ => Nat.succ_pos c, by omega, by rw [hn]; rfl⟩
    rw [List.map_append, hi, List.map_singleton, Bloom.addAlt_count_of_le z hs (by rw [hzk]; exact hk), hz]
    rfl

end Expanding
end PyProb
