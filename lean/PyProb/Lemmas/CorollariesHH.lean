/-
  HeavyHitters and true counts: C17 joined with C02.

  C17 proves about the tracking table of `HeavyHitters` only facts about ESTIMATES
  (`C17_hh_untracked`: no untracked key's most recent estimate exceeds a tracked one).  With C02
  (`estimate ≥ true count` for histories without clamping) this gives the true-count form:

  * `hh_untracked_count_le_tracked` : an untracked key's TRUE count is ≤ every tracked value;
  * `hh_tracks_heaviest`            : hence a key whose true count exceeds some tracked value
                                      (in particular the smallest one) is tracked;
  * `hh_tracked_ge_count`           : a tracked key's value is ≥ its true count.

  The converse direction (an untracked key's ESTIMATE could exceed another key's TRUE count) is
  not a theorem and is not claimed.  Hypotheses: `w, d > 0`, `d` hashes per key, `num ≥ 1`,
  add-only history with amounts `n ≥ 1` (C02's `Legit`; the class has no `remove`), and C02's
  `Small` (the amounts added never exceed 2^31-1, so no bin is clamped — with clamping the
  estimate can fall below the true count and the statement is false).
-/
import PyProb.Lemmas.CorollariesST

namespace PyProb.Corollaries
open PyProb

def hhToCms (op : Key × Int) : C02.Op := .add op.1 op.2

private theorem legit_of_pos (ops : List (Key × Int)) (h : ∀ op ∈ ops, 0 < op.2) :
    C02.Legit (ops.map hhToCms) := by
  intro i hi
  rw [List.getElem_map]
  show 0 < _
  simp only [List.length_map] at hi
  exact h _ (List.getElem_mem hi)

section
variable {w d : Nat} {H : Key → Nat → List Nat}

theorem hh_count_inv (hw : 0 < w) (hd : 0 < d) (hH : ∀ key, (H key d).length = d) (num : Int)
    (hnum : 1 ≤ num) (ops : List (Key × Int)) (hpos : ∀ op ∈ ops, 0 < op.2)
    (hS : C02.Small (ops.map hhToCms)) :
    FollowsCms w d H (ops.map hhToCms) (C17.runHH H (HH.new w d num) ops).1.cms
      (C17.runHH H (HH.new w d num) ops).2 := by
  induction ops using snoc_induction with
  | nil => exact FollowsCms.init
  | snoc ops op ih =>
      have hpos0 : ∀ o ∈ ops, 0 < o.2 := fun o ho => hpos o (List.mem_append_left _ ho)
      have hL := legit_of_pos _ hpos
      have R := C17.runHH_inv w d num hw hd hnum H hH ops fun o ho => Int.le_of_lt (hpos0 o ho)
      rw [List.map_append, List.map_singleton] at hL hS ⊢
      have I := ih hpos0 (C02.small_snoc hS).1
      rw [C17.runHH_snoc]
      generalize C17.runHH H (HH.new w d num) ops = st at I R ⊢
      obtain ⟨s, log⟩ := st
      obtain ⟨key, n⟩ := op
      obtain ⟨v, hcall, I'⟩ := I.step hw hd hH (hhToCms (key, n)) hL hS
      have hstep := HH.addAlt_ok s key _ n _ v hcall
      -- the table logic returns the sketch's estimate: neither `ValueError` branch is taken
      have hres : (hhStep s.num s.abs key v).2 = .ok v :=
        R.ret hnum key n (Int.le_of_lt (hpos (key, n) (by simp))) (hH key) hcall
      have hs : (C17.stepHH H (s, log) (key, n)).1.cms =
            C02.run w d H .min (ops.map hhToCms ++ [hhToCms (key, n)]) ∧
          (C17.stepHH H (s, log) (key, n)).2 = log ++ [(key, .ok v)] := by
        rw [C17.stepHH, hstep, hres]
        exact ⟨rfl, rfl⟩
      rw [hs.1, hs.2]
      exact I'

theorem hh_cms_eq_run (hw : 0 < w) (hd : 0 < d) (hH : ∀ key, (H key d).length = d) (num : Int)
    (hnum : 1 ≤ num) (ops : List (Key × Int)) (hpos : ∀ op ∈ ops, 0 < op.2)
    (hS : C02.Small (ops.map hhToCms)) :
    (C17.runHH H (HH.new w d num) ops).1.cms = C02.run w d H .min (ops.map hhToCms) :=
  (hh_count_inv hw hd hH num hnum ops hpos hS).cms

theorem hh_tracked_ge_count (hw : 0 < w) (hd : 0 < d) (hH : ∀ key, (H key d).length = d)
    (num : Int) (hnum : 1 ≤ num) (ops : List (Key × Int)) (hpos : ∀ op ∈ ops, 0 < op.2)
    (hS : C02.Small (ops.map hhToCms)) (k : Key) (v : Int)
    (hkv : (k, v) ∈ (C17.runHH H (HH.new w d num) ops).1.table) :
    C02.cnt (ops.map hhToCms) k ≤ v ∧ 0 ≤ v := by
  have hle := (C17.C17_hh_tracked w d num hw hd hnum H hH ops
    (fun o ho => Int.le_of_lt (hpos o ho))).2 k v hkv
  have h1 := (hh_count_inv hw hd hH num hnum ops hpos hS).est k v hle
  have h2 := C02.cnt_nonneg _ (legit_of_pos ops hpos) k
  exact ⟨h1, by omega⟩

theorem hh_untracked_count_le_tracked (hw : 0 < w) (hd : 0 < d)
    (hH : ∀ key, (H key d).length = d) (num : Int) (hnum : 1 ≤ num) (ops : List (Key × Int))
    (hpos : ∀ op ∈ ops, 0 < op.2) (hS : C02.Small (ops.map hhToCms)) (u : Key)
    (hu : u ∉ (C17.runHH H (HH.new w d num) ops).1.table.map (·.1)) (k : Key) (v : Int)
    (hkv : (k, v) ∈ (C17.runHH H (HH.new w d num) ops).1.table) :
    C02.cnt (ops.map hhToCms) u ≤ v := by
  have I := hh_count_inv hw hd hH num hnum ops hpos hS
  cases hl : C17.lastEst (C17.runHH H (HH.new w d num) ops).2 u with
  | some est =>
      have h1 := I.est u est hl
      have h2 := C17.C17_hh_untracked w d num hw hd hnum H hH ops
        (fun o ho => Int.le_of_lt (hpos o ho)) u est hl hu k v hkv
      omega
  | none =>
      -- no call was on `u`: its true count is 0, and tracked values are ≥ 0
      have hv0 := (hh_tracked_ge_count hw hd hH num hnum ops hpos hS k v hkv).2
      have hz : C02.cnt (ops.map hhToCms) u = 0 := by
        apply C02.cnt_eq_zero
        intro o ho e
        obtain ⟨x, hx⟩ := I.seen o ho
        rw [e, hl] at hx
        cases hx
      omega

theorem hh_tracks_heaviest (hw : 0 < w) (hd : 0 < d) (hH : ∀ key, (H key d).length = d)
    (num : Int) (hnum : 1 ≤ num) (ops : List (Key × Int)) (hpos : ∀ op ∈ ops, 0 < op.2)
    (hS : C02.Small (ops.map hhToCms)) (u k : Key) (v : Int)
    (hkv : (k, v) ∈ (C17.runHH H (HH.new w d num) ops).1.table)
    (hgt : v < C02.cnt (ops.map hhToCms) u) :
    u ∈ (C17.runHH H (HH.new w d num) ops).1.table.map (·.1) := by
  apply Classical.byContradiction
  intro hu
  have := hh_untracked_count_le_tracked hw hd hH num hnum ops hpos hS u hu k v hkv
  omega

end

/-- the run of C17's first test (w = d = 2, two tracked keys out of four) -/
def exHHOps : List (Key × Int) := [(C17.ka, 5), (C17.kb, 3), (C17.kc, 1), (C17.ka, 2), (C17.kd, 1)]

instance hhSmallDec (ops : List C02.Op) : Decidable (C02.Small ops) := by
  unfold C02.Small; infer_instance

example : (∀ op ∈ exHHOps, 0 < op.2) ∧ C02.Small (exHHOps.map hhToCms) := ⟨by decide, by decide⟩

example : ∀ k v, (k, v) ∈ (C17.runHH C17.Hx (HH.new 2 2 2) exHHOps).1.table →
    C02.cnt (exHHOps.map hhToCms) k ≤ v ∧ 0 ≤ v :=
  fun k v h => hh_tracked_ge_count (by decide) (by decide) (C17.Hx_length 2) 2 (by decide) exHHOps
    (by decide) (by decide) k v h

end PyProb.Corollaries
