/-
  Elementary facts about the canonical layout `Spec.layout`: its shape, the empty table (writing
  the default into a constant array changes nothing, `set_replicate_self`), the table of one
  element.
-/
import PyProb.Lemmas.QFLin

namespace PyProb.Spec
open PyProb

@[simp] theorem layout_q (q : Nat) (auto : Bool) (S : List Elem) : (layout q auto S).q = q := rfl
@[simp] theorem layout_auto (q : Nat) (auto : Bool) (S : List Elem) : (layout q auto S).auto = auto := rfl
@[simp] theorem layout_count (q : Nat) (auto : Bool) (S : List Elem) :
    (layout q auto S).count = (S.length : Nat) := rfl
@[simp] theorem layout_size (q : Nat) (auto : Bool) (S : List Elem) : (layout q auto S).size = 2 ^ q := rfl

@[simp] theorem layout_rem_length (q : Nat) (auto : Bool) (S : List Elem) :
    (layout q auto S).rem.length = 2 ^ q :=
  (length_foldl_set _ _ _ _).trans List.length_replicate

@[simp] theorem layout_occ_length (q : Nat) (auto : Bool) (S : List Elem) :
    (layout q auto S).occ.length = 2 ^ q :=
  (length_foldl_set _ _ _ _).trans List.length_replicate

@[simp] theorem layout_cont_length (q : Nat) (auto : Bool) (S : List Elem) :
    (layout q auto S).cont.length = 2 ^ q :=
  (length_foldl_set _ _ _ _).trans List.length_replicate

@[simp] theorem layout_shift_length (q : Nat) (auto : Bool) (S : List Elem) :
    (layout q auto S).shift.length = 2 ^ q :=
  (length_foldl_set _ _ _ _).trans List.length_replicate

/-- the canonical table of the empty set is the table `__set_params` builds -/
theorem layout_nil (q : Nat) (auto : Bool) : layout q auto [] = QF.empty q auto := by
  simp [layout, cells, rot, place, QF.empty]

theorem cnt_single (x : Elem) (i : Nat) : cnt [x] i = if x.1 = i then 1 else 0 := by
  simp [cnt, List.countP_cons]

theorem carry_single (n : Nat) (x : Elem) (k : Nat) : carry n [x] k = 0 := by
  induction k with
  | zero => rfl
  | succ k ih => simp only [carry, ih, cnt_single]; split <;> rfl

theorem emptySlot_single (n : Nat) (hn : 2 ≤ n) (x : Elem) :
    emptySlot n [x] = if x.1 = 0 then 1 else 0 := by
  obtain ⟨m, rfl⟩ := Nat.exists_eq_add_of_le' hn
  by_cases h : x.1 = 0
  · have h1 : (m + 2 + 1) % (m + 2) = 1 := by
      rw [Nat.add_mod_left]; exact Nat.mod_eq_of_lt (Nat.succ_lt_succ (Nat.succ_pos m))
    simp [emptySlot, findFree, isFree, carry_single, cnt_single, h, h1]
  · simp [emptySlot, findFree, isFree, carry_single, cnt_single, h]

theorem set_replicate_self {α : Type} (n i : Nat) (a : α) : (List.replicate n a).set i a = List.replicate n a := by
  apply List.ext_getElem
  · simp
  · intro j h1 h2
    simp

theorem cells_single (n : Nat) (hn : 2 ≤ n) (x : Elem) (hx : x.1 < n) :
    cells n [x] = [⟨x.1, x.1, x.2, false⟩] := by
  obtain ⟨hen, hne⟩ : emptySlot n [x] < n ∧ emptySlot n [x] ≠ x.1 := by
    rw [emptySlot_single n hn x]
    split
    · rename_i h; exact ⟨hn, h ▸ Nat.one_ne_zero⟩
    · rename_i h; exact ⟨Nat.lt_of_lt_of_le Nat.zero_lt_two hn, Ne.symm h⟩
  simp only [cells]
  generalize emptySlot n [x] = e at *
  have hrot : rot e [x] = [x] := by
    simp only [rot, List.filter_cons, List.filter_nil]
    by_cases h : e < x.1
    · simp [h, Nat.lt_asymm h]
    · simp [h, Nat.lt_of_le_of_ne (Nat.le_of_not_lt h) (Ne.symm hne)]
  rw [hrot]
  simp only [place, Nat.zero_max, show (e + 1 + off n e x.1) % n = x.1 from QFLin.io_off n e x.1 hen hx]
  simp

theorem layout_single (q : Nat) (hq : 1 ≤ q) (auto : Bool) (x : Elem) (hx : x.1 < 2 ^ q) :
    layout q auto [x] =
      { QF.empty q auto with
        rem := (List.replicate (2 ^ q) 0).set x.1 x.2
        occ := (List.replicate (2 ^ q) false).set x.1 true
        count := 1 } := by
  have hn : 2 ≤ 2 ^ q := by
    calc 2 = 2 ^ 1 := rfl
      _ ≤ 2 ^ q := Nat.pow_le_pow_right (by omega) hq
  simp [layout, cells_single _ hn x hx, QF.empty]

end PyProb.Spec
