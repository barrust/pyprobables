/-
  C08, counting-cuckoo half (countingcuckoo.py; model `PyProb.Model.Cuckoo` with `counting = true`): the
  definitions the statements of `Properties/C08.lean` use, and what an operation does to `Inv` and to the
  stored count `countOf` of every fingerprint.  `Inv` is the table invariant `Cuckoo.Tab` of a counting
  filter (`Inv.tab`, `inv_of_tab`) and `countOf` the weighted sum `cntW` (`countOf_eq_tsum`), so the
  post-conditions of `CuckooOps` apply.  Histories without evictions here, the general ones in `CcfKick.lean`.
-/
import PyProb.Lemmas.CcfTable
namespace PyProb.Ccf
open PyProb Cuckoo

/-- what `check` answers for a key with fingerprint `fp` on a table satisfying `Inv` (`ccf_check`); read off
    the flattened table, so neither `G` nor the capacity enters -/
def countOf (c : Cuckoo) (fp : Nat) : Nat :=
  ((c.buckets.flatten.find? (·.1 == fp)).map (·.2)).getD 0

theorem countOf_eq_lookup (c : Cuckoo) (fp : Nat) : countOf c fp = lookup c.buckets.flatten fp := rfl

def fps (c : Cuckoo) : List Nat := c.buckets.flatten.map (·.1)

def Inv (G : Nat → Nat) (c : Cuckoo) : Prop :=
  c.counting = true ∧ c.buckets.length = c.cap ∧ 0 < c.cap ∧
  (c.buckets.flatten.map (·.1)).Nodup ∧
  (∀ i, i < c.buckets.length → ∀ bin ∈ c.bucket i,
      i = (indices G c bin.1).1 ∨ i = (indices G c bin.1).2) ∧
  (∀ bin ∈ c.buckets.flatten, 1 ≤ bin.2)

instance (G : Nat → Nat) (c : Cuckoo) : Decidable (Inv G c) := by unfold Inv; infer_instance

/-- the settings of the filter that no operation without expansion touches -/
def SameParams (c c' : Cuckoo) : Prop :=
  c'.counting = c.counting ∧ c'.cap = c.cap ∧ c'.b = c.b ∧ c'.maxSwaps = c.maxSwaps ∧
  c'.rate = c.rate ∧ c'.auto = c.auto ∧ c'.fpBits = c.fpBits

theorem inv_new (G : Nat → Nat) (cap b maxSwaps rate : Nat) (auto : Bool) (fpBits : Nat) (h : 0 < cap) :
    Inv G (Cuckoo.new true cap b maxSwaps rate auto fpBits) := by
  refine ⟨rfl, by simp [Cuckoo.new], h, ?_, ?_, ?_⟩
  · simp [Cuckoo.new]
  · intro i hi bin hb
    simp [Cuckoo.new, bucket, List.getD_eq_getElem?_getD] at hb hi
    simp [hi] at hb
  · simp [Cuckoo.new]

theorem countOf_new (cap b maxSwaps rate : Nat) (auto : Bool) (fpBits : Nat) (fp : Nat) :
    countOf (Cuckoo.new true cap b maxSwaps rate auto fpBits) fp = 0 := by
  simp [countOf, Cuckoo.new]

theorem bucket_eq (c : Cuckoo) {i : Nat} (h : i < c.buckets.length) : c.bucket i = c.buckets[i] :=
  getD_eq_getElem_of_lt c.buckets i h []

theorem mem_bucket {c : Cuckoo} {i : Nat} {x : CBin} (h : x ∈ c.bucket i) :
    i < c.buckets.length ∧ x ∈ c.buckets.flatten := by
  refine ⟨Nat.lt_of_not_le fun hi => ?_, stored_of_bucket h⟩
  rw [bucket, getD_of_length_le _ i hi] at h
  cases h

/-- `Inv` bounds no bucket size: the number of bins in the table serves as slack -/
theorem Inv.tab {G : Nat → Nat} {c : Cuckoo} (inv : Inv G c) : Tab G (tsum wOne c) c := by
  obtain ⟨hc, hlen, hcap, hnd, hpos, hcnt⟩ := inv
  refine ⟨⟨hlen, hcap, ?_, ?_⟩, (nodup_iff_tsum c).mp hnd, hcnt, fun hf => ?_⟩
  · intro i
    have := bsum_le_tsum wOne c i
    rw [bsum_wOne] at this
    exact Nat.le_trans this (Nat.le_max_left _ _)
  · intro i bin hb
    exact hpos i (mem_bucket hb).1 bin hb
  · rw [hc] at hf; cases hf

theorem inv_of_tab {G : Nat → Nat} {n : Nat} {c : Cuckoo} (hc : c.counting = true) (ht : Tab G n c) : Inv G c :=
  ⟨hc, ht.ts.len, ht.ts.cap_pos, (nodup_iff_tsum c).mpr ht.nodup, fun i _ bin hb => ht.ts.pos i bin hb, ht.cnt_pos⟩

theorem countOf_eq_tsum {G : Nat → Nat} {c : Cuckoo} (inv : Inv G c) (fp : Nat) : countOf c fp = tsum (cntW fp) c := by
  rw [countOf_eq_lookup, lookup_eq_bsum inv.2.2.2.1, tsum_eq_flatten]

theorem ccf_present_none {G : Nat → Nat} {c : Cuckoo} (inv : Inv G c) {fp : Nat}
    (h : c.present (indices G c fp).1 (indices G c fp).2 fp = none) : fp ∉ c.buckets.flatten.map (·.1) := by
  intro hc
  obtain ⟨bin, hx, e⟩ := List.mem_map.1 hc
  obtain ⟨h1, h2⟩ := present_none h
  rcases (containsL_iff_stored inv.tab.ts fp).mpr ⟨bin, hx, e⟩ with h' | h'
  · exact absurd (h1.symm.trans h') Bool.false_ne_true
  · exact absurd (h2.symm.trans h') Bool.false_ne_true

theorem bucket_find {G : Nat → Nat} {c : Cuckoo} (inv : Inv G c) {i fp v : Nat} (h : (fp, v) ∈ c.bucket i) :
    (c.bucket i).find? (·.1 == fp) = some (fp, v) := by
  cases e : (c.bucket i).find? (·.1 == fp) with
  | none =>
    have := List.find?_eq_none.1 e _ h
    simp at this
  | some y =>
    have h1 := List.mem_of_find?_eq_some e
    have h2 := List.find?_some e
    simp only [beq_iff_eq] at h2
    rw [fst_inj inv.2.2.2.1 (mem_bucket h1).2 (mem_bucket h).2 h2]

theorem present_cases {G : Nat → Nat} {c : Cuckoo} (inv : Inv G c) (fp : Nat) :
    (c.present (indices G c fp).1 (indices G c fp).2 fp = none ∧ fp ∉ c.buckets.flatten.map (·.1) ∧
        countOf c fp = 0) ∨
    (∃ i v, c.present (indices G c fp).1 (indices G c fp).2 fp = some i ∧ i < c.buckets.length ∧
        (i = (indices G c fp).1 ∨ i = (indices G c fp).2) ∧ (fp, v) ∈ c.bucket i ∧ 1 ≤ v ∧
        countOf c fp = v ∧ (c.bucket i).find? (·.1 == fp) = some (fp, v)) := by
  cases e : c.present (indices G c fp).1 (indices G c fp).2 fp with
  | none =>
    have := ccf_present_none inv e
    exact Or.inl ⟨rfl, this, lookup_of_not_mem this⟩
  | some i =>
    obtain ⟨_, _, ⟨fp', v⟩, hv, rfl⟩ := present_some_bin inv.tab.ts e
    have hi := (present_some e).1
    have hm := mem_bucket hv
    exact Or.inr ⟨i, v, rfl, hm.1, hi, hv, inv.2.2.2.2.2 _ hm.2, lookup_of_mem inv.2.2.2.1 hm.2,
      bucket_find inv hv⟩

theorem ccf_check {G : Nat → Nat} {c : Cuckoo} (inv : Inv G c) (h : Nat) :
    check G c h = countOf c (c.fingerprint h) :=
  (check_eq_cnt inv.tab h).trans (countOf_eq_tsum inv _).symm

theorem countOf_pos_iff {G : Nat → Nat} {c : Cuckoo} (inv : Inv G c) (fp : Nat) :
    0 < countOf c fp ↔ fp ∈ c.buckets.flatten.map (·.1) := by
  rcases present_cases inv fp with ⟨_, hn, e0⟩ | ⟨i, v, _, _, _, hm, hv, ev, _⟩
  · rw [e0]; exact ⟨fun h => absurd h (Nat.lt_irrefl 0), fun h => absurd h hn⟩
  · rw [ev]
    exact ⟨fun _ => List.mem_map.2 ⟨_, (mem_bucket hm).2, rfl⟩, fun _ => hv⟩

theorem countOf_frame {G : Nat → Nat} {c c' : Cuckoo} (inv : Inv G c) (inv' : Inv G c') {fp : Nat}
    (hfr : ∀ f : CBin → Nat, (∀ b, b.1 = fp → f b = 0) → tsum f c' = tsum f c) (fp' : Nat) (hne : fp' ≠ fp) :
    countOf c' fp' = countOf c fp' := by
  rw [countOf_eq_tsum inv', countOf_eq_tsum inv]
  exact hfr _ fun b hb => if_neg fun e' => hne (e'.symm.trans hb)

theorem unique_bucket {G : Nat → Nat} {c : Cuckoo} (inv : Inv G c) {i j : Nat} {x y : CBin}
    (hx : x ∈ c.bucket i) (hy : y ∈ c.bucket j) (e : x.1 = y.1) : i = j := by
  apply Classical.byContradiction
  intro hne
  have h1 : 0 < bsum (isFp x.1) (c.bucket i) := (bsum_pos_iff _ _).mpr ⟨x, hx, by simp [isFp]⟩
  have h2 : 0 < bsum (isFp x.1) (c.bucket j) := (bsum_pos_iff _ _).mpr ⟨y, hy, by simp [isFp, e]⟩
  have h3 := bsum_add_le_tsum (isFp x.1) c hne
  have h4 := inv.tab.nodup x.1
  omega

/-- the model edits the one bucket that holds `fp`, the statements of C08 the whole table: the same,
    since no other bucket has such a bin -/
theorem set_map_eq {G : Nat → Nat} {c : Cuckoo} (inv : Inv G c) {i fp v : Nat} (hm : (fp, v) ∈ c.bucket i)
    (f : CBin → CBin) (hf : ∀ x : CBin, x.1 ≠ fp → f x = x) :
    c.buckets.set i ((c.bucket i).map f) = c.buckets.map (fun bkt => bkt.map f) := by
  have hi := (mem_bucket hm).1
  apply List.ext_getElem
  · simp
  · intro j h1 h2
    simp only [List.getElem_set, List.getElem_map]
    split
    · rename_i e; subst e; rw [bucket_eq c hi]
    · rename_i hne
      symm
      have hj : j < c.buckets.length := by simpa using h2
      rw [List.map_congr_left (g := id), List.map_id]
      intro x hx
      apply hf
      intro hfp
      have hxj : x ∈ c.bucket j := by rw [bucket_eq c hj]; exact hx
      exact absurd (unique_bucket inv hm hxj hfp.symm) hne

/-- the settings no operation touches (everything but the capacity, which an expansion multiplies) -/
def SameCfg (c c' : Cuckoo) : Prop :=
  c'.counting = c.counting ∧ c'.b = c.b ∧ c'.maxSwaps = c.maxSwaps ∧
  c'.rate = c.rate ∧ c'.auto = c.auto ∧ c'.fpBits = c.fpBits

theorem countOf_ite {c c' : Cuckoo} {fp₀ : Nat} (g : Nat → Nat) (h1 : countOf c' fp₀ = g (countOf c fp₀))
    (h2 : ∀ fp', fp' ≠ fp₀ → countOf c' fp' = countOf c fp') (fp : Nat) :
    countOf c' fp = if fp₀ = fp then g (countOf c fp) else countOf c fp := by
  split
  · rename_i e; subst e; exact h1
  · rename_i e; exact h2 fp (fun x => e x.symm)

theorem ccf_of_addPost {G : Nat → Nat} {n : Nat} {c c' : Cuckoo} (inv : Inv G c) {fp : Nat}
    (hp : AddPost G n c fp c' none) :
    Inv G c' ∧ SameCfg c c' ∧ countOf c' fp = countOf c fp + 1 ∧
    ∀ fp', fp' ≠ fp → countOf c' fp' = countOf c fp' := by
  rcases hp with ⟨_, ht', hx, _, hfr, hcnt, _⟩ | ⟨he, _⟩
  · have inv' : Inv G c' := inv_of_tab (hx.counting.trans inv.1) ht'
    refine ⟨inv', (sameX_iff c c').mp hx, ?_, countOf_frame inv inv' hfr⟩
    rw [countOf_eq_tsum inv', countOf_eq_tsum inv, hcnt, if_pos inv.1]
  · cases he

/-- `- 1` is truncated: at count 0 nothing was removed -/
theorem ccf_remove_any {G : Nat → Nat} {c c' : Cuckoo} {ret : Bool} (inv : Inv G c) (h : Nat)
    (hrem : remove G c h = (c', ret)) :
    Inv G c' ∧ SameParams c c' ∧ countOf c' (c.fingerprint h) = countOf c (c.fingerprint h) - 1 ∧
    ∀ fp', fp' ≠ c.fingerprint h → countOf c' fp' = countOf c fp' := by
  have hs := remove_spec h inv.tab
  rw [hrem] at hs
  rcases hs with ⟨_, ht', hsame, _, hfr, hcnt, _⟩ | ⟨_, he, hn⟩
  · have inv' : Inv G c' := inv_of_tab (hsame.counting.trans inv.1) ht'
    refine ⟨inv', (same_iff c c').mp hsame, ?_, countOf_frame inv inv' hfr⟩
    rw [countOf_eq_tsum inv', countOf_eq_tsum inv, ← hcnt, Nat.add_sub_cancel]
  · have he : c' = c := he
    rw [he]
    have h0 : countOf c (c.fingerprint h) = 0 := by
      have := mt (containsL_iff_cnt inv.tab (c.fingerprint h)).mpr hn
      rw [countOf_eq_tsum inv]
      omega
    exact ⟨inv, ⟨rfl, rfl, rfl, rfl, rfl, rfl, rfl⟩, by rw [h0], fun _ _ => rfl⟩

theorem add_stored_eq {G : Nat → Nat} {c : Cuckoo} (hc : c.counting = true) (h : Nat) (oracle : List Nat) {i : Nat}
    (e : c.present (indices G c (c.fingerprint h)).1 (indices G c (c.fingerprint h)).2 (c.fingerprint h) = some i) :
    add G c h oracle =
      ({ c with buckets := c.buckets.set i ((c.bucket i).map (bump (c.fingerprint h))), count := c.count + 1 },
        none, oracle) := by
  unfold add
  simp only []
  rw [e]
  simp only []
  rw [if_pos hc]
  rfl

theorem remove_stored_eq {G : Nat → Nat} {c : Cuckoo} (hc : c.counting = true) (h : Nat) {i v : Nat}
    (e : c.present (indices G c (c.fingerprint h)).1 (indices G c (c.fingerprint h)).2 (c.fingerprint h) = some i)
    (ef : (c.bucket i).find? (·.1 == c.fingerprint h) = some (c.fingerprint h, v)) :
    remove G c h =
      if v ≤ 1 then
        ({ c with buckets := c.buckets.set i ((c.bucket i).erase (c.fingerprint h, v)), count := c.count - 1,
                  unique := c.unique - 1 }, true)
      else
        ({ c with buckets := c.buckets.set i ((c.bucket i).map (drop1 (c.fingerprint h))), count := c.count - 1 },
          true) := by
  unfold remove
  simp only []
  rw [e]
  simp only []
  rw [if_pos hc, ef]
  rfl

theorem add_fresh_eq {G : Nat → Nat} {c c' : Cuckoo} (h : Nat) {oracle o' : List Nat}
    (e : c.present (indices G c (c.fingerprint h)).1 (indices G c (c.fingerprint h)).2 (c.fingerprint h) = none)
    (hins : insertFp G c (c.fingerprint h, 1) (indices G c (c.fingerprint h)).1 (indices G c (c.fingerprint h)).2 oracle
      = (c', none, o')) :
    add G c h oracle = (c', none, o') := by
  unfold add
  simp only []
  rw [e]
  simp only []
  rw [hins]

theorem indices_lt {G : Nat → Nat} {c : Cuckoo} (inv : Inv G c) (fp : Nat) :
    (indices G c fp).1 < c.buckets.length ∧ (indices G c fp).2 < c.buckets.length := by
  rw [inv.2.1]
  exact ⟨Nat.mod_lt _ inv.2.2.1, Nat.mod_lt _ inv.2.2.1⟩

def putAt (c : Cuckoo) (i : Nat) (bin : CBin) : Cuckoo :=
  ({ c with buckets := c.buckets.set i (c.bucket i ++ [bin]) } : Cuckoo).placed bin.2

theorem putAt_spec {G : Nat → Nat} {c : Cuckoo} (inv : Inv G c) {fp i : Nat} (habs : ¬ containsL G c fp)
    (hi : i < c.buckets.length) (hi12 : i = (indices G c fp).1 ∨ i = (indices G c fp).2)
    (hroom : (c.bucket i).length < c.b) :
    (putAt c i (fp, 1)).buckets = c.buckets.set i (c.bucket i ++ [(fp, 1)]) ∧
    SameParams c (putAt c i (fp, 1)) ∧
    (putAt c i (fp, 1)).count = c.count + 1 ∧ (putAt c i (fp, 1)).unique = c.unique + 1 ∧
    Inv G (putAt c i (fp, 1)) ∧ countOf (putAt c i (fp, 1)) fp = countOf c fp + 1 ∧
    ∀ fp', fp' ≠ fp → countOf (putAt c i (fp, 1)) fp' = countOf c fp' := by
  have hins : c.insertAt i (fp, 1) = some { c with buckets := c.buckets.set i (c.bucket i ++ [(fp, 1)]) } :=
    if_pos hroom
  obtain ⟨hs1, hsame, hc1, hb⟩ := insertAt_some inv.tab.ts (inv.2.1 ▸ hi) hi12 1 hins
  obtain ⟨hinv, _, h1, h2⟩ := ccf_of_addPost inv
    (addPost_of_gain inv.tab habs hs1 hsame.toX (Or.inl hsame.cap) hc1 (CountInv_of_bumped hsame hc1 hb))
  refine ⟨rfl, ⟨rfl, rfl, rfl, rfl, rfl, rfl, rfl⟩, rfl, ?_, hinv, h1, h2⟩
  show (if c.counting = true then c.unique + 1 else c.unique) = c.unique + 1
  rw [if_pos inv.1]

theorem insertAt_room {c : Cuckoo} {i : Nat} (bin : CBin) (h : (c.bucket i).length < c.b) :
    (c.insertAt i bin).map (fun c' => c'.placed bin.2) = some (putAt c i bin) := by
  unfold insertAt; rw [if_pos h]; rfl

theorem insertFp_room {G : Nat → Nat} {c : Cuckoo} (inv : Inv G c) (fp v : Nat) (oracle : List Nat)
    (hroom : (c.bucket (indices G c fp).1).length < c.b ∨ (c.bucket (indices G c fp).2).length < c.b) :
    ∃ i, (i = (indices G c fp).1 ∨ i = (indices G c fp).2) ∧ i < c.buckets.length ∧
      (c.bucket i).length < c.b ∧
      insertFp G c (fp, v) (indices G c fp).1 (indices G c fp).2 oracle = (putAt c i (fp, v), none, oracle) := by
  obtain ⟨l1, l2⟩ := indices_lt inv fp
  by_cases h1 : (c.bucket (indices G c fp).1).length < c.b
  · refine ⟨(indices G c fp).1, Or.inl rfl, l1, h1, ?_⟩
    unfold insertFp insertAt
    rw [if_pos h1]; rfl
  · have h2 : (c.bucket (indices G c fp).2).length < c.b := by
      rcases hroom with h | h
      · exact absurd h h1
      · exact h
    refine ⟨(indices G c fp).2, Or.inr rfl, l2, h2, ?_⟩
    unfold insertFp insertAt
    rw [if_neg h1, if_pos h2]; rfl

inductive Op
  | add (h : Nat)
  | remove (h : Nat)
  deriving DecidableEq, Repr

def step (G : Nat → Nat) (s : Cuckoo × List Nat) : Op → Cuckoo × List Nat
  | .add h => ((add G s.1 h s.2).1, (add G s.1 h s.2).2.2)
  | .remove h => ((remove G s.1 h).1, s.2)

def stepErr (G : Nat → Nat) (s : Cuckoo × List Nat) : Op → Option Err
  | .add h => (add G s.1 h s.2).2.1
  | .remove _ => none

/-- a history with ONE oracle threaded through: each `add` leaves the draws it did not consume to the
    next call.  `C15.run` gives every call an oracle of its own and has `expand`; every state reached here is
    reached there (`Corollaries.ccf_run_reachable` in `CorollariesCcf.lean`, which sits above both property
    files), so what C15, C03 and C05 prove of reachable states holds of these. -/
def run (G : Nat → Nat) (c : Cuckoo) (oracle : List Nat) (ops : List Op) : Cuckoo × List Nat :=
  ops.foldl (step G) (c, oracle)

def AllAddsOk (G : Nat → Nat) : Cuckoo × List Nat → List Op → Prop
  | _, [] => True
  | s, op :: ops => stepErr G s op = none ∧ AllAddsOk G (step G s op) ops

/-- the fingerprint is stored or one of its two buckets has room: neither the kick loop nor an
    expansion is entered -/
def Room (G : Nat → Nat) (c : Cuckoo) : Op → Prop
  | .add h =>
      c.present (indices G c (c.fingerprint h)).1 (indices G c (c.fingerprint h)).2 (c.fingerprint h) ≠ none ∨
      (c.bucket (indices G c (c.fingerprint h)).1).length < c.b ∨
      (c.bucket (indices G c (c.fingerprint h)).2).length < c.b
  | .remove _ => True

def NoKick (G : Nat → Nat) : Cuckoo × List Nat → List Op → Prop
  | _, [] => True
  | s, op :: ops => Room G s.1 op ∧ NoKick G (step G s op) ops

instance (G : Nat → Nat) (c : Cuckoo) (op : Op) : Decidable (Room G c op) := by
  cases op <;> unfold Room <;> infer_instance

def decNoKick (G : Nat → Nat) : (s : Cuckoo × List Nat) → (ops : List Op) → Decidable (NoKick G s ops)
  | _, [] => isTrue trivial
  | s, op :: ops => @instDecidableAnd _ _ _ (decNoKick G (step G s op) ops)

instance (G : Nat → Nat) (s : Cuckoo × List Nat) (ops : List Op) : Decidable (NoKick G s ops) :=
  decNoKick G s ops

def decAllAddsOk (G : Nat → Nat) : (s : Cuckoo × List Nat) → (ops : List Op) → Decidable (AllAddsOk G s ops)
  | _, [] => isTrue trivial
  | s, op :: ops => @instDecidableAnd _ _ _ (decAllAddsOk G (step G s op) ops)

instance (G : Nat → Nat) (s : Cuckoo × List Nat) (ops : List Op) : Decidable (AllAddsOk G s ops) :=
  decAllAddsOk G s ops

/-- a removal at 0 does nothing (truncated subtraction), in line with `C08_ccf_absent` -/
def tally (fpOf : Nat → Nat) (fp : Nat) (n : Nat) : Op → Nat
  | .add h => if fpOf h = fp then n + 1 else n
  | .remove h => if fpOf h = fp then n - 1 else n

def outstanding (fpOf : Nat → Nat) (ops : List Op) (fp : Nat) : Nat :=
  ops.foldl (tally fpOf fp) 0

/-- Not an instance of `ccf_step_any` (`CcfKick`): no expansion is entered, so `0 < rate` is not needed,
    and the capacity and the oracle stay as they are; to see that, `add` is computed explicitly
    (`add_stored_eq`, `insertFp_room`). -/
theorem ccf_step {G : Nat → Nat} {c : Cuckoo} (inv : Inv G c) (oracle : List Nat) (op : Op)
    (hr : Room G c op) :
    Inv G (step G (c, oracle) op).1 ∧ SameParams c (step G (c, oracle) op).1 ∧
    (step G (c, oracle) op).2 = oracle ∧ stepErr G (c, oracle) op = none ∧
    ∀ fp, countOf (step G (c, oracle) op).1 fp = tally c.fingerprint fp (countOf c fp) op := by
  cases op with
  | add h =>
    have key : ∃ c', add G c h oracle = (c', none, oracle) ∧ Inv G c' ∧ SameParams c c' ∧
        countOf c' (c.fingerprint h) = countOf c (c.fingerprint h) + 1 ∧
        (∀ fp', fp' ≠ c.fingerprint h → countOf c' fp' = countOf c fp') := by
      rcases present_cases inv (c.fingerprint h) with ⟨e, _, _⟩ | ⟨i, v, e, _⟩
      · obtain ⟨i, hi12, hi, hlen, hins⟩ := insertFp_room inv (c.fingerprint h) 1 oracle (hr.resolve_left fun hne => hne e)
        obtain ⟨_, hsame, _, _, hinv, hc1, hc2⟩ := putAt_spec inv (not_containsL_of_present e) hi hi12 hlen
        exact ⟨_, add_fresh_eq h e hins, hinv, hsame, hc1, hc2⟩
      · have hadd := add_stored_eq inv.1 h oracle e
        have hs := add_present_spec h oracle inv.tab e
        rw [hadd] at hs
        obtain ⟨hinv, _, hc1, hc2⟩ := ccf_of_addPost inv hs
        exact ⟨_, hadd, hinv, ⟨rfl, rfl, rfl, rfl, rfl, rfl, rfl⟩, hc1, hc2⟩
    obtain ⟨c', ha, hi, hs, h1, h2⟩ := key
    have e1 : step G (c, oracle) (.add h) = (c', oracle) := by simp only [step, ha]
    have e2 : stepErr G (c, oracle) (.add h) = none := by simp only [stepErr, ha]
    rw [e1]
    exact ⟨hi, hs, rfl, e2, countOf_ite (· + 1) h1 h2⟩
  | remove h =>
    obtain ⟨hi, hs, h1, h2⟩ := ccf_remove_any (c' := (remove G c h).1) (ret := (remove G c h).2) inv h rfl
    exact ⟨hi, hs, rfl, rfl, countOf_ite (· - 1) h1 h2⟩

theorem fingerprint_fun {c c' : Cuckoo} (h : SameParams c c') : c'.fingerprint = c.fingerprint :=
  funext (fingerprint_congr h.2.2.2.2.2.2)

theorem SameParams.trans {a b c : Cuckoo} (h1 : SameParams a b) (h2 : SameParams b c) : SameParams a c :=
  (same_iff a c).mp (((same_iff a b).mpr h1).trans ((same_iff b c).mpr h2))

theorem ccf_run {G : Nat → Nat} {c : Cuckoo} (inv : Inv G c) (oracle : List Nat) (ops : List Op)
    (hk : NoKick G (c, oracle) ops) :
    Inv G (run G c oracle ops).1 ∧ SameParams c (run G c oracle ops).1 ∧
    (run G c oracle ops).2 = oracle ∧ AllAddsOk G (c, oracle) ops ∧
    ∀ fp, countOf (run G c oracle ops).1 fp = ops.foldl (tally c.fingerprint fp) (countOf c fp) := by
  induction ops generalizing c oracle with
  | nil => exact ⟨inv, ⟨rfl, rfl, rfl, rfl, rfl, rfl, rfl⟩, rfl, trivial, fun _ => rfl⟩
  | cons op ops ih =>
    obtain ⟨hroom, hk'⟩ := hk
    obtain ⟨hi, hs, ho, he, hc⟩ := ccf_step inv oracle op hroom
    obtain ⟨ri, rs, ro, re, rc⟩ := ih hi (step G (c, oracle) op).2 hk'
    have hrun : run G c oracle (op :: ops) =
        run G (step G (c, oracle) op).1 (step G (c, oracle) op).2 ops := rfl
    rw [hrun]
    refine ⟨ri, hs.trans rs, ro.trans ho, ⟨he, re⟩, fun fp => ?_⟩
    rw [rc fp, fingerprint_fun hs, hc fp, List.foldl_cons]

section Tests

private def G0 : Nat → Nat := fun fp => fp * 7 + 3

/-- 3 buckets of 2 slots; fingerprint 3 stored with count 2 in bucket 0, fingerprint 4 once in bucket 1 -/
private def t0 : Cuckoo := ⟨true, 3, 2, 5, 2, false, 8, [[(3, 2)], [(4, 1)], []], 3, 2⟩

example : Inv G0 t0 := by decide +kernel
example : t0.fingerprint 3 = 3 ∧ t0.fingerprint 259 = 3 ∧ t0.fingerprint 256 = 1 := by decide +kernel
example : check G0 t0 3 = 2 ∧ countOf t0 3 = 2 ∧ check G0 t0 259 = 2 ∧ check G0 t0 5 = 0 := by decide +kernel
-- add of a stored fingerprint (via another key with the same fingerprint): count 2 → 3
example : add G0 t0 259 [9] = (⟨true, 3, 2, 5, 2, false, 8, [[(3, 3)], [(4, 1)], []], 4, 2⟩, none, [9]) := by decide +kernel
example : check G0 (add G0 t0 259 [9]).1 3 = check G0 t0 3 + 1 := by decide +kernel
example : add G0 t0 6 [9] = (⟨true, 3, 2, 5, 2, false, 8, [[(3, 2), (6, 1)], [(4, 1)], []], 4, 3⟩, none, [9]) := by decide +kernel
example : remove G0 t0 3 = (⟨true, 3, 2, 5, 2, false, 8, [[(3, 1)], [(4, 1)], []], 2, 2⟩, true) := by decide +kernel
example : remove G0 t0 4 = (⟨true, 3, 2, 5, 2, false, 8, [[(3, 2)], [], []], 2, 1⟩, true) := by decide +kernel
example : check G0 t0 5 = 0 ∧ remove G0 t0 5 = (t0, false) := by decide +kernel
example := ccf_step (G := G0) (c := t0) (by decide) [9] (.add 259) (by decide)
example := ccf_step (G := G0) (c := t0) (by decide) [9] (.add 6) (by decide)
example := ccf_remove_any (G := G0) (c := t0) (by decide) 3 rfl
example := ccf_remove_any (G := G0) (c := t0) (by decide) 4 rfl
example := ccf_remove_any (G := G0) (c := t0) (by decide) 5 rfl

/-- why `Inv` asks for counts ≥ 1: a bin with count 0 is reported absent by `check`, yet `remove`
    drops it and answers `true` (such a bin is never produced by the operations) -/
example : let bad : Cuckoo := ⟨true, 3, 2, 5, 2, false, 8, [[(3, 0)], [], []], 0, 1⟩
    check G0 bad 3 = 0 ∧ remove G0 bad 3 ≠ (bad, false) := by decide +kernel

private def ops0 : List Op :=
  [.add 3, .add 3, .add 4, .remove 3, .add 259, .remove 7, .remove 4, .remove 4, .add 6]

example : NoKick G0 (Cuckoo.new true 3 2 5 2 false 8, [1, 2]) ops0 := by decide +kernel
example : outstanding (Cuckoo.new true 3 2 5 2 false 8).fingerprint ops0 3 = 2 ∧
    outstanding (Cuckoo.new true 3 2 5 2 false 8).fingerprint ops0 4 = 0 ∧
    outstanding (Cuckoo.new true 3 2 5 2 false 8).fingerprint ops0 6 = 1 ∧
    outstanding (Cuckoo.new true 3 2 5 2 false 8).fingerprint ops0 7 = 0 := by decide +kernel
example : (run G0 (Cuckoo.new true 3 2 5 2 false 8) [1, 2] ops0).1.buckets = [[(3, 2), (6, 1)], [], []] := by decide +kernel
example := ccf_run (inv_new G0 3 2 5 2 false 8 (by decide)) [1, 2] ops0 (by decide)

/-- fingerprints 3 and 6 have bucket 0 as both their buckets, and it has one slot -/
example : ¬ NoKick G0 (Cuckoo.new true 3 1 5 2 false 8, []) [.add 3, .add 6] := by decide +kernel

/-- `0 < rate` in `C08_ccf_exact_with_kicks_statement` is needed: with `rate = 0` and `auto = true` the
    second add expands to a table without buckets, reports no error, and both keys are lost -/
example : AllAddsOk G0 (Cuckoo.new true 1 1 1 0 true 8, []) [.add 1, .add 2] ∧
    check G0 (run G0 (Cuckoo.new true 1 1 1 0 true 8) [] [.add 1, .add 2]).1 1 = 0 ∧
    outstanding (Cuckoo.new true 1 1 1 0 true 8).fingerprint [.add 1, .add 2] 1 = 1 := by decide +kernel

end Tests

end PyProb.Ccf
