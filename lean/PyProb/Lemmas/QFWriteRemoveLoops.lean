/-
  The two simple loops of `_remove_element`, on slots given by their distance from an origin:
  the walk back to the cluster start (`removeMinIdx`) and the left shift (`removeShift`).
  No assumption on the table beyond the array lengths.  The left shift is followed through a
  relation (`VRel`) between the table it started from and the current one, which every iteration
  extends by one slot (`VRel.move`).
-/
import PyProb.Lemmas.QFLayoutLin

namespace PyProb.QFRem
open PyProb PyProb.QF PyProb.QFLin PyProb.Spec

theorem removeMinIdx_walk (u : QF) (n e : Nat) (hs : u.size = n) (hn : 0 < n) (c : Nat)
    (hc : u.isClusterStart (io n e c) = true) :
    ∀ k fuel, (∀ y, c < y → y ≤ c + k → u.isClusterStart (io n e y) = false) → k < fuel →
      removeMinIdx u fuel (io n e (c + k)) = .ok (io n e c) := by
  intro k
  induction k with
  | zero =>
      intro fuel _ hf
      obtain ⟨fuel, rfl⟩ : ∃ f', fuel = f' + 1 := ⟨fuel - 1, by omega⟩
      simp only [removeMinIdx, Nat.add_zero, hc, if_true]
  | succ k ih =>
      intro fuel hmid hf
      obtain ⟨fuel, rfl⟩ : ∃ f', fuel = f' + 1 := ⟨fuel - 1, by omega⟩
      have h1 := hmid (c + (k + 1)) (by omega) (Nat.le_refl _)
      simp only [removeMinIdx, h1, Bool.false_eq_true, if_false]
      rw [prv_io u n e _ hs hn (by omega), show c + (k + 1) - 1 = c + k by omega]
      exact ih fuel (fun y h2 h3 => hmid y h2 (by omega)) (by omega)

/-- the loop condition of the left shift -/
def goOn (u : QF) (a : Nat) : Bool := !u.isClusterStart a && !u.isEmpty a

theorem goOn_eq_not (u : QF) (a : Nat) : goOn u a = !(u.isEmpty a || u.isClusterStart a) := by
  simp only [goOn]
  cases u.isEmpty a <;> cases u.isClusterStart a <;> rfl

/-- one move of the left shift: slot `idx` takes the remainder and the shifted bit of slot `next`,
    and the continuation bit `c` -/
def moveLeft (u : QF) (idx next : Nat) (c : Bool) : QF :=
  { u with rem := u.rem.set idx (u.remAt next), cont := u.cont.set idx c,
           shift := u.shift.set idx (bit u.shift next) }

theorem removeShift_succ (fuel : Nat) (u : QF) (idx next : Nat) :
    removeShift (fuel + 1) u idx next =
      if goOn u next then removeShift fuel (moveLeft u idx next (bit u.cont next)) next (u.nxt next)
      else .ok (u, idx, next) := rfl

/-- `v` is `s` with the slots `P … Z - 1` overwritten by their right neighbours, the continuation
    bit of slot `P` being `c0` -/
structure VRel (s v : QF) (n e P Z : Nat) (c0 : Bool) : Prop where
  q : v.q = s.q
  auto : v.auto = s.auto
  count : v.count = s.count
  occ : v.occ = s.occ
  lrem : v.rem.length = n
  lcont : v.cont.length = n
  lshift : v.shift.length = n
  rem : ∀ y, y < n → v.remAt (io n e y) =
    if P ≤ y ∧ y < Z then s.remAt (io n e (y + 1)) else s.remAt (io n e y)
  cont : ∀ y, y < n → bit v.cont (io n e y) =
    if P ≤ y ∧ y < Z then (if y = P then c0 else bit s.cont (io n e (y + 1))) else bit s.cont (io n e y)
  shift : ∀ y, y < n → bit v.shift (io n e y) =
    if P ≤ y ∧ y < Z then bit s.shift (io n e (y + 1)) else bit s.shift (io n e y)

theorem set_extends {α : Type} (f h g : Nat → α) (P X y : Nat) (v : α) (hPX : P ≤ X)
    (hg : g y = if P ≤ y ∧ y < X then h y else f y) (hv : v = h X) :
    (if X = y then v else g y) = if P ≤ y ∧ y < X + 1 then h y else f y := by
  by_cases hXy : X = y
  · subst hXy
    rw [if_pos rfl, if_pos ⟨hPX, Nat.lt_succ_self _⟩, hv]
  · rw [if_neg hXy, hg]
    by_cases hc : P ≤ y ∧ y < X
    · rw [if_pos hc, if_pos ⟨hc.1, Nat.lt_succ_of_lt hc.2⟩]
    · rw [if_neg hc, if_neg (by omega)]

section shift
variable {s u : QF} {n e P X : Nat} {c0 : Bool}

theorem VRel.refl (s : QF) (n e P : Nat) (c0 : Bool) (l1 : s.rem.length = n) (l3 : s.cont.length = n)
    (l4 : s.shift.length = n) : VRel s s n e P P c0 :=
  ⟨rfl, rfl, rfl, rfl, l1, l3, l4, fun _ _ => by rw [if_neg (by omega)], fun _ _ => by rw [if_neg (by omega)],
    fun _ _ => by rw [if_neg (by omega)]⟩

theorem VRel.behind (V : VRel s u n e P X c0) (y : Nat) (hy : y < n) (hXy : X ≤ y) :
    u.remAt (io n e y) = s.remAt (io n e y) ∧ bit u.cont (io n e y) = bit s.cont (io n e y) ∧
      bit u.shift (io n e y) = bit s.shift (io n e y) := by
  have h : ¬ (P ≤ y ∧ y < X) := by omega
  have h1 := V.rem y hy
  have h2 := V.cont y hy
  have h3 := V.shift y hy
  rw [if_neg h] at h1 h2 h3
  exact ⟨h1, h2, h3⟩

theorem VRel.goOn (V : VRel s u n e P X c0) (y : Nat) (hy : y < n) (hXy : X ≤ y) :
    goOn u (io n e y) = goOn s (io n e y) := by
  obtain ⟨_, h2, h3⟩ := V.behind y hy hXy
  simp only [QFRem.goOn, isClusterStart, isEmpty, V.occ, h2, h3]

theorem VRel.move (V : VRel s u n e P X c0) (hPX : P ≤ X) (hX : X + 1 < n) (c : Bool)
    (hc : c = if X = P then c0 else bit s.cont (io n e (X + 1))) :
    VRel s (moveLeft u (io n e X) (io n e (X + 1)) c) n e P (X + 1) c0 := by
  obtain ⟨b1, _, b3⟩ := V.behind (X + 1) hX (Nat.le_succ X)
  have hXn : X < n := by omega
  refine ⟨V.q, V.auto, V.count, V.occ, ?_, ?_, ?_, ?_, ?_, ?_⟩
  · exact (List.length_set ..).trans V.lrem
  · exact (List.length_set ..).trans V.lcont
  · exact (List.length_set ..).trans V.lshift
  · intro y hy
    exact (getD_set_io u.rem n e X y _ 0 V.lrem hXn hy).trans
      (set_extends (fun y => s.remAt (io n e y)) (fun y => s.remAt (io n e (y + 1)))
        (fun y => u.remAt (io n e y)) P X y _ hPX (V.rem y hy) b1)
  · intro y hy
    exact (bit_set_io u.cont n e X y _ V.lcont hXn hy).trans
      (set_extends (fun y => bit s.cont (io n e y)) (fun y => if y = P then c0 else bit s.cont (io n e (y + 1)))
        (fun y => bit u.cont (io n e y)) P X y _ hPX (V.cont y hy) hc)
  · intro y hy
    exact (bit_set_io u.shift n e X y _ V.lshift hXn hy).trans
      (set_extends (fun y => bit s.shift (io n e y)) (fun y => bit s.shift (io n e (y + 1)))
        (fun y => bit u.shift (io n e y)) P X y _ hPX (V.shift y hy) b3)

/-- the left shift, started on a table in which `[P, X)` has been shifted already, runs as long as
    the slots of `s` are neither empty nor cluster starts -/
theorem removeShift_run (hs : s.size = n) :
    ∀ t X fuel (u : QF) Z, VRel s u n e P X c0 → P ≤ X → (X = P → c0 = bit s.cont (io n e (X + 1))) →
      Z = X + t → Z + 1 < n →
      (∀ y, X < y → y ≤ Z → (s.isEmpty (io n e y) || s.isClusterStart (io n e y)) = false) →
      (s.isEmpty (io n e (Z + 1)) || s.isClusterStart (io n e (Z + 1))) = true → t < fuel →
      ∃ v, removeShift fuel u (io n e X) (io n e (X + 1)) = .ok (v, io n e Z, io n e (Z + 1)) ∧
        VRel s v n e P Z c0 := by
  intro t
  induction t with
  | zero =>
      intro X fuel u Z V _ _ hZ hZn _ hend hf
      obtain ⟨fuel, rfl⟩ : ∃ f', fuel = f' + 1 := ⟨fuel - 1, by omega⟩
      subst hZ
      rw [removeShift_succ, V.goOn (Z + 1) hZn (Nat.le_succ Z), goOn_eq_not, hend]
      exact ⟨u, rfl, V⟩
  | succ t ih =>
      intro X fuel u Z V hPX hc0 hZ hZn hmid hend hf
      obtain ⟨fuel, rfl⟩ : ∃ f', fuel = f' + 1 := ⟨fuel - 1, by omega⟩
      have hX : X + 1 < n := by omega
      have hus : u.size = n := by rw [← hs]; simp only [QF.size, V.q]
      rw [removeShift_succ, V.goOn (X + 1) hX (Nat.le_succ X), goOn_eq_not,
        hmid (X + 1) (Nat.lt_succ_self X) (by omega), nxt_io u n e (X + 1) hus]
      apply ih (X + 1) fuel _ Z (V.move hPX hX _ ?_) (by omega) (fun h => by omega) (by omega) hZn
        (fun y h1 h2 => hmid y (by omega) h2) hend (by omega)
      rw [(V.behind (X + 1) hX (Nat.le_succ X)).2.1]
      by_cases h : X = P
      · rw [if_pos h, hc0 h]
      · rw [if_neg h]

end shift

section whole
variable {s : QF} {n e P Z : Nat}

/-- the left shift from slot `P` to the last slot `Z` of the cluster -/
theorem removeShift_plain (hs : s.size = n) (l1 : s.rem.length = n) (l3 : s.cont.length = n)
    (l4 : s.shift.length = n) (hPZ : P ≤ Z) (hZn : Z + 1 < n) (fuel : Nat) (hf : Z - P < fuel)
    (hin : ∀ y, P < y → y ≤ Z → (s.isEmpty (io n e y) || s.isClusterStart (io n e y)) = false)
    (hend : (s.isEmpty (io n e (Z + 1)) || s.isClusterStart (io n e (Z + 1))) = true) :
    ∃ v, removeShift fuel s (io n e P) (io n e (P + 1)) = .ok (v, io n e Z, io n e (Z + 1)) ∧
      VRel s v n e P Z (bit s.cont (io n e (P + 1))) :=
  removeShift_run hs (Z - P) P fuel s Z (VRel.refl s n e P _ l1 l3 l4) (Nat.le_refl _) (fun _ => rfl)
    (by omega) hZn hin hend hf

/-- the same after the "edge case for first move", which has moved slot `P + 1` to slot `P` and
    cleared the continuation bit -/
theorem removeShift_first (hs : s.size = n) (l1 : s.rem.length = n) (l3 : s.cont.length = n)
    (l4 : s.shift.length = n) (hPZ : P < Z) (hZn : Z + 1 < n) (fuel : Nat) (hf : Z - P < fuel)
    (hin : ∀ y, P < y → y ≤ Z → (s.isEmpty (io n e y) || s.isClusterStart (io n e y)) = false)
    (hend : (s.isEmpty (io n e (Z + 1)) || s.isClusterStart (io n e (Z + 1))) = true) :
    ∃ v, removeShift fuel (moveLeft s (io n e P) (io n e (P + 1)) false) (io n e (P + 1)) (io n e (P + 1 + 1)) =
        .ok (v, io n e Z, io n e (Z + 1)) ∧
      VRel s v n e P Z false :=
  removeShift_run hs (Z - (P + 1)) (P + 1) fuel _ Z
    ((VRel.refl s n e P false l1 l3 l4).move (Nat.le_refl _) (by omega) false (if_pos rfl).symm)
    (Nat.le_succ _) (fun h => absurd h (Nat.succ_ne_self P)) (by omega) hZn
    (fun y h1 h2 => hin y (by omega) h2) hend (by omega)

end whole

end PyProb.QFRem
