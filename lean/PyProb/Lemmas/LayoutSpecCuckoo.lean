/-
  Bridges between the model's codecs (`Model/Base.lean`) and the independently written layout
  specification (`Spec/Layout.lean`), cuckoo family: buckets.
-/
import PyProb.Lemmas.LayoutSpecCommon
import PyProb.Lemmas.FormatsCuckoo

namespace PyProb

/-- empty slots are written as zero bytes -/
theorem flatMap_replicate_zeros {α} (f : α → Bytes) (a : α) (k : Nat) (h : f a = List.replicate k 0) (n : Nat) :
    (List.replicate n a).flatMap f = List.replicate (n * k) 0 := by
  induction n with
  | zero =>
      rw [Nat.zero_mul]
      rfl
  | succ n ih =>
      rw [List.replicate_succ, List.flatMap_cons, ih, h, Nat.succ_mul, Nat.add_comm (n * k) k,
        List.replicate_append_replicate]

theorem bucketBytes_plain_spec (b : Nat) (bkt : List CBin) :
    bucketBytes false b bkt = (bkt.map (fun s : CBin => s.1) ++ List.replicate (b - bkt.length) 0).flatMap Spec.u32le := by
  simp only [bucketBytes, cuckooW, Bool.false_eq_true, if_false, List.flatMap_append,
    flatMap_replicate_zeros Spec.u32le 0 4 rfl, List.flatMap_map]
  congr 1
  apply flatMap_congr_left
  intro x _; simp only [binBytes, Bool.false_eq_true, if_false, leBytes4_eq]

theorem bucketBytes_counting_spec (b : Nat) (bkt : List CBin) :
    bucketBytes true b bkt =
      (bkt ++ List.replicate (b - bkt.length) (0, 0)).flatMap fun s : CBin => Spec.u32le s.1 ++ Spec.u32le s.2 := by
  simp only [bucketBytes, cuckooW, if_true, List.flatMap_append, flatMap_replicate_zeros (fun s : Nat × Nat => Spec.u32le s.1 ++ Spec.u32le s.2) (0, 0) 8 rfl]
  congr 1
  apply flatMap_congr_left
  intro x _; simp only [binBytes, if_true, leBytes4_eq]

end PyProb
