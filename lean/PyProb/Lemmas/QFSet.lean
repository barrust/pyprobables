/-
  Finite sets as strictly sorted lists (`Spec.insertBy`, `List.erase`): membership, sortedness,
  extensionality, transport along order-preserving maps; the two orders used by the quotient
  filter (`ltE` on (quotient, remainder) pairs, `ltN` on hashes) and the hash/element bijection.
-/
import PyProb.Spec.QF

namespace PyProb.Spec

structure StrictTotal {α : Type} (lt : α → α → Bool) : Prop where
  irrefl : ∀ a, lt a a = false
  trans : ∀ a b c, lt a b = true → lt b c = true → lt a c = true
  tri : ∀ a b, lt a b = true ∨ a = b ∨ lt b a = true

theorem StrictTotal.ne {α : Type} {lt : α → α → Bool} (ho : StrictTotal lt) {a b : α}
    (h : lt a b = true) : a ≠ b := by
  intro e; subst e; rw [ho.irrefl] at h; cases h

theorem StrictTotal.asymm {α : Type} {lt : α → α → Bool} (ho : StrictTotal lt) {a b : α}
    (h : lt a b = true) : lt b a = false :=
  Bool.eq_false_iff.2 fun h' => ho.ne (ho.trans _ _ _ h h') rfl

theorem pw_ext {α : Type} {R : α → α → Prop} : ∀ (l₁ l₂ : List α), l₁.Pairwise R → l₂.Pairwise R →
    (∀ a, a ∈ l₁ ↔ a ∈ l₂) → (∀ a b, a ∈ l₁ → b ∈ l₁ → R a b → R b a → False) → l₁ = l₂ := by
  intro l₁ l₂ h₁ h₂ h hasym
  -- `R` is irreflexive on the members, so neither list has duplicates
  have nd : ∀ l : List α, (∀ a, a ∈ l → a ∈ l₁) → l.Pairwise R → l.Nodup := fun l hl hp =>
    hp.imp_of_mem (fun ha _ hab e => by subst e; exact hasym _ _ (hl _ ha) (hl _ ha) hab hab)
  have hperm : l₁.Perm l₂ :=
    (List.perm_ext_iff_of_nodup (nd l₁ (fun _ ha => ha) h₁) (nd l₂ (fun a ha => (h a).2 ha) h₂)).2 h
  exact hperm.eq_of_pairwise (fun a b ha hb hab hba => (hasym a b ha ((h b).2 hb) hab hba).elim) h₁ h₂

section generic
variable {α : Type} [DecidableEq α] {lt : α → α → Bool}

theorem mem_insertBy (x a : α) (l : List α) : a ∈ insertBy lt x l ↔ a = x ∨ a ∈ l := by
  induction l with
  | nil => simp only [insertBy, List.mem_singleton, List.not_mem_nil, or_false]
  | cons y ys ih =>
      simp only [insertBy]
      split
      · exact List.mem_cons
      · split
        · rename_i h; subst h; simp only [List.mem_cons, or_self_left]
        · simp only [List.mem_cons, ih]; exact or_left_comm

omit [DecidableEq α] in
theorem sorted_cons {a : α} {l : List α} :
    SortedBy lt (a :: l) ↔ (∀ b ∈ l, lt a b = true) ∧ SortedBy lt l := by
  simp [SortedBy, List.pairwise_cons]

theorem sorted_insertBy (ho : StrictTotal lt) (x : α) (l : List α) (hl : SortedBy lt l) :
    SortedBy lt (insertBy lt x l) := by
  induction l with
  | nil => simp [insertBy, SortedBy]
  | cons y ys ih =>
      rw [sorted_cons] at hl
      simp only [insertBy]
      split
      · rename_i hxy
        rw [sorted_cons]
        refine ⟨?_, sorted_cons.2 hl⟩
        intro b hb
        rcases List.mem_cons.1 hb with h | h
        · subst h; exact hxy
        · exact ho.trans _ _ _ hxy (hl.1 b h)
      · rename_i hxy
        split
        · exact sorted_cons.2 hl
        · rename_i hne
          rw [sorted_cons]
          refine ⟨?_, ih hl.2⟩
          intro b hb
          rcases (mem_insertBy x b ys).1 hb with h | h
          · subst h
            rcases ho.tri b y with h | h | h
            · exact absurd h hxy
            · exact absurd h hne
            · exact h
          · exact hl.1 b h

theorem length_insertBy_of_not_mem (x : α) (l : List α) (h : x ∉ l) :
    (insertBy lt x l).length = l.length + 1 := by
  induction l with
  | nil => simp [insertBy]
  | cons y ys ih =>
      simp only [List.mem_cons, not_or] at h
      simp only [insertBy]
      split
      · simp
      · rw [if_neg h.1]; simp [ih h.2]

theorem insertBy_of_mem (ho : StrictTotal lt) (x : α) (l : List α) (hl : SortedBy lt l) (h : x ∈ l) :
    insertBy lt x l = l := by
  induction l with
  | nil => exact nomatch h
  | cons y ys ih =>
      rw [sorted_cons] at hl
      rw [insertBy]
      rcases List.mem_cons.1 h with rfl | h
      · rw [ho.irrefl, if_neg Bool.false_ne_true, if_pos rfl]
      · have hyx := hl.1 x h
        rw [ho.asymm hyx, if_neg Bool.false_ne_true, if_neg (ho.ne hyx).symm, ih hl.2 h]

omit [DecidableEq α] in
theorem sorted_nodup (ho : StrictTotal lt) {l : List α} (hl : SortedBy lt l) : l.Nodup :=
  List.Pairwise.imp ho.ne hl

theorem sorted_erase {l : List α} (hl : SortedBy lt l) (x : α) : SortedBy lt (l.erase x) :=
  List.Pairwise.sublist List.erase_sublist hl

theorem mem_erase_sorted (ho : StrictTotal lt) {l : List α} (hl : SortedBy lt l) (x a : α) :
    a ∈ l.erase x ↔ a ≠ x ∧ a ∈ l :=
  (sorted_nodup ho hl).mem_erase_iff

theorem length_erase_of_mem {l : List α} {x : α} (h : x ∈ l) : (l.erase x).length + 1 = l.length := by
  rw [List.length_erase_of_mem h]
  exact Nat.sub_add_cancel (List.length_pos_of_mem h)

omit [DecidableEq α] in
theorem sorted_ext (ho : StrictTotal lt) {l₁ l₂ : List α} (h₁ : SortedBy lt l₁) (h₂ : SortedBy lt l₂)
    (h : ∀ a, a ∈ l₁ ↔ a ∈ l₂) : l₁ = l₂ :=
  pw_ext l₁ l₂ h₁ h₂ h fun _ _ _ _ hab hba => Bool.false_ne_true ((ho.asymm hab).symm.trans hba)

theorem insertBy_erase [BEq α] [LawfulBEq α] (ho : StrictTotal lt) {l : List α} (hl : SortedBy lt l)
    {x : α} (h : x ∈ l) : insertBy lt x (l.erase x) = l := by
  apply sorted_ext ho (sorted_insertBy ho x _ (hl.sublist List.erase_sublist)) hl
  intro a
  rw [mem_insertBy, (sorted_nodup ho hl).mem_erase_iff]
  by_cases e : a = x
  · simp only [e, h, true_or]
  · simp only [e, ne_eq, not_false_eq_true, true_and, false_or]

end generic

theorem map_insertBy {α β : Type} [DecidableEq α] [DecidableEq β] {lt : α → α → Bool}
    {lt' : β → β → Bool} (f : α → β) (x : α) (l : List α)
    (hlt : ∀ y ∈ l, lt' (f x) (f y) = lt x y) (hinj : ∀ y ∈ l, f x = f y → x = y) :
    (insertBy lt x l).map f = insertBy lt' (f x) (l.map f) := by
  induction l with
  | nil => rfl
  | cons y ys ih =>
      have ih' := ih (fun z hz => hlt z (List.mem_cons_of_mem _ hz))
        (fun z hz => hinj z (List.mem_cons_of_mem _ hz))
      rw [List.map_cons, insertBy, insertBy, hlt y (List.mem_cons_self ..)]
      split
      · rfl
      · by_cases e : x = y
        · rw [if_pos e, if_pos (congrArg f e)]; rfl
        · rw [if_neg e, if_neg (fun h => e (hinj y (List.mem_cons_self ..) h)), List.map_cons, ih']

theorem ltN_total : StrictTotal ltN where
  irrefl := by intro a; simp [ltN]
  trans := by intro a b c; simp only [ltN, decide_eq_true_eq]; omega
  tri := by intro a b; simp only [ltN, decide_eq_true_eq]; omega

theorem ltE_iff (a b : Elem) : ltE a b = true ↔ a.1 < b.1 ∨ (a.1 = b.1 ∧ a.2 < b.2) := by
  simp [ltE]

theorem ltE_total : StrictTotal ltE where
  irrefl a := Bool.eq_false_iff.2 fun h =>
    ((ltE_iff a a).1 h).elim (Nat.lt_irrefl _) fun h' => Nat.lt_irrefl _ h'.2
  trans a b c := by
    simp only [ltE_iff]
    rintro (h1 | ⟨h1, h2⟩) (h3 | ⟨h3, h4⟩)
    · exact Or.inl (Nat.lt_trans h1 h3)
    · exact Or.inl (h3 ▸ h1)
    · exact Or.inl (h1 ▸ h3)
    · exact Or.inr ⟨h1.trans h3, Nat.lt_trans h2 h4⟩
  tri a b := by
    simp only [ltE_iff, Prod.ext_iff]
    rcases Nat.lt_trichotomy a.1 b.1 with h | h | h
    · exact Or.inl (Or.inl h)
    · rcases Nat.lt_trichotomy a.2 b.2 with h' | h' | h'
      · exact Or.inl (Or.inr ⟨h, h'⟩)
      · exact Or.inr (Or.inl ⟨h, h'⟩)
      · exact Or.inr (Or.inr (Or.inr ⟨h.symm, h'⟩))
    · exact Or.inr (Or.inr (Or.inl h))

theorem two_pow_split (q : Nat) (hq : q ≤ 32) : 2 ^ q * 2 ^ (32 - q) = 2 ^ 32 := by
  rw [← Nat.pow_add, Nat.add_sub_cancel' hq]

theorem dec_fst_lt (q h : Nat) (hq : q ≤ 32) (hh : h < 2 ^ 32) : (dec q h).1 < 2 ^ q := by
  simp only [dec]
  rw [Nat.div_lt_iff_lt_mul (Nat.two_pow_pos _), two_pow_split q hq]
  exact hh

theorem dec_snd_lt (q h : Nat) : (dec q h).2 < 2 ^ (32 - q) := Nat.mod_lt _ (Nat.two_pow_pos _)

theorem enc_dec (q h : Nat) : enc q (dec q h) = h := by
  simp only [enc, dec]
  rw [Nat.mul_comm]; exact Nat.div_add_mod _ _

theorem dec_enc (q : Nat) (x : Elem) (hx : x.2 < 2 ^ (32 - q)) : dec q (enc q x) = x := by
  rcases x with ⟨a, b⟩
  simp only [enc, dec] at *
  have hp : 0 < 2 ^ (32 - q) := Nat.two_pow_pos _
  congr 1
  · rw [Nat.mul_comm, Nat.mul_add_div hp, Nat.div_eq_of_lt hx]; rfl
  · rw [Nat.mul_comm, Nat.mul_add_mod, Nat.mod_eq_of_lt hx]

theorem dec_inj (q a b : Nat) (h : dec q a = dec q b) : a = b := by
  rw [← enc_dec q a, ← enc_dec q b, h]

theorem lt_iff_div_mod (a b P : Nat) :
    a < b ↔ a / P < b / P ∨ (a / P = b / P ∧ a % P < b % P) := by
  have ha := Nat.div_add_mod a P
  have hb := Nat.div_add_mod b P
  constructor
  · intro h
    rcases Nat.lt_or_eq_of_le (Nat.div_le_div_right (c := P) (Nat.le_of_lt h)) with hlt | he
    · exact Or.inl hlt
    · rw [he] at ha; exact Or.inr ⟨he, by omega⟩
  · rintro (h | ⟨he, h⟩)
    · exact Nat.lt_of_div_lt_div h
    · rw [he] at ha; omega

theorem ltE_dec (q a b : Nat) : ltE (dec q a) (dec q b) = ltN a b := by
  rw [Bool.eq_iff_iff, ltE_iff, ltN, decide_eq_true_iff]
  exact (lt_iff_div_mod a b _).symm

theorem pairs_insertN (q h : Nat) (H : List Nat) :
    pairs q (insertN h H) = insert (dec q h) (pairs q H) := by
  unfold pairs insertN insert
  apply map_insertBy
  · intro y _; exact ltE_dec q h y
  · intro y _ e; exact dec_inj q _ _ e

theorem pairs_sorted (q : Nat) (H : List Nat) (hH : SortedN H) : Sorted (pairs q H) := by
  unfold pairs
  simp only [SortedBy] at *
  rw [List.pairwise_map]
  exact List.Pairwise.imp (fun {a b} h => by rw [ltE_dec]; exact h) hH

theorem mem_pairs (q h : Nat) (H : List Nat) : dec q h ∈ pairs q H ↔ h ∈ H := by
  unfold pairs
  rw [List.mem_map]
  constructor
  · rintro ⟨a, ha, e⟩; rw [← dec_inj q _ _ e]; exact ha
  · intro hh; exact ⟨h, hh, rfl⟩

theorem pairs_erase (q h : Nat) (H : List Nat) : pairs q (H.erase h) = erase (dec q h) (pairs q H) := by
  unfold pairs erase
  induction H with
  | nil => simp
  | cons y ys ih =>
      by_cases e : y = h
      · subst e; simp
      · have : dec q y ≠ dec q h := fun hh => e (dec_inj q _ _ hh)
        rw [List.erase_cons_tail (by simpa using e), List.map_cons, List.map_cons,
          List.erase_cons_tail (by simpa using this), ih]

theorem map_enc_pairs (q : Nat) (H : List Nat) : (pairs q H).map (enc q) = H := by
  unfold pairs
  rw [List.map_map]
  conv => rhs; rw [← List.map_id H]
  apply List.map_congr_left
  intro a _; exact enc_dec q a

end PyProb.Spec
