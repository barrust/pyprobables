/-
  The recursion budget of the quotient filter's `add_alt` / `resize` / `merge` never runs out.

  The model (`PyProb/Model/QF.lean`) gives the three mutually recursive functions `addAlt`, `addAll`,
  `resize` an explicit budget and reports `Err.diverged` when it is used up.  `C04_exact_set` speaks
  about histories in which no call raised.  This file closes the gap: on every canonical state
  (`C04.Inv`: the state is `layout q auto (pairs q H)` with `H` strictly sorted 32-bit hashes,
  `|H| < 2^q`, `3 ≤ q ≤ 31`) the three functions return normally or raise `QuotientFilterError`,
  they never report `diverged`, as soon as

    * `addAlt b s h`      : `|H| + 3 ≤ b`
    * `resize b s qn`     : `2·|H| + 3 ≤ b`
    * `addAll b s hs`     : `|H| + 2·|hs| + 2 ≤ b`

  (all three bounds are attained, see the tests at the end), and the budgets of the model,
  `budgetOf s = 4·count + 128` for `add`/`resize` and `budgetOf s + 4·|hs|` for `merge`, satisfy them.

  The reason: re-inserting `|H| < 2^q` hashes into a table with `2^(q+1)` slots never reaches the load
  factor 0.85 and never fills the table, so an automatic resize does not nest
  (`addAlt → resize → addAll → addAlt → _add`); a manual resize to a small table can trigger
  automatic ones during the re-insertion, which are of that non-nesting kind.  At `q = 31` the
  automatic resize raises `QuotientFilterError` (quotient 32 is refused) and `add` propagates it.

  Main theorems: `QF.addAlt_no_diverge`, `QF.resize_no_diverge`, `QF.merge_no_diverge` (explicit
  hypotheses on the canonical table), `QF.addAlt_budgetOf`, `QF.resize_budgetOf`;
  `QF.step_no_diverge` (every state reached from `QuotientFilter(q, auto)` by a history that did not
  raise — in the sense of `C04.run` — answers every further call, with the model's budget or any
  larger one, normally or with `QuotientFilterError`); `QF.runB_no_diverge` (a whole history run with
  the model's own per-call budgets never reports `diverged`).
-/
import PyProb.Properties.C04

namespace PyProb.QF
open PyProb PyProb.Spec PyProb.C04

/-- the call returned normally or raised `QuotientFilterError` — in particular it did not diverge -/
def Good (r : R QF) : Prop := (∃ t, r = .ok t) ∨ r = .error .qfError

theorem Good.ne_diverged {r : R QF} (h : Good r) : r ≠ .error .diverged := by
  rcases h with ⟨t, rfl⟩ | rfl <;> intro h <;> cases h

theorem inv_budgetOf {auto : Bool} {s : QF} {a : Abs} (hI : Inv auto s a) :
    budgetOf s = 4 * a.H.length + 128 := by
  simp only [budgetOf, inv_count hI, Int.toNat_natCast]

theorem length_insertN_le (h : Nat) (H : List Nat) (hs : SortedN H) :
    (insertN h H).length ≤ H.length + 1 := by
  rw [length_insertN hs]; split <;> omega

theorem foldl_absAdd_H (auto : Bool) (l : List Nat) (a : Abs) :
    (l.foldl (absAdd auto) a).H = l.foldl (fun H h => insertN h H) a.H :=
  C04.foldl_absAdd_H auto l a

/-- re-insertion into a table that stays at most half full: no automatic resize, no refusal; one
    budget unit per hash and one for the end of the list suffice -/
theorem addAll_half (auto : Bool) : ∀ (hs : List Nat) (b : Nat) (s : QF) (a : Abs) (q' : Nat),
    Inv auto s a → a.q = q' + 1 → (∀ h ∈ hs, h < 2 ^ 32) → a.H.length + hs.length ≤ 2 ^ q' →
    hs.length + 1 ≤ b →
    ∃ t, addAll b s hs = (t, none) ∧
      Inv auto t ⟨a.q, hs.foldl (fun H h => insertN h H) a.H⟩ := by
  intro hs
  induction hs with
  | nil =>
      intro b s a q' hI _ _ _ hb
      obtain ⟨b, rfl⟩ : ∃ b', b = b' + 1 := ⟨b - 1, by omega⟩
      exact ⟨s, by rw [addAll], hI⟩
  | cons h hs ih =>
      intro b s a q' hI hq hr hlen hb
      simp only [List.length_cons] at hlen hb
      obtain ⟨b, rfl⟩ : ∃ b', b = b' + 2 := ⟨b - 2, by omega⟩
      have hno : (s.auto && s.overLoaded) = false := by
        rw [inv_overLoaded hI, hq, over_false_of_half q' _ (by omega)]; simp
      have hp : 2 ^ (q' + 1) = 2 * 2 ^ q' := by rw [Nat.pow_succ]; omega
      rcases addTail_spec C04_contained C04_B1_add C04_B2_remove hI (hr h (by simp)) with ⟨t, ht, hIt⟩ | ⟨_, _, hfull⟩
      · have hl := length_insertN_le h a.H hI.sorted
        obtain ⟨t', ht', hIt'⟩ := ih (b + 1) t ⟨a.q, insertN h a.H⟩ q' hIt hq
          (fun x hx => hr x (List.mem_cons_of_mem _ hx))
          (by show (insertN h a.H).length + hs.length ≤ 2 ^ q'; omega) (by omega)
        refine ⟨t', ?_, ?_⟩
        · rw [addAll, addAlt_noresize b s h hno, ht]; exact ht'
        · rw [List.foldl_cons]; exact hIt'
      · rw [hq, hp] at hfull; omega

/-- the automatic resize (`resize()` with no argument) of a canonical table needs one budget unit
    per stored hash and two more: it yields the canonical table of the same set in the table twice as
    large, or raises `QuotientFilterError` when the table already has `2^31` slots -/
theorem resize_none_spec {auto : Bool} {s : QF} {a : Abs} (hI : Inv auto s a) (b : Nat)
    (hb : a.H.length + 2 ≤ b) :
    (a.q < 31 ∧ ∃ t, QF.resize b s none = .ok t ∧ Inv auto t ⟨a.q + 1, a.H⟩) ∨
    (a.q = 31 ∧ QF.resize b s none = .error .qfError) := by
  obtain ⟨b, rfl⟩ : ∃ b', b = b' + 1 := ⟨b - 1, by omega⟩
  have hroom := hI.room
  have hp : 2 ^ (a.q + 1) = 2 * 2 ^ a.q := by rw [Nat.pow_succ]; omega
  have h31 := hI.q31
  have h3 := hI.q3
  rcases resize_cases C04_hashes hI b none with ⟨he, hn⟩ | ⟨q', l, hq', _, h31', _, hp', he⟩
  · right
    refine ⟨?_, he⟩
    simp only [Option.getD_none] at hn
    rw [show ((a.q : Int) + 1).toNat = a.q + 1 by omega] at hn
    by_cases h : a.q = 31
    · exact h
    · exact absurd ⟨by omega, by omega, by omega⟩ hn
  · left
    simp only [Option.getD_none] at hq'
    have hq : q' = a.q + 1 := by omega
    subst hq
    refine ⟨by omega, ?_⟩
    have hIe : Inv auto (QF.empty (a.q + 1) auto) ⟨a.q + 1, []⟩ := inv_empty auto _ (by omega) h31'
    obtain ⟨t, ht, hIt⟩ := addAll_half auto l b _ _ a.q hIe rfl
      (fun x hx => hI.range x (hp'.mem_iff.1 hx))
      (by simp only [List.length_nil, hp'.length_eq]; omega)
      (by rw [hp'.length_eq]; omega)
    refine ⟨t, ?_, ?_⟩
    · rw [he, ht]
    · have e : l.foldl (fun H h => insertN h H) [] = a.H := foldl_insertN_perm l a.H hI.sorted hp'
      simp only [e] at hIt
      exact hIt

/-- **`add_alt` never diverges** on a canonical table when given three budget units more than the
    table holds hashes, and its outcome is: with an automatic resize pending — `QuotientFilterError`
    when the table already has `2^31` slots, otherwise success in the doubled table; without —
    `QuotientFilterError` exactly for a new hash into a table with one free slot, otherwise success -/
theorem addAlt_outcome {auto : Bool} {s : QF} {a : Abs} (hI : Inv auto s a) {h : Nat}
    (hh : h < 2 ^ 32) {b : Nat} (hb : a.H.length + 3 ≤ b) :
    (∃ t, addAlt b s h = .ok t ∧ Inv auto t (absAdd auto a h)) ∨
    (addAlt b s h = .error .qfError ∧
      (((auto && over a.q a.H.length) = true ∧ a.q = 31) ∨
       ((auto && over a.q a.H.length) = false ∧ h ∉ a.H ∧ 2 ^ a.q ≤ a.H.length + 1))) := by
  obtain ⟨b, rfl⟩ : ∃ b', b = b' + 1 := ⟨b - 1, by omega⟩
  rw [addAlt_succ]
  have hauto : s.auto = auto := by rw [hI.eq]; rfl
  rw [hauto, inv_overLoaded hI]
  by_cases hc : (auto && over a.q a.H.length) = true
  · rw [if_pos hc]
    rcases resize_none_spec hI b (by omega) with ⟨_, t, ht, hIt⟩ | ⟨hq, he⟩
    · rw [ht]
      left
      rcases addTail_spec C04_contained C04_B1_add C04_B2_remove hIt hh with ⟨t', ht', hIt'⟩ | ⟨_, _, hfull⟩
      · refine ⟨t', ht', ?_⟩
        simp only [absAdd, hc, if_true]
        exact hIt'
      · have hp : 2 ^ (a.q + 1) = 2 * 2 ^ a.q := by rw [Nat.pow_succ]; omega
        have := hI.room
        simp only [hp] at hfull
        omega
    · rw [he]; exact Or.inr ⟨rfl, Or.inl ⟨hc, hq⟩⟩
  · rw [if_neg hc]
    rcases addTail_spec C04_contained C04_B1_add C04_B2_remove hI hh with ⟨t', ht', hIt'⟩ | ⟨he, hnm, hfull⟩
    · left
      refine ⟨t', ht', ?_⟩
      simp only [absAdd, hc]
      exact hIt'
    · exact Or.inr ⟨he, Or.inr ⟨by simpa using hc, hnm, hfull⟩⟩

theorem addAlt_spec {auto : Bool} {s : QF} {a : Abs} (hI : Inv auto s a) {h : Nat}
    (hh : h < 2 ^ 32) {b : Nat} (hb : a.H.length + 3 ≤ b) : Good (addAlt b s h) := by
  rcases addAlt_outcome hI hh hb with ⟨t, ht, _⟩ | ⟨he, _⟩
  · exact Or.inl ⟨t, ht⟩
  · exact Or.inr he

/-- the outcome of a list insertion: completed, or stopped by a `QuotientFilterError` -/
def GoodAll (r : QF × Option Err) : Prop := r.2 = none ∨ r.2 = some .qfError

/-- **the list insertion (`merge`, and the re-insertion of `resize`) never diverges** on a canonical
    table with budget `|H| + 2·|hs| + 2` -/
theorem addAll_spec (auto : Bool) : ∀ (hs : List Nat) (b : Nat) (s : QF) (a : Abs),
    Inv auto s a → (∀ h ∈ hs, h < 2 ^ 32) → a.H.length + 2 * hs.length + 2 ≤ b →
    GoodAll (addAll b s hs) := by
  intro hs
  induction hs with
  | nil =>
      intro b s a _ _ hb
      obtain ⟨b, rfl⟩ : ∃ b', b = b' + 1 := ⟨b - 1, by omega⟩
      rw [addAll]; exact Or.inl rfl
  | cons h hs ih =>
      intro b s a hI hr hb
      simp only [List.length_cons] at hb
      obtain ⟨b, rfl⟩ : ∃ b', b = b' + 1 := ⟨b - 1, by omega⟩
      have hh := hr h (by simp)
      rw [addAll]
      rcases addAlt_spec hI hh (b := b) (by omega) with ⟨t, ht⟩ | he
      · rw [ht]
        have hIt := (budget_inv C04_contained C04_hashes C04_B1_add C04_B2_remove auto b).1 s a h t hI hh ht
        have hl : (absAdd auto a h).H.length ≤ a.H.length + 1 := length_insertN_le h a.H hI.sorted
        exact ih b t _ hIt (fun x hx => hr x (List.mem_cons_of_mem _ hx)) (by omega)
      · rw [he]; exact Or.inr rfl

/-- **`resize` never diverges** on a canonical table with budget `2·|H| + 3`: it returns normally or
    raises `QuotientFilterError` -/
theorem resize_spec {auto : Bool} {s : QF} {a : Abs} (hI : Inv auto s a) (qn : Option Int) {b : Nat}
    (hb : 2 * a.H.length + 3 ≤ b) : Good (QF.resize b s qn) := by
  obtain ⟨b, rfl⟩ : ∃ b', b = b' + 1 := ⟨b - 1, by omega⟩
  rcases resize_cases C04_hashes hI b qn with ⟨he, _⟩ | ⟨q', l, _, h3, h31, _, hp, he⟩
  · exact Or.inr he
  · rw [he]
    have hIe : Inv auto (QF.empty q' auto) ⟨q', []⟩ := inv_empty auto _ h3 h31
    have := addAll_spec auto l b _ _ hIe (fun x hx => hI.range x (hp.mem_iff.1 hx))
      (by simp only [List.length_nil, hp.length_eq]; omega)
    cases hr : addAll b (QF.empty q' auto) l with
    | mk t oe =>
        rw [hr] at this
        rcases this with h | h
        · simp only at h; subst h; exact Or.inl ⟨t, rfl⟩
        · simp only at h; subst h; exact Or.inr rfl

/-! ### the model's own budgets: `budgetOf s` for `add_alt` and `resize`, `budgetOf s + 4·|hs|` for `merge` -/

theorem addAlt_budgetOf {auto : Bool} {s : QF} {a : Abs} (hI : Inv auto s a) {h : Nat}
    (hh : h < 2 ^ 32) {b : Nat} (hb : budgetOf s ≤ b) : Good (addAlt b s h) :=
  addAlt_spec hI hh (by rw [inv_budgetOf hI] at hb; omega)

theorem resize_budgetOf {auto : Bool} {s : QF} {a : Abs} (hI : Inv auto s a) (qn : Option Int)
    {b : Nat} (hb : budgetOf s ≤ b) : Good (QF.resize b s qn) :=
  resize_spec hI qn (by rw [inv_budgetOf hI] at hb; omega)

theorem addAll_budgetOf {auto : Bool} {s : QF} {a : Abs} (hI : Inv auto s a) {hs : List Nat}
    (hr : ∀ h ∈ hs, h < 2 ^ 32) {b : Nat} (hb : budgetOf s + 4 * hs.length ≤ b) :
    GoodAll (addAll b s hs) :=
  addAll_spec auto hs b s a hI hr (by rw [inv_budgetOf hI] at hb; omega)

/-! ### the statements on the canonical table, with explicit hypotheses -/

/-- **(a)** `add_alt` on the canonical table of a set `H` of 32-bit hashes (`|H| < 2^q`,
    `3 ≤ q ≤ 31`), auto-resize on or off, with budget at least `|H| + 3`: it returns normally or raises
    `QuotientFilterError`; it does not diverge -/
theorem addAlt_no_diverge (q : Nat) (auto : Bool) (H : List Nat) (h b : Nat) (h3 : 3 ≤ q)
    (h31 : q ≤ 31) (hs : SortedN H) (hr : ∀ x ∈ H, x < 2 ^ 32) (hl : H.length < 2 ^ q)
    (hh : h < 2 ^ 32) (hb : H.length + 3 ≤ b) :
    ((∃ t, addAlt b (layout q auto (pairs q H)) h = .ok t) ∨
      addAlt b (layout q auto (pairs q H)) h = .error .qfError) ∧
    addAlt b (layout q auto (pairs q H)) h ≠ .error .diverged := by
  have hI : Inv auto (layout q auto (pairs q H)) ⟨q, H⟩ := ⟨h3, h31, hs, hr, hl, rfl⟩
  have := addAlt_spec hI hh hb
  exact ⟨this, this.ne_diverged⟩

/-- … in particular with the model's budget `budgetOf s = 4·count + 128` -/
theorem addAlt_no_diverge_budgetOf (q : Nat) (auto : Bool) (H : List Nat) (h : Nat) (h3 : 3 ≤ q)
    (h31 : q ≤ 31) (hs : SortedN H) (hr : ∀ x ∈ H, x < 2 ^ 32) (hl : H.length < 2 ^ q)
    (hh : h < 2 ^ 32) :
    addAlt (budgetOf (layout q auto (pairs q H))) (layout q auto (pairs q H)) h ≠
      .error .diverged := by
  have hI : Inv auto (layout q auto (pairs q H)) ⟨q, H⟩ := ⟨h3, h31, hs, hr, hl, rfl⟩
  exact (addAlt_budgetOf hI hh (Nat.le_refl _)).ne_diverged

/-- **(b)** `resize(quotient)` (any argument, also none = double) on the canonical table with budget
    at least `2·|H| + 3`: it returns normally or raises `QuotientFilterError` -/
theorem resize_no_diverge (q : Nat) (auto : Bool) (H : List Nat) (qn : Option Int) (b : Nat)
    (h3 : 3 ≤ q) (h31 : q ≤ 31) (hs : SortedN H) (hr : ∀ x ∈ H, x < 2 ^ 32)
    (hl : H.length < 2 ^ q) (hb : 2 * H.length + 3 ≤ b) :
    ((∃ t, QF.resize b (layout q auto (pairs q H)) qn = .ok t) ∨
      QF.resize b (layout q auto (pairs q H)) qn = .error .qfError) ∧
    QF.resize b (layout q auto (pairs q H)) qn ≠ .error .diverged := by
  have hI : Inv auto (layout q auto (pairs q H)) ⟨q, H⟩ := ⟨h3, h31, hs, hr, hl, rfl⟩
  have := resize_spec hI qn hb
  exact ⟨this, this.ne_diverged⟩

theorem resize_no_diverge_budgetOf (q : Nat) (auto : Bool) (H : List Nat) (qn : Option Int)
    (h3 : 3 ≤ q) (h31 : q ≤ 31) (hs : SortedN H) (hr : ∀ x ∈ H, x < 2 ^ 32)
    (hl : H.length < 2 ^ q) :
    QF.resize (budgetOf (layout q auto (pairs q H))) (layout q auto (pairs q H)) qn ≠
      .error .diverged := by
  have hI : Inv auto (layout q auto (pairs q H)) ⟨q, H⟩ := ⟨h3, h31, hs, hr, hl, rfl⟩
  exact (resize_budgetOf hI qn (Nat.le_refl _)).ne_diverged

/-- **(c)** `merge` (the model's `QF.merge`, budget `budgetOf s + 4·|hs|`) of any list of 32-bit
    hashes into the canonical table: it completes or stops with `QuotientFilterError`; it never
    reports `diverged` -/
theorem merge_no_diverge (q : Nat) (auto : Bool) (H : List Nat) (hs : List Nat)
    (h3 : 3 ≤ q) (h31 : q ≤ 31) (hsH : SortedN H) (hr : ∀ x ∈ H, x < 2 ^ 32)
    (hl : H.length < 2 ^ q) (hhs : ∀ h ∈ hs, h < 2 ^ 32) :
    ((QF.merge (layout q auto (pairs q H)) hs).2 = none ∨
      (QF.merge (layout q auto (pairs q H)) hs).2 = some .qfError) ∧
    (QF.merge (layout q auto (pairs q H)) hs).2 ≠ some .diverged := by
  have hI : Inv auto (layout q auto (pairs q H)) ⟨q, H⟩ := ⟨h3, h31, hsH, hr, hl, rfl⟩
  have := addAll_budgetOf hI hhs (Nat.le_refl _)
  refine ⟨this, ?_⟩
  unfold QF.merge
  rcases this with h | h <;> rw [h] <;> intro h' <;> cases h'

/-- the explicit bound for the list insertion -/
theorem addAll_no_diverge (q : Nat) (auto : Bool) (H : List Nat) (hs : List Nat) (b : Nat)
    (h3 : 3 ≤ q) (h31 : q ≤ 31) (hsH : SortedN H) (hr : ∀ x ∈ H, x < 2 ^ 32)
    (hl : H.length < 2 ^ q) (hhs : ∀ h ∈ hs, h < 2 ^ 32) (hb : H.length + 2 * hs.length + 2 ≤ b) :
    (addAll b (layout q auto (pairs q H)) hs).2 = none ∨
      (addAll b (layout q auto (pairs q H)) hs).2 = some .qfError :=
  addAll_spec auto hs b _ ⟨q, H⟩ ⟨h3, h31, hsH, hr, hl, rfl⟩ hhs hb

/-- the budget the model gives a call: `budgetOf s`, and `budgetOf s + 4·|hs|` for `merge` -/
def opBudget (s : QF) : Op → Nat
  | .merge hs => budgetOf s + 4 * hs.length
  | _ => budgetOf s

/-- on a canonical state every public call, given the model's budget or more, returns normally or
    raises `QuotientFilterError` -/
theorem step_good {auto : Bool} {s : QF} {a : Abs} (hI : Inv auto s a) (op : Op)
    (hop : op.InRange) (b : Nat) (hb : opBudget s op ≤ b) : Good (step b s op) := by
  cases op with
  | add h => exact addAlt_budgetOf hI hop hb
  | remove h =>
      obtain ⟨t, ht, _⟩ := removeAlt_spec C04_contained C04_B1_add C04_B2_remove hI hop
      exact Or.inl ⟨t, ht⟩
  | resize qn => exact resize_budgetOf hI qn hb
  | merge hs =>
      have := addAll_budgetOf hI hop hb
      simp only [step]
      cases hr : addAll b s hs with
      | mk t oe =>
          rw [hr] at this
          rcases this with h | h
          · simp only at h; subst h; exact Or.inl ⟨t, rfl⟩
          · simp only at h; subst h; exact Or.inr rfl

/-- **no call diverges on a reachable state**: after any history of `add | remove | resize | merge`
    calls on 32-bit hashes from `QuotientFilter(q, auto)` in which no call raised (`C04.run`, any
    budget `b₀`), every further call with the model's budget `opBudget s op` (or any larger one)
    returns normally or raises `QuotientFilterError` — it never reports `diverged` -/
theorem step_no_diverge (q : Int) (auto : Bool) (b₀ : Nat) (ops : List Op)
    (hops : ∀ op ∈ ops, op.InRange) (s0 s : QF) (hnew : QF.new q auto = .ok s0)
    (hrun : run b₀ s0 ops = .ok s) (op : Op) (hop : op.InRange) (b : Nat)
    (hb : opBudget s op ≤ b) :
    ((∃ t, step b s op = .ok t) ∨ step b s op = .error .qfError) ∧
    step b s op ≠ .error .diverged := by
  have hI := C04_partial_inv C04_contained C04_hashes C04_B1_add C04_B2_remove q auto b₀ ops hops
    s0 s hnew hrun
  have := step_good hI op hop b hb
  exact ⟨this, this.ne_diverged⟩

/-- a history run the way the driver runs it: every call gets the model's budget for the state it
    is applied to -/
def runB : QF → List Op → R QF
  | s, [] => .ok s
  | s, op :: ops => match step (opBudget s op) s op with
      | .error e => .error e
      | .ok t => runB t ops

/-- a history from a canonical state, every call with the model's budget: it ends in the canonical
    table of the set of the history, or some call raised `QuotientFilterError` -/
theorem runB_spec (auto : Bool) : ∀ (ops : List Op) (s : QF) (a : Abs), Inv auto s a →
    (∀ op ∈ ops, op.InRange) →
    (∃ t, runB s ops = .ok t ∧ Inv auto t (absRun auto a ops)) ∨ runB s ops = .error .qfError := by
  intro ops
  induction ops with
  | nil => intro s a hI _; exact Or.inl ⟨s, rfl, hI⟩
  | cons op ops ih =>
      intro s a hI hr
      have hop := hr op (by simp)
      simp only [runB]
      rcases step_good hI op hop _ (Nat.le_refl _) with ⟨t, ht⟩ | he
      · rw [ht]
        have hIt := step_inv C04_contained C04_hashes C04_B1_add C04_B2_remove auto _ s a op t hI hop ht
        simp only [absRun, List.foldl_cons]
        exact ih t _ hIt (fun o ho => hr o (List.mem_cons_of_mem _ ho))
      · rw [he]; exact Or.inr rfl

/-- **no history diverges**: any history of `add | remove | resize | merge` calls on 32-bit hashes
    from `QuotientFilter(q, auto)`, every call with the model's own budget, ends normally — in the
    canonical table of the set of the history — or with a `QuotientFilterError` (of the constructor
    or of some call); `diverged` is never reported -/
theorem runB_no_diverge (q : Int) (auto : Bool) (ops : List Op) (hops : ∀ op ∈ ops, op.InRange) :
    let r := QF.new q auto >>= fun s0 => runB s0 ops
    ((∃ t, r = .ok t ∧ Inv auto t (absRun auto ⟨q.toNat, []⟩ ops)) ∨ r = .error .qfError) ∧
    r ≠ .error .diverged := by
  intro r
  have key : (∃ t, r = .ok t ∧ Inv auto t (absRun auto ⟨q.toNat, []⟩ ops)) ∨
      r = .error .qfError := by
    show (∃ t, (QF.new q auto >>= fun s0 => runB s0 ops) = .ok t ∧ _) ∨
      (QF.new q auto >>= fun s0 => runB s0 ops) = .error .qfError
    rw [C04_new]
    by_cases hq : 3 ≤ q ∧ q ≤ 31
    · rw [if_pos hq, layout_nil]
      exact runB_spec auto ops _ _ (inv_empty auto _ (by omega) (by omega)) hops
    · rw [if_neg hq]; exact Or.inr rfl
  refine ⟨key, ?_⟩
  rcases key with ⟨t, ht, _⟩ | he
  · rw [ht]; intro h; cases h
  · rw [he]; intro h; cases h

/-! ### non-vacuity, and the bounds are attained (the model evaluated on two over-loaded tables) -/

section tests
open QFBounded

def isDiverged : R QF → Bool
  | .error .diverged => true
  | _ => false

theorem isDiverged_iff (r : R QF) : isDiverged r = true ↔ r = .error .diverged := by
  unfold isDiverged
  split
  · simp
  · rename_i h; simp only [Bool.false_eq_true, false_iff]; intro e; exact h e

/-- seven hashes with quotients 0..6 in the 8-slot table: the load factor 7/8 ≥ 0.85 is reached -/
def H7 : List Nat := [0, 1, 2, 3, 4, 5, 6].map (fun i => i * 2 ^ 29)

/-- fifteen hashes with quotients 0..14 in the 16-slot table -/
def H15 : List Nat :=
  [0, 1, 2, 3, 4, 5, 6, 7, 8, 9, 10, 11, 12, 13, 14].map (fun i => i * 2 ^ 28)

/-- the hypotheses of the theorems hold of an over-loaded table (the automatic resize happens) -/
example : over 3 H7.length = true := by decide
example : (layout 3 true (pairs 3 H7)).overLoaded = true := by decide +kernel

/-- (a) instantiated: `add_alt` with budget `|H| + 3 = 10` on the over-loaded 8-slot table -/
example : addAlt 10 (layout 3 true (pairs 3 H7)) 5 ≠ .error .diverged :=
  (addAlt_no_diverge 3 true H7 5 10 (by decide) (by decide) (by decide) (by decide) (by decide)
    (by decide) (by decide)).2

/-- … and it is the doubled table with the hash added -/
example : addAlt 10 (layout 3 true (pairs 3 H7)) 5 = .ok (layout 4 true (pairs 4 (insertN 5 H7))) :=
  (okEq_iff _ _).1 (by decide +kernel)

/-- the bound `|H| + 3` of (a) is attained: one unit less diverges -/
example : addAlt 9 (layout 3 true (pairs 3 H7)) 5 = .error .diverged :=
  (isDiverged_iff _).1 (by decide +kernel)

/-- the automatic resize needs `|H| + 2` units -/
example : QF.resize 9 (layout 3 true (pairs 3 H7)) none = .ok (layout 4 true (pairs 4 H7)) :=
  (okEq_iff _ _).1 (by decide +kernel)
example : QF.resize 8 (layout 3 true (pairs 3 H7)) none = .error .diverged :=
  (isDiverged_iff _).1 (by decide +kernel)

/-- (b) instantiated, and the bound `2·|H| + 3` is attained: the manual `resize(4)` of a
    16-slot table with 15 hashes and auto-resize re-inserts 14 hashes, reaches the load factor, doubles
    to 32 slots (re-inserting the 14) and adds the 15th -/
example : QF.resize 33 (layout 4 true (pairs 4 H15)) (some 4) ≠ .error .diverged :=
  (resize_no_diverge 4 true H15 (some 4) 33 (by decide) (by decide) (by decide) (by decide)
    (by decide) (by decide)).2
example : QF.resize 33 (layout 4 true (pairs 4 H15)) (some 4) = .ok (layout 5 true (pairs 5 H15)) :=
  (okEq_iff _ _).1 (by decide +kernel)
example : QF.resize 32 (layout 4 true (pairs 4 H15)) (some 4) = .error .diverged :=
  (isDiverged_iff _).1 (by decide +kernel)

/-- (c) instantiated, and the bound `|H| + 2·|hs| + 2` of the list insertion is attained -/
example : (QF.merge (layout 3 true (pairs 3 H7)) [5]).2 ≠ some .diverged :=
  (merge_no_diverge 3 true H7 [5] (by decide) (by decide) (by decide) (by decide) (by decide)
    (by decide)).2
example : (addAll 11 (layout 3 true (pairs 3 H7)) [5]).2 = none := by decide +kernel
example : (addAll 10 (layout 3 true (pairs 3 H7)) [5]).2 = some .diverged := by decide +kernel

/-- the model's budgets are far above the bounds -/
example : budgetOf (layout 3 true (pairs 3 H7)) = 156 := by decide +kernel

end tests

end PyProb.QF
