/-
  What the insertion machinery of cuckoo.py / countingcuckoo.py conserves.  Conservation is stated with
  `tsum f c` = the sum of `f bin` over all stored bins, for an ARBITRARY weight `f : CBin → Nat`:
  occurrences of a fingerprint (`isFp`), of a bin value (`isBin`), the total count of a fingerprint
  (`cntW`) and the two element counters (`wCnt`, `wOne`) are all instances.  Core Lean only.
-/
import PyProb.Lemmas.Lists
import PyProb.Model.Cuckoo

namespace PyProb.Cuckoo

theorem getD_set_nil {α : Type} (l : List (List α)) (i j : Nat) (h : i < l.length) (x : List α) :
    (l.set i x).getD j [] = if j = i then x else l.getD j [] := by
  by_cases hij : j = i
  · rw [if_pos hij, hij, getD_set_eq h]
  · rw [if_neg hij, getD_set_ne (Ne.symm hij)]

theorem mem_flatten_iff_getD {α : Type} (l : List (List α)) (a : α) :
    a ∈ l.flatten ↔ ∃ i, a ∈ l.getD i [] := by
  rw [List.mem_flatten]
  constructor
  · rintro ⟨bkt, hb, ha⟩
    obtain ⟨i, hi, rfl⟩ := List.mem_iff_getElem.mp hb
    exact ⟨i, by rw [getD_eq_getElem_of_lt l i hi]; exact ha⟩
  · rintro ⟨i, ha⟩
    by_cases hi : i < l.length
    · rw [getD_eq_getElem_of_lt l i hi] at ha
      exact ⟨l[i], List.getElem_mem hi, ha⟩
    · rw [getD_of_length_le l i (by omega)] at ha; simp at ha

theorem fingerprint_congr {c c' : Cuckoo} (h : c'.fpBits = c.fpBits) (x : Nat) :
    c'.fingerprint x = c.fingerprint x := by
  unfold fingerprint; rw [h]

def bsum (f : CBin → Nat) (bkt : List CBin) : Nat := (bkt.map f).sum

def tsum (f : CBin → Nat) (c : Cuckoo) : Nat := (c.buckets.map (bsum f)).sum

@[simp] theorem bsum_nil (f : CBin → Nat) : bsum f [] = 0 := rfl
@[simp] theorem bsum_cons (f : CBin → Nat) (a : CBin) (l : List CBin) : bsum f (a :: l) = f a + bsum f l := by
  simp [bsum]
@[simp] theorem bsum_append (f : CBin → Nat) (l₁ l₂ : List CBin) : bsum f (l₁ ++ l₂) = bsum f l₁ + bsum f l₂ := by
  simp [bsum]

abbrev wCnt : CBin → Nat := fun bin => bin.2
abbrev wOne : CBin → Nat := fun _ => 1

theorem bsum_wOne (l : List CBin) : bsum wOne l = l.length := by
  induction l with
  | nil => rfl
  | cons a l ih => rw [bsum_cons, ih, List.length_cons]; show 1 + l.length = l.length + 1; omega

theorem bsum_add (f g : CBin → Nat) (l : List CBin) : bsum (fun b => f b + g b) l = bsum f l + bsum g l := by
  induction l with
  | nil => rfl
  | cons a l ih => simp only [bsum_cons, ih]; omega

theorem bsum_set (f : CBin → Nat) (bkt : List CBin) (i : Nat) (h : i < bkt.length) (x : CBin) :
    bsum f (bkt.set i x) + f bkt[i] = bsum f bkt + f x := sum_map_set f bkt i h x

theorem tsum_eq_flatten (f : CBin → Nat) (c : Cuckoo) : tsum f c = bsum f c.buckets.flatten := by
  unfold tsum
  induction c.buckets with
  | nil => rfl
  | cons a l ih => simp [ih]

theorem tsum_add (f g : CBin → Nat) (c : Cuckoo) : tsum (fun b => f b + g b) c = tsum f c + tsum g c := by
  rw [tsum_eq_flatten, tsum_eq_flatten, tsum_eq_flatten, bsum_add]

theorem tsum_empty_table (f : CBin → Nat) (c : Cuckoo) (n : Nat) (h : c.buckets = List.replicate n []) :
    tsum f c = 0 := by
  rw [tsum_eq_flatten, h]; simp

theorem bucket_of_empty_table {c : Cuckoo} {n : Nat} (h : c.buckets = List.replicate n []) (i : Nat) :
    c.bucket i = [] := by
  rw [bucket, h, getD_replicate]

theorem tsum_set (f : CBin → Nat) (bs : List (List CBin)) (i : Nat) (h : i < bs.length) (x : List CBin) :
    ((bs.set i x).map (bsum f)).sum + bsum f (bs.getD i []) = (bs.map (bsum f)).sum + bsum f x := by
  rw [getD_eq_getElem_of_lt bs i h]
  exact sum_map_set (bsum f) bs i h x

theorem bsum_le_tsum (f : CBin → Nat) (c : Cuckoo) (i : Nat) : bsum f (c.bucket i) ≤ tsum f c := by
  unfold bucket tsum
  by_cases hi : i < c.buckets.length
  · rw [getD_eq_getElem_of_lt _ i hi]
    generalize c.buckets = l at hi
    induction l generalizing i with
    | nil => simp at hi
    | cons a l ih =>
      cases i with
      | zero => simp
      | succ i =>
        have := ih i (by simpa using hi)
        simp only [List.getElem_cons_succ, List.map_cons, List.sum_cons]; omega
  · rw [getD_of_length_le _ i (by omega)]; simp

theorem bsum_add_le_tsum (f : CBin → Nat) (c : Cuckoo) {i j : Nat} (hij : i ≠ j) :
    bsum f (c.bucket i) + bsum f (c.bucket j) ≤ tsum f c := by
  by_cases hi : i < c.buckets.length
  · -- empty bucket `i`: the rest of the table still contains bucket `j`
    have h1 := tsum_set f c.buckets i hi []
    have h2 := bsum_le_tsum f { c with buckets := c.buckets.set i [] } j
    have h3 : Cuckoo.bucket { c with buckets := c.buckets.set i [] } j = c.bucket j := by
      simp only [bucket]
      rw [getD_set_nil _ _ _ hi, if_neg (fun e => hij e.symm)]
    rw [h3] at h2
    simp only [tsum, bucket, bsum_nil] at h1 h2 ⊢
    omega
  · have h0 : c.bucket i = [] := getD_of_length_le _ i (by omega)
    rw [h0, bsum_nil, Nat.zero_add]
    exact bsum_le_tsum f c j

theorem bsum_pos_iff (f : CBin → Nat) (l : List CBin) : 0 < bsum f l ↔ ∃ bin ∈ l, 0 < f bin := by
  induction l with
  | nil => simp
  | cons a l ih =>
    simp only [bsum_cons, List.mem_cons, exists_eq_or_imp, ← ih]; omega

theorem bsum_congr (f g : CBin → Nat) (l : List CBin) (h : ∀ bin ∈ l, f bin = g bin) : bsum f l = bsum g l := by
  induction l with
  | nil => rfl
  | cons a l ih =>
    simp only [bsum_cons]
    rw [h a (by simp), ih (fun b hb => h b (by simp [hb]))]

def stored (c : Cuckoo) (bin : CBin) : Prop := bin ∈ c.buckets.flatten

theorem stored_iff_bucket (c : Cuckoo) (bin : CBin) : stored c bin ↔ ∃ i, bin ∈ c.bucket i :=
  mem_flatten_iff_getD c.buckets bin

theorem tsum_pos_iff (f : CBin → Nat) (c : Cuckoo) : 0 < tsum f c ↔ ∃ bin, stored c bin ∧ 0 < f bin := by
  rw [tsum_eq_flatten, bsum_pos_iff]; rfl

def isBin (bn : CBin) : CBin → Nat := fun b => if b = bn then 1 else 0
def isFp (g : Nat) : CBin → Nat := fun b => if b.1 = g then 1 else 0
def cntW (g : Nat) : CBin → Nat := fun b => if b.1 = g then b.2 else 0

theorem stored_iff_tsum (c : Cuckoo) (bn : CBin) : stored c bn ↔ 0 < tsum (isBin bn) c := by
  rw [tsum_pos_iff]
  constructor
  · intro h; exact ⟨bn, h, by simp [isBin]⟩
  · rintro ⟨b, hb, hp⟩
    by_cases e : b = bn
    · exact e ▸ hb
    · simp [isBin, e] at hp

theorem bsum_isFp_eq_count (g : Nat) (l : List CBin) : bsum (isFp g) l = (l.map (·.1)).count g := by
  induction l with
  | nil => rfl
  | cons a l ih =>
    simp only [bsum_cons, List.map_cons, List.count_cons, ih, isFp, beq_iff_eq]; omega

theorem bsum_isBin_eq_count (bn : CBin) (l : List CBin) : bsum (isBin bn) l = l.count bn := by
  induction l with
  | nil => rfl
  | cons a l ih =>
    simp only [bsum_cons, List.count_cons, ih, isBin, beq_iff_eq]; omega

theorem bsum_cntW_eq (g : Nat) (l : List CBin) :
    bsum (cntW g) l = ((l.filter (·.1 == g)).map (·.2)).sum := by
  induction l with
  | nil => rfl
  | cons a l ih =>
    by_cases e : a.1 = g
    · simp [cntW, e, ih]
    · simp [cntW, e, ih]

def offFp (fp : Nat) : CBin → Nat := fun b => if b.1 = fp then 0 else b.2

theorem wCnt_split (fp : Nat) (c : Cuckoo) : tsum wCnt c = tsum (cntW fp) c + tsum (offFp fp) c := by
  rw [← tsum_add]
  have : wCnt = fun b => cntW fp b + offFp fp b := by
    funext b
    simp only [cntW, offFp]
    split <;> simp
  rw [this]

theorem nodup_iff_tsum (c : Cuckoo) :
    (c.buckets.flatten.map (·.1)).Nodup ↔ ∀ g, tsum (isFp g) c ≤ 1 := by
  rw [List.nodup_iff_count]
  simp only [tsum_eq_flatten, bsum_isFp_eq_count]

/-- A bucket holds at most `max n c.b` bins: `n = 0` in every state the filters reach (`TS`); a larger
    `n` admits tables with overfull buckets, which `insertAt` never makes fuller.  The slack is there for
    one user: the invariant `Ccf.Inv` of C08 has no clause on bucket sizes, so its tables are only known
    to satisfy `TB` with `n` = the number of stored bins (`Ccf.Inv.tab`); everywhere else `n = 0`. -/
structure TB (G : Nat → Nat) (n : Nat) (c : Cuckoo) : Prop where
  len : c.buckets.length = c.cap
  cap_pos : 0 < c.cap
  size : ∀ i, (c.bucket i).length ≤ max n c.b
  pos : ∀ i, ∀ bin ∈ c.bucket i, i = bin.1 % c.cap ∨ i = G bin.1 % c.cap

abbrev TS (G : Nat → Nat) (c : Cuckoo) : Prop := TB G 0 c

structure Same (c c' : Cuckoo) : Prop where
  counting : c'.counting = c.counting
  cap : c'.cap = c.cap
  b : c'.b = c.b
  maxSwaps : c'.maxSwaps = c.maxSwaps
  rate : c'.rate = c.rate
  auto : c'.auto = c.auto
  fpBits : c'.fpBits = c.fpBits

/-- `Same` as a conjunction (the form of `Ccf.SameParams`) -/
theorem same_iff (c c' : Cuckoo) : Same c c' ↔ c'.counting = c.counting ∧ c'.cap = c.cap ∧ c'.b = c.b ∧
    c'.maxSwaps = c.maxSwaps ∧ c'.rate = c.rate ∧ c'.auto = c.auto ∧ c'.fpBits = c.fpBits :=
  ⟨fun h => ⟨h.counting, h.cap, h.b, h.maxSwaps, h.rate, h.auto, h.fpBits⟩,
   fun h => ⟨h.1, h.2.1, h.2.2.1, h.2.2.2.1, h.2.2.2.2.1, h.2.2.2.2.2.1, h.2.2.2.2.2.2⟩⟩

theorem Same.refl (c : Cuckoo) : Same c c := ⟨rfl, rfl, rfl, rfl, rfl, rfl, rfl⟩
theorem Same.trans {a b c : Cuckoo} (h₁ : Same a b) (h₂ : Same b c) : Same a c :=
  ⟨h₂.counting.trans h₁.counting, h₂.cap.trans h₁.cap, h₂.b.trans h₁.b, h₂.maxSwaps.trans h₁.maxSwaps,
   h₂.rate.trans h₁.rate, h₂.auto.trans h₁.auto, h₂.fpBits.trans h₁.fpBits⟩

theorem Same.eq_of_table {c c' : Cuckoo} (h : Same c c') (hb : c'.buckets = c.buckets)
    (h1 : c'.count = c.count) (h2 : c'.unique = c.unique) : c' = c := by
  obtain ⟨_, _, _, _, _, _, _⟩ := h
  cases c
  cases c'
  simp only at *
  subst_vars
  rfl

@[simp] theorem tsum_placed (f : CBin → Nat) (c : Cuckoo) (n : Nat) : tsum f (c.placed n) = tsum f c := rfl

/-- the counter invariant: `elements_added` is the sum of all bin counts and, for the counting
    filter, `unique_elements` is the number of bins (the plain filter never touches it) -/
def CountInv (c : Cuckoo) : Prop :=
  c.count = (tsum wCnt c : Int) ∧
  (c.counting = true → c.unique = (tsum wOne c : Int)) ∧
  (c.counting = false → c.unique = 0)

theorem CountInv_of_empty {c : Cuckoo} (n : Nat) (h : c.buckets = List.replicate n []) (h1 : c.count = 0)
    (h2 : c.unique = 0) : CountInv c := by
  have ht : ∀ f, tsum f c = 0 := fun f => tsum_empty_table f c n h
  exact ⟨by rw [h1, ht]; rfl, fun _ => by rw [h2, ht]; rfl, fun _ => h2⟩

def Bumped (c c' : Cuckoo) (cnt : Nat) : Prop :=
  c'.count = c.count + cnt ∧ c'.unique = (if c.counting then c.unique + 1 else c.unique)

theorem CountInv_of_bumped {c c' : Cuckoo} {bin : CBin} (hsame : Same c c')
    (ht : ∀ f, tsum f c' = tsum f c + f bin) (hb : Bumped c c' bin.2) (hc : CountInv c) : CountInv c' := by
  obtain ⟨h1, h2, h3⟩ := hc
  obtain ⟨b1, b2⟩ := hb
  refine ⟨?_, ?_, ?_⟩
  · rw [b1, h1, ht]; simp
  · intro hcount
    rw [hsame.counting] at hcount
    rw [b2, if_pos hcount, h2 hcount, ht]; simp
  · intro hcount
    rw [hsame.counting] at hcount
    rw [b2, hcount]; simpa using h3 hcount

theorem modify_spec {G : Nat → Nat} {n : Nat} {c c' : Cuckoo} {i : Nat} {bkt' : List CBin} (hs : TB G n c) (hi : i < c.cap)
    (hsame : Same c c') (hb : c'.buckets = c.buckets.set i bkt') (hlen : bkt'.length ≤ max n c.b)
    (hpos : ∀ bin ∈ bkt', i = bin.1 % c.cap ∨ i = G bin.1 % c.cap) :
    TB G n c' ∧ ∀ f, tsum f c' + bsum f (c.bucket i) = tsum f c + bsum f bkt' := by
  have hil : i < c.buckets.length := by rw [hs.len]; exact hi
  have hbk : ∀ j, c'.bucket j = if j = i then bkt' else c.bucket j := by
    intro j; simp only [bucket, hb]; exact getD_set_nil _ _ _ hil _
  refine ⟨⟨?_, ?_, ?_, ?_⟩, ?_⟩
  · rw [hb, List.length_set, hs.len, hsame.cap]
  · rw [hsame.cap]; exact hs.cap_pos
  · intro j; rw [hbk, hsame.b]
    split
    · exact hlen
    · exact hs.size j
  · intro j b; rw [hbk, hsame.cap]
    split
    · rename_i hj; subst hj; exact hpos b
    · exact hs.pos j b
  · intro f
    have := tsum_set f c.buckets i hil bkt'
    simp only [tsum, bucket, hb] at this ⊢
    exact this

theorem insertAt_eq_none_iff {c : Cuckoo} {i : Nat} {bin : CBin} :
    c.insertAt i bin = none ↔ c.b ≤ (c.bucket i).length := by
  by_cases hlt : (c.bucket i).length < c.b
  · refine ⟨fun h => ?_, fun h => absurd hlt (Nat.not_lt.mpr h)⟩
    rw [insertAt, if_pos hlt] at h
    cases h
  · exact ⟨fun _ => Nat.le_of_not_lt hlt, fun _ => if_neg hlt⟩

theorem insertAt_some {G : Nat → Nat} {n : Nat} {c c' : Cuckoo} {i : Nat} {bin : CBin}
    (hs : TB G n c) (hi : i < c.cap) (hv : i = bin.1 % c.cap ∨ i = G bin.1 % c.cap) (cnt : Nat)
    (h : c.insertAt i bin = some c') :
    TB G n (c'.placed cnt) ∧ Same c (c'.placed cnt) ∧ (∀ f, tsum f (c'.placed cnt) = tsum f c + f bin) ∧
    Bumped c (c'.placed cnt) cnt := by
  unfold insertAt at h
  split at h
  · rename_i hlt
    cases h
    obtain ⟨hs', hc⟩ := modify_spec (c' := { c with buckets := c.buckets.set i (c.bucket i ++ [bin]) })
      hs hi ⟨rfl, rfl, rfl, rfl, rfl, rfl, rfl⟩ rfl
      (by simp only [List.length_append, List.length_singleton]; omega)
      (by
        intro b hm
        rcases List.mem_append.mp hm with hm | hm
        · exact hs.pos i b hm
        · rw [List.mem_singleton.mp hm]; exact hv)
    refine ⟨⟨hs'.len, hs'.cap_pos, hs'.size, hs'.pos⟩, ⟨rfl, rfl, rfl, rfl, rfl, rfl, rfl⟩, fun f => ?_, rfl, rfl⟩
    have := hc f
    simp only [bsum_append, bsum_cons, bsum_nil] at this
    rw [tsum_placed]
    omega
  · cases h

/-- one eviction of `kick`; result: the new table, the victim (now in hand), the victim's other bucket -/
def kstep (G : Nat → Nat) (c : Cuckoo) (hand : CBin) (idx : Nat) (oracle : List Nat) : Cuckoo × CBin × Nat :=
  let slot := oracle.headD 0 % c.b
  let victim := (c.bucket idx).getD slot (0, 0)
  ({ c with buckets := c.buckets.set idx ((c.bucket idx).set slot hand) }, victim,
    if idx == victim.1 % c.cap then G victim.1 % c.cap else victim.1 % c.cap)

theorem kick_zero (G : Nat → Nat) (cnt : Nat) (c : Cuckoo) (hand : CBin) (idx : Nat) (o : List Nat) :
    kick G cnt 0 c hand idx o = (none, o) := rfl

/-- one round of `kick` is `kstep` followed by `insertAt`.  Holds by `rfl` because `kstep` repeats,
    word for word, the `let`s (`slot`, `victim`, the new table, the victim's other bucket) in the body
    of `kick` in the model: if either text changes, this is the lemma that breaks. -/
theorem kick_succ (G : Nat → Nat) (cnt fuel : Nat) (c : Cuckoo) (hand : CBin) (idx : Nat) (o : List Nat) :
    kick G cnt (fuel + 1) c hand idx o =
      match (kstep G c hand idx o).1.insertAt (kstep G c hand idx o).2.2 (kstep G c hand idx o).2.1 with
      | some c' => (some (c'.placed cnt), o.tail)
      | none => kick G cnt fuel (kstep G c hand idx o).1 (kstep G c hand idx o).2.1 (kstep G c hand idx o).2.2 o.tail := rfl

theorem kick_b0 (G : Nat → Nat) (cnt : Nat) : ∀ (fuel : Nat) (c : Cuckoo) (hand : CBin) (idx : Nat) (o : List Nat),
    c.b = 0 → (kick G cnt fuel c hand idx o).1 = none := by
  intro fuel
  induction fuel with
  | zero => intro c hand idx o _; rfl
  | succ fuel ih =>
    intro c hand idx o hb
    have hb1 : (kstep G c hand idx o).1.b = 0 := hb
    rw [kick_succ, insertAt_eq_none_iff.mpr (by omega)]
    exact ih _ _ _ _ hb1

theorem kstep_spec {G : Nat → Nat} {n : Nat} {c : Cuckoo} {hand : CBin} {idx : Nat} (o : List Nat)
    (hs : TB G n c) (hb : 0 < c.b) (hi : idx < c.cap) (hfull : c.b ≤ (c.bucket idx).length)
    (hv : idx = hand.1 % c.cap ∨ idx = G hand.1 % c.cap) :
    TB G n (kstep G c hand idx o).1 ∧ Same c (kstep G c hand idx o).1 ∧
    (kstep G c hand idx o).2.2 < c.cap ∧
    ((kstep G c hand idx o).2.2 = (kstep G c hand idx o).2.1.1 % c.cap ∨
      (kstep G c hand idx o).2.2 = G (kstep G c hand idx o).2.1.1 % c.cap) ∧
    ∀ f, tsum f (kstep G c hand idx o).1 + f (kstep G c hand idx o).2.1 = tsum f c + f hand := by
  have hslot : o.headD 0 % c.b < (c.bucket idx).length := Nat.lt_of_lt_of_le (Nat.mod_lt _ hb) hfull
  simp only [kstep]
  generalize o.headD 0 % c.b = slot at hslot
  rw [getD_eq_getElem_of_lt _ _ hslot]
  have hvpos := hs.pos idx _ (List.getElem_mem hslot)
  obtain ⟨hs', hc⟩ := modify_spec
    (c' := { c with buckets := c.buckets.set idx ((c.bucket idx).set slot hand) })
    hs hi ⟨rfl, rfl, rfl, rfl, rfl, rfl, rfl⟩ rfl
    (by rw [List.length_set]; exact hs.size idx)
    (by
      intro b hm
      rcases List.mem_or_eq_of_mem_set hm with hm | hm
      · exact hs.pos idx b hm
      · rw [hm]; exact hv)
  have hcons : ∀ f : CBin → Nat,
      tsum f { c with buckets := c.buckets.set idx ((c.bucket idx).set slot hand) } + f (c.bucket idx)[slot]
        = tsum f c + f hand := by
    intro f
    have h1 := hc f
    have h2 := bsum_set f (c.bucket idx) slot hslot hand
    omega
  generalize (c.bucket idx)[slot] = victim at hvpos hcons
  refine ⟨hs', ⟨rfl, rfl, rfl, rfl, rfl, rfl, rfl⟩, ?_, ?_, hcons⟩
  · split <;> exact Nat.mod_lt _ hs.cap_pos
  · by_cases e : idx = victim.1 % c.cap
    · simp [e]
    · simp [e]

theorem kick_spec (G : Nat → Nat) (n cnt : Nat) : ∀ (fuel : Nat) (c : Cuckoo) (hand : CBin) (idx : Nat)
    (o : List Nat) (c' : Cuckoo) (o' : List Nat),
    TB G n c → idx < c.cap → c.b ≤ (c.bucket idx).length →
    (idx = hand.1 % c.cap ∨ idx = G hand.1 % c.cap) →
    kick G cnt fuel c hand idx o = (some c', o') →
    TB G n c' ∧ Same c c' ∧ (∀ f, tsum f c' = tsum f c + f hand) ∧ Bumped c c' cnt := by
  intro fuel
  induction fuel with
  | zero => intro c hand idx o c' o' _ _ _ _ h; simp [kick_zero] at h
  | succ fuel ih =>
    intro c hand idx o c' o' hs hi hfull hv h
    have hb : 0 < c.b := Nat.pos_of_ne_zero fun hb0 => by
      have := kick_b0 G cnt (fuel + 1) c hand idx o hb0
      rw [h] at this
      cases this
    rw [kick_succ] at h
    obtain ⟨hs1, hsame, hi', hv', hcons⟩ := kstep_spec o hs hb hi hfull hv
    -- an eviction leaves the counters alone
    have e1 : (kstep G c hand idx o).1.count = c.count := rfl
    have e2 : (kstep G c hand idx o).1.unique = c.unique := rfl
    generalize kstep G c hand idx o = st at *
    obtain ⟨c1, victim, idx'⟩ := st
    simp only at *
    rw [← hsame.cap] at hi' hv'
    have step : TB G n c' ∧ Same c1 c' ∧ (∀ f, tsum f c' = tsum f c1 + f victim) ∧ Bumped c1 c' cnt := by
      split at h
      · rename_i c2 hins
        simp only [Prod.mk.injEq, Option.some.injEq] at h
        obtain ⟨rfl, _⟩ := h
        exact insertAt_some hs1 hi' hv' cnt hins
      · rename_i hins
        exact ih c1 victim idx' o.tail c' o' hs1 hi' (insertAt_eq_none_iff.mp hins) hv' h
    obtain ⟨hs2, hsame2, hc2, b1, b2⟩ := step
    refine ⟨hs2, hsame.trans hsame2, fun f => ?_, by rw [b1, e1], by rw [b2, e2, hsame.counting]⟩
    have := hc2 f; have := hcons f; omega

theorem kick_none_or_some (G : Nat → Nat) (cnt fuel : Nat) (c : Cuckoo) (hand : CBin) (idx : Nat) (o : List Nat) :
    (∃ o', kick G cnt fuel c hand idx o = (none, o')) ∨ (∃ c' o', kick G cnt fuel c hand idx o = (some c', o')) := by
  generalize kick G cnt fuel c hand idx o = r
  obtain ⟨r1, r2⟩ := r
  cases r1 with
  | none => exact Or.inl ⟨r2, rfl⟩
  | some c' => exact Or.inr ⟨c', r2, rfl⟩

theorem insertFp_spec {G : Nat → Nat} {n : Nat} {c : Cuckoo} (bin : CBin) (o : List Nat) (hs : TB G n c) :
    ((insertFp G c bin (bin.1 % c.cap) (G bin.1 % c.cap) o).2.1 = none ∧
      TB G n (insertFp G c bin (bin.1 % c.cap) (G bin.1 % c.cap) o).1 ∧
      Same c (insertFp G c bin (bin.1 % c.cap) (G bin.1 % c.cap) o).1 ∧
      (∀ f, tsum f (insertFp G c bin (bin.1 % c.cap) (G bin.1 % c.cap) o).1 = tsum f c + f bin) ∧
      (CountInv c → CountInv (insertFp G c bin (bin.1 % c.cap) (G bin.1 % c.cap) o).1)) ∨
    ((insertFp G c bin (bin.1 % c.cap) (G bin.1 % c.cap) o).2.1 = some bin ∧
      (insertFp G c bin (bin.1 % c.cap) (G bin.1 % c.cap) o).1 = c) := by
  have h1 : bin.1 % c.cap < c.cap := Nat.mod_lt _ hs.cap_pos
  have h2 : G bin.1 % c.cap < c.cap := Nat.mod_lt _ hs.cap_pos
  -- all three ways of placing the bin end in the same state of affairs
  have placed : ∀ {c'}, TB G n c' ∧ Same c c' ∧ (∀ f, tsum f c' = tsum f c + f bin) ∧ Bumped c c' bin.2 →
      TB G n c' ∧ Same c c' ∧ (∀ f, tsum f c' = tsum f c + f bin) ∧ (CountInv c → CountInv c') :=
    fun ⟨hs', hsame, hc, hb⟩ => ⟨hs', hsame, hc, CountInv_of_bumped hsame hc hb⟩
  unfold insertFp
  split
  · rename_i c1 hins
    exact Or.inl ⟨rfl, placed (insertAt_some hs h1 (Or.inl rfl) bin.2 hins)⟩
  · rename_i hn1
    split
    · rename_i c1 hins
      exact Or.inl ⟨rfl, placed (insertAt_some hs h2 (Or.inr rfl) bin.2 hins)⟩
    · rename_i hn2
      simp only
      have hidx : (if o.headD 0 == 0 then bin.1 % c.cap else G bin.1 % c.cap) < c.cap ∧
          c.b ≤ (c.bucket (if o.headD 0 == 0 then bin.1 % c.cap else G bin.1 % c.cap)).length ∧
          ((if o.headD 0 == 0 then bin.1 % c.cap else G bin.1 % c.cap) = bin.1 % c.cap ∨
            (if o.headD 0 == 0 then bin.1 % c.cap else G bin.1 % c.cap) = G bin.1 % c.cap) := by
        split
        · exact ⟨h1, insertAt_eq_none_iff.mp hn1, Or.inl rfl⟩
        · exact ⟨h2, insertAt_eq_none_iff.mp hn2, Or.inr rfl⟩
      generalize (if o.headD 0 == 0 then bin.1 % c.cap else G bin.1 % c.cap) = idx at hidx
      obtain ⟨hi, hfull, hv⟩ := hidx
      rcases kick_none_or_some G bin.2 c.maxSwaps c bin idx o.tail with ⟨o', hk⟩ | ⟨c', o', hk⟩
      · rw [hk]; exact Or.inr ⟨rfl, rfl⟩
      · rw [hk]
        exact Or.inl ⟨rfl, placed (kick_spec G n bin.2 c.maxSwaps c bin idx o.tail c' o' hs hi hfull hv hk)⟩

theorem reinsert_spec (G : Nat → Nat) (n : Nat) : ∀ (bins : List CBin) (c : Cuckoo) (o : List Nat) (c' : Cuckoo) (o' : List Nat),
    TB G n c → reinsert G bins c o = (some c', o') →
    TB G n c' ∧ Same c c' ∧ (∀ f, tsum f c' = tsum f c + bsum f bins) ∧ (CountInv c → CountInv c') := by
  intro bins
  induction bins with
  | nil =>
    intro c o c' o' hs h
    simp only [reinsert, Prod.mk.injEq, Option.some.injEq] at h
    obtain ⟨rfl, _⟩ := h
    exact ⟨hs, Same.refl _, fun f => by simp, id⟩
  | cons bin rest ih =>
    intro c o c' o' hs h
    simp only [reinsert, indices] at h
    have hspec := insertFp_spec (G := G) bin o hs
    generalize insertFp G c bin (bin.1 % c.cap) (G bin.1 % c.cap) o = r at h hspec
    obtain ⟨c1, left, o1⟩ := r
    cases left with
    | some l => simp at h
    | none =>
      simp only at h hspec
      rcases hspec with ⟨_, hs1, hsame1, hc1, hci1⟩ | ⟨hbad, _⟩
      · obtain ⟨hs2, hsame2, hc2, hci2⟩ := ih c1 o1 c' o' hs1 h
        refine ⟨hs2, hsame1.trans hsame2, fun f => ?_, fun hc => hci2 (hci1 hc)⟩
        have := hc1 f; have := hc2 f; simp only [bsum_cons]; omega
      · simp at hbad

/-- `Same` without `cap`: what a call that may expand the table keeps -/
structure SameX (c c' : Cuckoo) : Prop where
  counting : c'.counting = c.counting
  b : c'.b = c.b
  maxSwaps : c'.maxSwaps = c.maxSwaps
  rate : c'.rate = c.rate
  auto : c'.auto = c.auto
  fpBits : c'.fpBits = c.fpBits

/-- `SameX` as a conjunction (the form of `C15.SameConfig` and `Ccf.SameCfg`) -/
theorem sameX_iff (c c' : Cuckoo) : SameX c c' ↔ c'.counting = c.counting ∧ c'.b = c.b ∧
    c'.maxSwaps = c.maxSwaps ∧ c'.rate = c.rate ∧ c'.auto = c.auto ∧ c'.fpBits = c.fpBits :=
  ⟨fun h => ⟨h.counting, h.b, h.maxSwaps, h.rate, h.auto, h.fpBits⟩,
   fun h => ⟨h.1, h.2.1, h.2.2.1, h.2.2.2.1, h.2.2.2.2.1, h.2.2.2.2.2⟩⟩

theorem Same.toX {c c' : Cuckoo} (h : Same c c') : SameX c c' :=
  ⟨h.counting, h.b, h.maxSwaps, h.rate, h.auto, h.fpBits⟩
theorem SameX.refl (c : Cuckoo) : SameX c c := ⟨rfl, rfl, rfl, rfl, rfl, rfl⟩
theorem SameX.trans {a b c : Cuckoo} (h₁ : SameX a b) (h₂ : SameX b c) : SameX a c :=
  ⟨h₂.counting.trans h₁.counting, h₂.b.trans h₁.b, h₂.maxSwaps.trans h₁.maxSwaps,
   h₂.rate.trans h₁.rate, h₂.auto.trans h₁.auto, h₂.fpBits.trans h₁.fpBits⟩

def emptied (c : Cuckoo) : Cuckoo :=
  { c with cap := c.cap * c.rate, buckets := List.replicate (c.cap * c.rate) [], count := 0, unique := 0 }

def optW (f : CBin → Nat) : Option CBin → Nat
  | none => 0
  | some bin => f bin

theorem expandLogic_eq (G : Nat → Nat) (c : Cuckoo) (extra : Option CBin) (o : List Nat) :
    expandLogic G c extra o =
      match reinsert G (extra.toList ++ c.buckets.flatten) (emptied c) o with
      | (some c', oracle') => (c', none, oracle')
      | (none, oracle') => (c, some Err.cuckooFull, oracle') := rfl

theorem TB_emptied {G : Nat → Nat} {n : Nat} {c : Cuckoo} (hs : TB G n c) (hr : 0 < c.rate) : TB G n (emptied c) := by
  have hb : ∀ i, (emptied c).bucket i = [] := bucket_of_empty_table (n := c.cap * c.rate) rfl
  refine ⟨by simp [emptied], Nat.mul_pos hs.cap_pos hr, ?_, ?_⟩
  · intro i; rw [hb]; exact Nat.zero_le _
  · intro i b; rw [hb]; simp

/-- `CountInv` of the result needs no `CountInv c`: `_expand_logic` restarts both counters at 0 and the
    re-insertions count them up again. -/
theorem expandLogic_spec {G : Nat → Nat} {n : Nat} {c : Cuckoo} (extra : Option CBin) (o : List Nat)
    (hs : TB G n c) (hr : 0 < c.rate) :
    ((expandLogic G c extra o).2.1 = none ∧ TB G n (expandLogic G c extra o).1 ∧
      SameX c (expandLogic G c extra o).1 ∧ (expandLogic G c extra o).1.cap = c.cap * c.rate ∧
      (∀ f, tsum f (expandLogic G c extra o).1 = tsum f c + optW f extra) ∧
      CountInv (expandLogic G c extra o).1) ∨
    ((expandLogic G c extra o).2.1 = some .cuckooFull ∧ (expandLogic G c extra o).1 = c) := by
  have hse := TB_emptied hs hr
  have hte : ∀ f, tsum f (emptied c) = 0 := fun f => tsum_empty_table f _ (c.cap * c.rate) rfl
  rw [expandLogic_eq]
  generalize hrr : reinsert G (extra.toList ++ c.buckets.flatten) (emptied c) o = r
  obtain ⟨r1, o'⟩ := r
  cases r1 with
  | none => exact Or.inr ⟨rfl, rfl⟩
  | some c' =>
    obtain ⟨hs', hsame', hc', hci'⟩ := reinsert_spec G n _ _ o c' o' hse hrr
    refine Or.inl ⟨rfl, hs', ⟨hsame'.counting, hsame'.b, hsame'.maxSwaps, hsame'.rate, hsame'.auto,
      hsame'.fpBits⟩, hsame'.cap, fun f => ?_, hci' (CountInv_of_empty (c.cap * c.rate) rfl rfl rfl)⟩
    have := hc' f
    rw [hte, bsum_append, ← tsum_eq_flatten] at this
    cases extra with
    | none => simpa [optW] using this
    | some b => simp only [Option.toList, bsum_cons, bsum_nil, optW] at this ⊢; omega

end PyProb.Cuckoo
