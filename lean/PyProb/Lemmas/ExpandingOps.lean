/-
  Membership in the expanding Bloom filter (`Model/Expanding.lean`), for C01: a key is reported
  (`Reports`) when some sub-filter answers present.  On a queue of well-formed sub-filters of one
  geometry (`GoodBlooms`, `Expanding.WF`) every operation keeps what was reported, and an insertion
  with enough hashes makes its key reported; `check_alt` answers `true` exactly for reported keys.
-/
import PyProb.Lemmas.ExpandingCore

namespace PyProb

def GoodBlooms (k m : Nat) (bs : List Bloom) : Prop := bs ≠ [] ∧ ∀ b ∈ bs, b.WF ∧ b.k = k ∧ b.m = m

def Reports (bs : List Bloom) (hs : List Nat) : Prop := ∃ b ∈ bs, b.checkAlt hs = .ok true

theorem GoodBlooms.append_fresh {k m : Nat} {bs : List Bloom} (h : GoodBlooms k m bs) (f : Bloom)
    (hf : f.WF ∧ f.k = k ∧ f.m = m) : GoodBlooms k m (bs ++ [f]) :=
  ⟨List.append_ne_nil_of_right_ne_nil _ (List.cons_ne_nil _ _),
    fun b hb => (List.mem_append.1 hb).elim (h.2 b) fun hb => List.mem_singleton.1 hb ▸ hf⟩

theorem Reports.append {bs : List Bloom} {hs : List Nat} (h : Reports bs hs) (l : List Bloom) :
    Reports (bs ++ l) hs := by
  obtain ⟨b, hb, hc⟩ := h
  exact ⟨b, List.mem_append_left _ hb, hc⟩

theorem addToLast_spec {k m : Nat} {bs : List Bloom} (h : GoodBlooms k m bs) (hs : List Nat) :
    GoodBlooms k m (Expanding.addToLast bs hs).1 ∧
    (∀ hs', Reports bs hs' → Reports (Expanding.addToLast bs hs).1 hs') ∧
    (k ≤ hs.length → Reports (Expanding.addToLast bs hs).1 hs) := by
  have hgood := Expanding.addToLast_forall (fun b => b.WF ∧ b.k = k ∧ b.m = m) _ bs hs (fun _ hb => hb)
    (fun b hb => ⟨Bloom.addAlt_wf b hs hb.1, (Bloom.addAlt_k b hs).trans hb.2.1,
      (Bloom.addAlt_m b hs).trans hb.2.2⟩) h.2
  obtain ⟨init, last, rfl⟩ := exists_concat bs h.1
  rw [Expanding.addToLast_concat] at hgood ⊢
  have hl := h.2 last (by simp)
  refine ⟨⟨by simp, hgood⟩, fun hs' hr => ?_, fun hk => ?_⟩
  · obtain ⟨b, hb, hc⟩ := hr
    rcases List.mem_append.1 hb with hb | hb
    · exact ⟨b, List.mem_append_left _ hb, hc⟩
    · rw [List.mem_singleton.1 hb] at hc
      exact ⟨_, by simp, Bloom.checkAlt_addAlt_mono last hs' hs hl.1 hc⟩
  · exact ⟨_, by simp, Bloom.checkAlt_addAlt_self last hs hl.1 (by rw [hl.2.1]; exact hk)⟩

def Expanding.WF (e : Expanding) : Prop := 0 < e.m ∧ GoodBlooms e.k e.m e.blooms

/-- `Inv` supplies the non-empty queue and the common `k`, `Geo` the common `m` and `Bloom.WF` -/
theorem Expanding.wf_of_inv_geo {e : Expanding} (hi : e.Inv) (hg : e.Geo) : e.WF :=
  ⟨hg.1, hi.2.1, fun b hb => ⟨(hg.2 b hb).wf hg.1, (hi.2.2 b hb).2.2, (hg.2 b hb).1⟩⟩

theorem Expanding.fresh_good (e : Expanding) (hm : 0 < e.m) : e.fresh.WF ∧ e.fresh.k = e.k ∧ e.fresh.m = e.m :=
  ⟨Bloom.new_wf _ _ _ _ hm, rfl, rfl⟩

theorem Expanding.new_wf (est fpr k m : Nat) (hm : 0 < m) : (Expanding.new est fpr k m).WF :=
  ⟨hm, List.cons_ne_nil _ _, fun _ hb => List.mem_singleton.1 hb ▸ ⟨Bloom.new_wf _ _ _ _ hm, rfl, rfl⟩⟩

theorem Expanding.push_spec (e : Expanding) (hw : e.WF) :
    e.push.WF ∧ e.push.k = e.k ∧ ∀ hs, Reports e.blooms hs → Reports e.push.blooms hs :=
  ⟨⟨hw.1, hw.2.append_fresh _ (e.fresh_good hw.1)⟩, rfl, fun _ h => h.append _⟩

theorem Expanding.addCore_spec (e : Expanding) (present : Bool) (hs : List Nat) (force : Bool) (hw : e.WF) :
    (e.addCore present hs force).1.WF ∧ (e.addCore present hs force).1.k = e.k ∧
    (∀ hs', Reports e.blooms hs' → Reports (e.addCore present hs force).1.blooms hs') ∧
    ((force || !present) = true → e.k ≤ hs.length → Reports (e.addCore present hs force).1.blooms hs) := by
  obtain ⟨-, -, sk, sm, -⟩ := Expanding.addCore_static e present hs force
  rw [Expanding.WF, sk, sm]
  cases hc : (force || !present)
  · rw [(Expanding.addCore_noeff e present hs force hc).1]
    exact ⟨hw, rfl, fun _ x => x, fun h => absurd h Bool.false_ne_true⟩
  · rw [(Expanding.addCore_eff e present hs force hc).1]
    have hg : GoodBlooms e.k e.m ({ e with added := e.added + 1 } : Expanding).grow.blooms ∧
        ∀ hs', Reports e.blooms hs' → Reports ({ e with added := e.added + 1 } : Expanding).grow.blooms hs' := by
      obtain ⟨init, z, hb⟩ := exists_concat e.blooms hw.2.1
      rw [Expanding.grow_blooms_eq { e with added := e.added + 1 } init z hb]
      split
      · exact ⟨hw.2.append_fresh _ (e.fresh_good hw.1), fun _ x => x.append _⟩
      · exact ⟨hw.2, fun _ x => x⟩
    obtain ⟨g1, g2, g3⟩ := addToLast_spec hg.1 hs
    exact ⟨⟨hw.1, g1⟩, rfl, fun hs' hr => g2 hs' (hg.2 hs' hr), fun _ hl => g3 hl⟩

theorem Expanding.checkAlt_iff (e : Expanding) (hs : List Nat) (hw : e.WF) (hl : e.k ≤ hs.length) :
    e.checkAlt hs = .ok true ↔ Reports e.blooms hs :=
  ⟨Expanding.checkGo_true_mem hs e.blooms, fun ⟨b, hb, hc⟩ =>
    Expanding.checkGo_true_of_mem hs e.blooms (fun b hb => by rw [(hw.2.2 b hb).2.1]; exact hl) b hb hc⟩

theorem Expanding.addAlt_spec (e : Expanding) (hs : List Nat) (force : Bool) (hw : e.WF) :
    (e.addAlt hs force).1.WF ∧ (e.addAlt hs force).1.k = e.k ∧
    (∀ hs', Reports e.blooms hs' → Reports (e.addAlt hs force).1.blooms hs') ∧
    (e.k ≤ hs.length → Reports (e.addAlt hs force).1.blooms hs) := by
  unfold Expanding.addAlt
  cases force with
  | true =>
      obtain ⟨a, b, c, d⟩ := Expanding.addCore_spec e true hs true hw
      exact ⟨a, b, c, fun hl => d rfl hl⟩
  | false =>
      simp only [Bool.false_eq_true, if_false]
      cases hc : e.checkAlt hs with
      | error err => exact ⟨hw, rfl, fun _ x => x, fun hl => by
          have hk : ∀ b ∈ e.blooms, b.k ≤ hs.length := fun b hb => by rw [(hw.2.2 b hb).2.1]; exact hl
          obtain ⟨p, hp⟩ := Expanding.checkGo_total hs e.blooms hk
          unfold Expanding.checkAlt at hc
          rw [hp] at hc; cases hc⟩
      | ok p =>
          obtain ⟨a, b, c, d⟩ := Expanding.addCore_spec e p hs false hw
          refine ⟨a, b, c, fun hl => ?_⟩
          cases p with
          | false => exact d rfl hl
          | true => exact c hs ((Expanding.checkAlt_iff e hs hw hl).1 hc)

end PyProb
