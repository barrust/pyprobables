/-
  Count-min sketch (`.min` query) under additions, as C17's runs use it: on a sketch of known
  shape (`WFat`) `add_alt` never fails and `AddSpec` says what it returns (the minimum of the
  key's bins after the add) and that bins only grow, so a lower bound on the bins of a hash list
  (`LB`) survives every later add, saturation at int32 max included.  `addAlt_estimates_mono`
  states the consequence for one hash list by itself.  Core Lean only.
-/
import PyProb.Lemmas.CmsCore
import PyProb.Lemmas.Histories

namespace PyProb
namespace CMS
open CmsCore

/-- reachable `.min`-mode sketches under additions: geometry and every bin in `0..int32Max` -/
structure WF (c : CMS) : Prop where
  mode : c.mode = .min
  wpos : 0 < c.w
  dpos : 0 < c.d
  len : c.bins.length = c.w * c.d
  range : ∀ x ∈ c.bins, 0 ≤ x ∧ x ≤ Gen.int32Max

theorem WF.new (w d : Nat) (hw : 0 < w) (hd : 0 < d) : WF (CMS.new w d .min) where
  mode := rfl
  wpos := hw
  dpos := hd
  len := by simp [CMS.new]
  range := by
    intro x hx
    simp only [CMS.new, List.mem_replicate] at hx
    rw [hx.2]; simp [Gen.int32Max]

theorem WF.getD_range {c : CMS} (hw : WF c) (j : Nat) :
    0 ≤ c.bins.getD j 0 ∧ c.bins.getD j 0 ≤ Gen.int32Max :=
  getD_of_forall_mem hw.range (by decide) j

theorem binIdx_congr (c c' : CMS) (h : c'.w = c.w) (hs : List Nat) : c'.binIdx hs = c.binIdx hs := by
  simp [binIdx, h]

/-- evaluation of the sort on two values (for concrete examples; `mergeSort` does not reduce
    by `decide`) -/
theorem sortInts_pair (a b : Int) : sortInts [a, b] = if a ≤ b then [a, b] else [b, a] := by
  simp [sortInts, List.mergeSort, List.MergeSort.Internal.splitInTwo, List.merge]

def LB (c : CMS) (hs : List Nat) (v : Int) : Prop := ∀ idx ∈ c.binIdx hs, v ≤ c.bins.getD idx 0

structure AddSpec (c : CMS) (hs : List Nat) (n : Int) (c' : CMS) (res : Int) : Prop where
  wf : WF c'
  w : c'.w = c.w
  d : c'.d = c.d
  len : c'.bins.length = c.bins.length
  bins : ∀ j, c'.bins.getD j 0 =
    if j ∈ c.binIdx hs then min Gen.int32Max (c.bins.getD j 0 + n) else c.bins.getD j 0
  mono : ∀ j, c.bins.getD j 0 ≤ c'.bins.getD j 0
  res_le : LB c' hs res
  res_mem : ∃ idx ∈ c.binIdx hs, res = c'.bins.getD idx 0
  res_pos : 1 ≤ n → 1 ≤ res
  res_nonneg : 0 ≤ res

/-- the bins after `add_alt(hs, n)`, `n ≥ 0`, on a reachable sketch: of the two clamps only the
    upper one can fire -/
theorem WF.bump_getD {c : CMS} (hw : WF c) (hs : List Nat) (hl : hs.length ≤ c.d) {n : Int}
    (hn : 0 ≤ n) (j : Nat) : (bumpBins c hs n).getD j 0 =
      if j ∈ c.binIdx hs then min Gen.int32Max (c.bins.getD j 0 + n) else c.bins.getD j 0 := by
  rw [bumpBins_getD c hs n (binIdx_any_false c hs hw.wpos hl hw.len) j,
    clamp32_of_nonneg (Int.add_nonneg (hw.getD_range j).1 hn)]

theorem WF.bump_mono {c : CMS} (hw : WF c) (hs : List Nat) (hl : hs.length ≤ c.d) {n : Int}
    (hn : 0 ≤ n) (j : Nat) : c.bins.getD j 0 ≤ (bumpBins c hs n).getD j 0 := by
  rw [hw.bump_getD hs hl hn]
  split
  · exact Int.le_min.2 ⟨(hw.getD_range j).2, Int.le_add_of_nonneg_right hn⟩
  · exact Int.le_refl _

theorem WF.bump {c : CMS} (hw : WF c) (hs : List Nat) {n : Int} (hn : 0 ≤ n) (t : Int) :
    WF { c with bins := bumpBins c hs n, total := t } where
  mode := hw.mode
  wpos := hw.wpos
  dpos := hw.dpos
  len := (bumpBins_length c hs n).trans hw.len
  range := foldl_set_forall (fun v => 0 ≤ v ∧ v ≤ Gen.int32Max) _ _ _
    (fun x => by
      have h0 := Int.add_nonneg (hw.getD_range x).1 hn
      rw [clamp32_of_nonneg h0]
      exact ⟨Int.le_min.2 ⟨by decide, h0⟩, Int.min_le_left _ _⟩)
    hw.range

/-- on a well-formed sketch `add_alt(hs, n)` with `n ≥ 0` cannot raise: the indices are in range,
    no bin falls below `int32Min`, and the `.min` query has `d > 0` values to choose from -/
theorem addAlt_spec (c : CMS) (hw : WF c) (hs : List Nat) (hl : hs.length = c.d) (n : Int)
    (hn : 0 ≤ n) : ∃ c' res, c.addAlt hs n = (c', .ok res) ∧ AddSpec c hs n c' res := by
  have hld := Nat.le_of_eq hl
  have hany := binIdx_any_false c hs hw.wpos hld hw.len
  have hmono := hw.bump_mono hs hld hn
  -- the value returned is the least of the new bins of `hs`
  have hnew : ∀ j ∈ c.binIdx hs,
      (bumpBins c hs n).getD j 0 = clamp32 (c.bins.getD j 0 + n) := fun j hj => by
    rw [bumpBins_getD c hs n hany j, if_pos hj]
  obtain ⟨res, hq, hmem, hmin⟩ := query_min
    { c with bins := bumpBins c hs n, total := min Gen.int64Max (c.total + n) }
    (min Gen.int64Max (c.total + n)) _ hw.mode
    (binIdx_map_ne_nil c hs (fun x => clamp32 (c.bins.getD x 0 + n)) hl hw.dpos)
  obtain ⟨idx, hidx, e⟩ := List.mem_map.mp hmem
  have hres : res = (bumpBins c hs n).getD idx 0 := by rw [hnew idx hidx, e]
  have hlo : ∀ x ∈ c.binIdx hs, Gen.int32Min ≤ c.bins.getD x 0 + n := fun x _ =>
    Int.le_trans (by decide) (Int.add_nonneg (hw.getD_range x).1 hn)
  refine ⟨_, res, by rw [addAlt_eq c hs n hany hlo, hq], ?_⟩
  exact {
    wf := hw.bump hs hn _
    w := rfl
    d := rfl
    len := bumpBins_length c hs n
    bins := hw.bump_getD hs hld hn
    mono := hmono
    res_le := fun j hj => by
      show res ≤ (bumpBins c hs n).getD j 0
      rw [hnew j hj]
      exact hmin _ (List.mem_map_of_mem hj)
    res_mem := ⟨idx, hidx, hres⟩
    res_pos := fun hn1 => by
      rw [hres, hw.bump_getD hs hld hn, if_pos hidx]
      exact Int.le_min.2 ⟨by decide, Int.add_pos_of_nonneg_of_pos (hw.getD_range idx).1 hn1⟩
    res_nonneg := hres ▸ Int.le_trans (hw.getD_range idx).1 (hmono idx) }

theorem AddSpec.lb_preserved {c c' : CMS} {hs : List Nat} {n res : Int} (h : AddSpec c hs n c' res)
    {hs' : List Nat} {v : Int} (hv : LB c hs' v) : LB c' hs' v := by
  intro idx hidx
  rw [binIdx_congr c c' h.w] at hidx
  exact Int.le_trans (hv idx hidx) (h.mono idx)

/-- a lower bound of the new bins of `hs` bounds the value returned, which is one of them -/
theorem AddSpec.le_res {c c' : CMS} {hs : List Nat} {n res : Int} (h : AddSpec c hs n c' res)
    {v : Int} (hv : LB c' hs v) : v ≤ res := by
  obtain ⟨idx, hidx, e⟩ := h.res_mem
  rw [← binIdx_congr c c' h.w] at hidx
  exact e ▸ hv idx hidx

theorem AddSpec.lb_le_res {c c' : CMS} {hs : List Nat} {n res : Int} (h : AddSpec c hs n c' res)
    {v : Int} (hv : LB c hs v) : v ≤ res :=
  h.le_res (h.lb_preserved hv)

theorem min_add_mono {M a b n : Int} (hn : 0 ≤ n) (h : min M a ≤ b) :
    min M (a + n) ≤ min M (b + n) := by
  refine Int.le_min.2 ⟨Int.min_le_left _ _, ?_⟩
  rcases Int.le_total a M with ha | ha
  · rw [Int.min_eq_right ha] at h
    exact Int.le_trans (Int.min_le_right _ _) (Int.add_le_add_right h n)
  · rw [Int.min_eq_left ha] at h
    exact Int.le_trans (Int.min_le_left _ _) (Int.le_trans h (Int.le_add_of_nonneg_right hn))

/-- the bins of `hs` itself gain `n`, up to the clamp -/
theorem AddSpec.lb_add {c c' : CMS} {hs : List Nat} {n res : Int} (h : AddSpec c hs n c' res)
    (hn : 0 ≤ n) {a : Int} (hv : LB c hs (min Gen.int32Max a)) :
    LB c' hs (min Gen.int32Max (a + n)) := by
  intro idx hidx
  rw [binIdx_congr c c' h.w] at hidx
  rw [h.bins idx, if_pos hidx]
  exact min_add_mono hn (hv idx hidx)

structure WFat (w d : Nat) (c : CMS) : Prop where
  wf : WF c
  w : c.w = w
  d : c.d = d

theorem WFat.new {w d : Nat} (hw : 0 < w) (hd : 0 < d) : WFat w d (CMS.new w d .min) :=
  ⟨WF.new w d hw hd, rfl, rfl⟩

theorem WFat.addAlt {w d : Nat} {c : CMS} (h : WFat w d c) (hs : List Nat) (hl : hs.length = d)
    (n : Int) (hn : 0 ≤ n) :
    ∃ c' res, c.addAlt hs n = (c', .ok res) ∧ AddSpec c hs n c' res ∧ WFat w d c' := by
  obtain ⟨c', res, e, sp⟩ := addAlt_spec c h.wf hs (hl.trans h.d.symm) n hn
  exact ⟨c', res, e, sp, sp.wf, sp.w.trans h.w, sp.d.trans h.d⟩

def addsRun (c : CMS) (ops : List (List Nat × Int)) : CMS :=
  ops.foldl (fun c o => (c.addAlt o.1 o.2).1) c

theorem addsRun_inv {w d : Nat} (c : CMS) (hw : WFat w d c) (ops : List (List Nat × Int))
    (hops : ∀ o ∈ ops, o.1.length = d ∧ 0 ≤ o.2) :
    WFat w d (addsRun c ops) ∧ ∀ hs v, LB c hs v → LB (addsRun c ops) hs v := by
  refine foldl_invariant (fun c o => (c.addAlt o.1 o.2).1)
    (fun c' => WFat w d c' ∧ ∀ hs v, LB c hs v → LB c' hs v) ops c ⟨hw, fun _ _ h => h⟩ ?_
  intro c' hc' o ho
  obtain ⟨c'', res, e, sp, hw''⟩ := hc'.1.addAlt o.1 (hops o ho).1 o.2 (hops o ho).2
  rw [e]
  exact ⟨hw'', fun hs v h => sp.lb_preserved (hc'.2 hs v h)⟩

theorem addAlt_estimates_mono (c : CMS) (hw : WF c) (hs : List Nat) (hl : hs.length = c.d)
    (n1 n2 : Int) (h1 : 0 ≤ n1) (h2 : 0 ≤ n2) (ops : List (List Nat × Int))
    (hops : ∀ o ∈ ops, o.1.length = c.d ∧ 0 ≤ o.2) :
    ∃ c1 r1 c3 r2, c.addAlt hs n1 = (c1, .ok r1) ∧
      (addsRun c1 ops).addAlt hs n2 = (c3, .ok r2) ∧ r1 ≤ r2 := by
  obtain ⟨c1, r1, e1, sp1, hw1⟩ := WFat.addAlt ⟨hw, rfl, rfl⟩ hs hl n1 h1
  obtain ⟨hw2, lb2⟩ := addsRun_inv c1 hw1 ops hops
  obtain ⟨c3, r2, e3, sp3, _⟩ := hw2.addAlt hs hl n2 h2
  exact ⟨c1, r1, c3, r2, e1, e3, sp3.lb_le_res (lb2 hs r1 sp1.res_le)⟩

end CMS
end PyProb
