/-
  Facts about the element counters of the Bloom family and the counting Bloom filter (`count`,
  `added`): what one call of `add_alt` / `remove_alt` / `pop` does to the counter, by unfolding the
  models.  The plain filter's counter is `Bloom.addAlt_count` (`Lemmas/BloomOps.lean`);
  the cuckoo counters are in `Lemmas/CuckooCount.lean`.
-/
import PyProb.Lemmas.CbfCore
import PyProb.Lemmas.ExpandingCore
import PyProb.Lemmas.RotatingCore

namespace PyProb.Counters
open PyProb

/-- `add_alt` counts the call in every branch: forced, suppressed duplicate, effective insertion,
    and also when the membership test or the insertion raises -/
theorem expanding_addAlt_added (e : Expanding) (hs : List Nat) (f : Bool) :
    (e.addAlt hs f).1.added = e.added + 1 := by
  unfold Expanding.addAlt
  split
  · exact (Expanding.addCore_static e true hs true).2.2.2.2
  · split
    · rfl
    · exact (Expanding.addCore_static e _ hs false).2.2.2.2

theorem rotating_addAlt_added (r : Rotating) (hs : List Nat) (f : Bool) :
    (r.addAlt hs f).1.added = r.added + 1 := by
  unfold Rotating.addAlt
  split
  · exact (Rotating.addCore_static r true hs true).2.2.2.2.1
  · split
    · rfl
    · exact (Rotating.addCore_static r _ hs false).2.2.2.2.1

theorem rotating_pop_added (r : Rotating) :
    (match r.pop with | .ok r' => r' | .error _ => r).added = r.added := by
  unfold Rotating.pop
  by_cases h : (r.blooms.length == 1) = true
  · rw [if_pos h]
  · rw [if_neg h]

theorem cbf_add_count (c : CBF) (hs : List Nat) (n : Int) :
    (∀ v, (c.addAlt hs n).2 = .ok v → (c.addAlt hs n).1.count = min (c.count + n) Gen.uint64Max) ∧
    (∀ e, (c.addAlt hs n).2 = .error e → (c.addAlt hs n).1.count = c.count) := by
  unfold CBF.addAlt
  cases hi : c.indices hs with
  | error e => simp
  | ok idx =>
    simp only
    generalize CBF.addLoop n c.cells (idx.zip (idx.map fun k => c.cells.getD k 0 + n)) [] = r
    obtain ⟨cells, vals, err⟩ := r
    cases err <;> simp

theorem cbf_remove_outcome (c : CBF) (hs : List Nat) (n : Int) :
    match (c.removeAlt hs n).2 with
    | .error _ => (c.removeAlt hs n).1.count = c.count
    | .ok v => c.k ≤ hs.length ∧
      ((touchedMin c hs = Gen.uint32Max ∧ v = Gen.uint32Max ∧ (c.removeAlt hs n).1 = c) ∨
       (touchedMin c hs = 0 ∧ v = 0 ∧ (c.removeAlt hs n).1 = c) ∨
       (touchedMin c hs ≠ Gen.uint32Max ∧ touchedMin c hs ≠ 0 ∧
         v = touchedMin c hs - min n (touchedMin c hs) ∧
         (c.removeAlt hs n).1.count = c.count - min n (touchedMin c hs))) := by
  rw [cbf_removeAlt_eq]
  by_cases hk : hs.length < c.k
  · rw [if_pos hk]
  rw [if_neg hk]
  have hk := Nat.le_of_not_lt hk
  by_cases ht : touched c hs = []
  · rw [if_pos ht]
  by_cases h1 : touchedMin c hs = Gen.uint32Max
  · rw [if_neg ht, if_pos h1]
    exact ⟨hk, Or.inl ⟨h1, rfl, rfl⟩⟩
  by_cases h2 : touchedMin c hs = 0
  · rw [if_neg ht, if_neg h1, if_pos h2]
    exact ⟨hk, Or.inr (Or.inl ⟨h2, rfl, rfl⟩)⟩
  rw [if_neg ht, if_neg h1, if_neg h2]
  generalize CBF.removeLoop _ c.cells _ = r
  obtain ⟨cells, _ | e⟩ := r
  · exact ⟨hk, Or.inr (Or.inr ⟨h1, h2, rfl, rfl⟩)⟩
  · rfl

end PyProb.Counters
