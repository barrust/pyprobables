/-
  The on-disk Bloom filter (`Model/OnDisk.lean`): the file as `fileOf bits est count fpr` (bit array, then
  footer), and what the micro-steps of `add_alt`, `close` and `clear` do to a file of that form.
-/
import PyProb.Lemmas.BloomOps
import PyProb.Lemmas.FormatsBloom
import PyProb.Model.OnDisk

namespace PyProb

/-- the documented file: bit array, then est (u64), count (u64), rate (f32 pattern) -/
def fileOf (bits : Bytes) (est : Nat) (cnt : Int) (fpr : Nat) : Bytes :=
  bits ++ (leBytes 8 est ++ (leBytesInt 8 cnt ++ leBytes 4 fpr))

theorem fileOf_length (bits : Bytes) (est : Nat) (cnt : Int) (fpr : Nat) :
    (fileOf bits est cnt fpr).length = bits.length + 20 := by
  simp [fileOf]

theorem updateOffset_size : Gen.onDiskUpdateOffset.size = 12 := by decide

theorem patch_append (a b b' c : Bytes) (h : b'.length = b.length) :
    patch (a ++ (b ++ c)) a.length b' = a ++ (b' ++ c) := by
  unfold patch
  rw [List.take_left, h, ← List.length_append, ← List.append_assoc a b c, List.drop_left, List.append_assoc]

theorem patch_count (bits : Bytes) (est : Nat) (c c' : Int) (fpr : Nat) :
    patch (fileOf bits est c fpr) (bits.length + 8) (leBytesInt 8 c') = fileOf bits est c' fpr := by
  have h := patch_append (bits ++ leBytes 8 est) (leBytesInt 8 c) (leBytesInt 8 c') (leBytes 4 fpr)
    (by rw [leBytesInt_length, leBytesInt_length])
  rw [List.length_append, leBytes_length, List.append_assoc, List.append_assoc] at h
  exact h

/-- `close()` rewrites the count; where the file already holds it, the bytes stay as they are -/
theorem close_file_of_stored (o : OnDisk) (h : patch o.file o.countOffset (leBytesInt 8 o.count) = o.file) :
    o.close.file = o.file := by
  unfold OnDisk.close
  split
  · rfl
  · exact h

theorem set_fileOf (bits : Bytes) (est : Nat) (c : Int) (fpr : Nat) (i v : Nat) (h : i < bits.length) :
    (fileOf bits est c fpr).set i v = fileOf (bits.set i v) est c fpr := by
  unfold fileOf
  rw [List.set_append_left _ _ h]

theorem getD_fileOf (bits : Bytes) (est : Nat) (c : Int) (fpr : Nat) (i : Nat) (h : i < bits.length) :
    (fileOf bits est c fpr).getD i 0 = bits.getD i 0 := by
  unfold fileOf
  simp [List.getD_eq_getElem?_getD, List.getElem?_append_left h]

theorem take_fileOf (bits : Bytes) (est : Nat) (c : Int) (fpr : Nat) :
    (fileOf bits est c fpr).take bits.length = bits := by
  unfold fileOf; simp

theorem footer_pack (est fpr : Nat) (c : Int) (he : est < 2 ^ 64) (hc0 : 0 ≤ c) (hc : c < 2 ^ 64)
    (hf : fpr < 2 ^ 32) :
    Gen.bloomFooter.pack [(est : Int), c, (fpr : Int)] =
      .ok (leBytes 8 est ++ (leBytesInt 8 c ++ leBytes 4 fpr)) := by
  rw [bloomFooter_pack, if_neg (by omega), if_neg (by omega), if_neg (by omega),
    leBytesInt_natCast he, leBytesInt_natCast hf, List.append_assoc]

theorem footer_unpack (bits : Bytes) (est fpr : Nat) (c : Int) (he : est < 2 ^ 64) (hc0 : 0 ≤ c)
    (hc : c < 2 ^ 64) (hf : fpr < 2 ^ 32) :
    Gen.bloomFooter.unpack (Bloom.lastN Gen.bloomFooter.size (fileOf bits est c fpr)) =
      .ok [(est : Int), c, (fpr : Int)] := by
  rw [bloomFooter_size, fileOf, lastN_append _ _ 20 (by simp)]
  exact unpack_pack _ _ _ (footer_pack est fpr c he hc0 hc hf)

theorem exportBytes_eq_fileOf (b : Bloom) (he : b.est < 2 ^ 64) (hc0 : 0 ≤ b.count) (hc : b.count < 2 ^ 64)
    (hf : b.fpr32 < 2 ^ 32) : b.exportBytes = .ok (fileOf b.bits b.est b.count b.fpr32) := by
  unfold Bloom.exportBytes Bloom.footerVals
  rw [footer_pack b.est b.fpr32 b.count he hc0 hc hf]
  rfl

theorem bitSteps_fileOf_cons (m : Nat) (bits : Bytes) (est : Nat) (c : Int) (fpr : Nat) (p : Nat) (ps : List Nat)
    (hb : p % m / 8 < bits.length) :
    OnDisk.bitSteps m (fileOf bits est c fpr) (p :: ps) =
      .storeByte (p % m / 8) (bits.getD (p % m / 8) 0 ||| 1 <<< (p % m % 8)) ::
        OnDisk.bitSteps m (fileOf (setBitB bits (p % m)) est c fpr) ps := by
  simp only [OnDisk.bitSteps]
  rw [getD_fileOf _ _ _ _ _ hb, set_fileOf _ _ _ _ _ _ hb]
  rfl

theorem storeByte_fileOf (bits : Bytes) (est : Nat) (c : Int) (fpr : Nat) (k : Nat) (hb : k / 8 < bits.length) :
    (MicroStep.storeByte (k / 8) (bits.getD (k / 8) 0 ||| 1 <<< (k % 8))).apply (fileOf bits est c fpr) =
      fileOf (setBitB bits k) est c fpr :=
  set_fileOf _ _ _ _ _ _ hb

/-- the byte stores of an add, seen on the bit array alone: the fold of `Bloom.addAlt_bits`, over
    hashes still to be reduced mod `m` (`setAll_eq`) -/
def setAll (m : Nat) (bits : Bytes) (hs : List Nat) : Bytes := hs.foldl (fun b h => setBitB b (h % m)) bits

theorem setAll_eq (m : Nat) (bits : Bytes) (hs : List Nat) :
    setAll m bits hs = (hs.map (· % m)).foldl setBitB bits := List.foldl_map.symm

theorem setAll_length (m : Nat) (bits : Bytes) (hs : List Nat) : (setAll m bits hs).length = bits.length := by
  rw [setAll_eq, foldl_setBitB_length]

theorem pos_in_range {m : Nat} (hm : 0 < m) {bits : Bytes} (hl : bits.length = (m + 7) / 8) (p : Nat) :
    p % m / 8 < bits.length :=
  hl ▸ index_in_range (Nat.mod_lt p hm)

theorem testBitB_setAll (m : Nat) (bits : Bytes) (hs : List Nat) (hm : 0 < m) (hl : bits.length = (m + 7) / 8)
    (j : Nat) : testBitB (setAll m bits hs) j = (decide (j ∈ hs.map (· % m)) || testBitB bits j) := by
  rw [setAll_eq]
  exact testBitB_foldl_setBitB_lt m _ bits j hl (List.forall_mem_map.mpr fun h _ => Nat.mod_lt h hm)

theorem setAll_mono (m : Nat) (bits : Bytes) (hs : List Nat) (hm : 0 < m) (hl : bits.length = (m + 7) / 8)
    (j : Nat) (hj : testBitB bits j = true) : testBitB (setAll m bits hs) j = true := by
  rw [testBitB_setAll m bits hs hm hl, hj, Bool.or_true]

theorem setAll_sets (m : Nat) (bits : Bytes) (hs : List Nat) (hm : 0 < m) (hl : bits.length = (m + 7) / 8)
    (h : Nat) (hh : h ∈ hs) : testBitB (setAll m bits hs) (h % m) = true := by
  rw [testBitB_setAll m bits hs hm hl, decide_eq_true (List.mem_map_of_mem hh), Bool.true_or]

theorem prefixes_append_one (file : Bytes) (xs : List MicroStep) (s : MicroStep) :
    OnDisk.prefixes file (xs ++ [s]) = OnDisk.prefixes file xs ++ [s.apply (OnDisk.applyAll file xs)] := by
  induction xs generalizing file with
  | nil => simp [OnDisk.prefixes, OnDisk.applyAll]
  | cons x xs ih => simp [OnDisk.prefixes, OnDisk.applyAll, ih] at *

theorem applyAll_append_one (file : Bytes) (xs : List MicroStep) (s : MicroStep) :
    OnDisk.applyAll file (xs ++ [s]) = s.apply (OnDisk.applyAll file xs) := by
  simp [OnDisk.applyAll, List.foldl_append]

theorem countOffset_fileOf (o : OnDisk) (bits : Bytes) (c : Int) (h : o.file = fileOf bits o.est c o.fpr32) :
    o.countOffset = bits.length + 8 := by
  unfold OnDisk.countOffset
  rw [h, fileOf_length, updateOffset_size]
  exact Nat.add_sub_assoc (by decide) _

/-- `clear()` on a file of the documented form whose bit array fills `bloomLength` bytes: the byte
    stores zero exactly the bit array (`foldl_set_range`), then the count store rewrites the count -/
theorem clear_file (o : OnDisk) (bits : Bytes) (c : Int) (h : o.file = fileOf bits o.est c o.fpr32)
    (hl : o.bloomLength = bits.length) :
    o.clear.file = fileOf (List.replicate bits.length 0) o.est 0 o.fpr32 := by
  show OnDisk.applyAll o.file (_ ++ [_]) = _
  rw [applyAll_append_one, OnDisk.applyAll, List.foldl_map]
  show patch ((List.range o.bloomLength).foldl (fun l i => l.set i 0) o.file) o.countOffset _ = _
  rw [foldl_set_range 0 o.file o.bloomLength (by rw [hl, h, fileOf_length]; exact Nat.le_add_right _ _),
    h, hl, fileOf, List.drop_left, countOffset_fileOf o bits c h]
  have := patch_count (List.replicate bits.length 0) o.est c 0 o.fpr32
  rw [List.length_replicate] at this
  exact this

end PyProb
