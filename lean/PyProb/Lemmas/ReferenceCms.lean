/-
  Lemmas relating the model's count-min operations under the default hashing strategy to the
  documented hashing rule and the reference reader / writer of `Spec/Layout.lean`.
-/
import PyProb.Lemmas.ReferenceCommon
import PyProb.Lemmas.LayoutSpecCms
import PyProb.Lemmas.WFOpsCms
import PyProb.Lemmas.CmsCore

namespace PyProb

theorem sortInts_head (x : Int) (xs : List Int) :
    ∃ rest, CMS.sortInts (x :: xs) = xs.foldl min x :: rest := by
  obtain ⟨y, rest, hs, hy, hle⟩ := CmsCore.sortInts_head (x :: xs) (List.cons_ne_nil _ _)
  obtain ⟨hm, hmin⟩ := foldl_min_spec xs x
  exact ⟨rest, by rw [hs, Int.le_antisymm (hle _ hm) (hmin y hy)]⟩

theorem binIdx_default (c : CMS) (key : Key) :
    c.binIdx (defaultFnv key c.d) = (List.range c.d).map fun i => Spec.hashI key.units i % c.w + i * c.w := by
  unfold CMS.binIdx
  rw [defaultFnv_spec, List.length_map, List.length_range, List.zipWith_map_right, List.zipWith_self]

theorem binIdx_in_range (c : CMS) (key : Key) (hlen : c.bins.length = c.w * c.d) (hw : 0 < c.w) :
    ((List.range c.d).map fun i => Spec.hashI key.units i % c.w + i * c.w).any (· ≥ c.bins.length) = false := by
  rw [← binIdx_default]
  exact CmsCore.binIdx_any_false c _ hw (Nat.le_of_eq (C18.C18_len_default key c.d)) hlen

/-- `bins[p] = min(bins[p] + 1, INT32_MAX)` on the model's cell list -/
def incrC (cells : List Int) (p : Nat) : List Int := cells.set p (min (cells.getD p 0 + 1) 2147483647)

theorem incrC_length (cells : List Int) (p : Nat) : (incrC cells p).length = cells.length := by simp [incrC]

theorem incrC_range (cells : List Int) (p : Nat) (h : BinsOK cells) : BinsOK (incrC cells p) := by
  have := BinsOK_getD h p
  exact BinsOK_set h p _ (by omega)

theorem foldl_incrC_inv (ps : List Nat) (cells : List Int) (h : BinsOK cells) :
    (ps.foldl incrC cells).length = cells.length ∧ BinsOK (ps.foldl incrC cells) :=
  foldl_invariant incrC (fun c => c.length = cells.length ∧ BinsOK c) ps cells ⟨rfl, h⟩
    fun c hc p _ => ⟨(incrC_length c p).trans hc.1, incrC_range c p hc.2⟩

theorem incrC_spec (cells : List Int) (p : Nat) : Spec.incrSatI cells p = incrC cells p := by
  induction cells generalizing p with
  | nil => simp [incrC, Spec.incrSatI]
  | cons c cs ih =>
      cases p with
      | zero =>
          simp only [incrC, List.set_cons_zero, List.getD_cons_zero, Spec.incrSatI]
          congr 1
          split <;> omega
      | succ p =>
          have := ih p
          simp only [incrC, List.set_cons_succ, List.getD_cons_succ, Spec.incrSatI] at this ⊢
          rw [this]

theorem cms_addLoop_one (cur : List Int) (ks : List Nat) (acc : List Int) (hnd : ks.Nodup)
    (hcur : BinsOK cur) :
    ∃ vals, CMS.addLoop cur (ks.map fun k => (k, cur.getD k 0 + 1)) acc = (ks.foldl incrC cur, vals, none) := by
  induction ks generalizing cur acc with
  | nil => exact ⟨_, rfl⟩
  | cons k rest ih =>
      have hk := BinsOK_getD hcur k
      have hmax : Gen.int32Max = 2147483647 := rfl
      have hmin : Gen.int32Min = -2147483648 := rfl
      obtain ⟨hknot, hnd'⟩ := List.nodup_cons.mp hnd
      have hrest : (rest.map fun k' => (k', cur.getD k' 0 + 1)) =
          rest.map fun k' => (k', (incrC cur k).getD k' 0 + 1) := by
        apply List.map_congr_left
        intro k' hk'
        have : k ≠ k' := fun e => hknot (e ▸ hk')
        simp [incrC, List.getD_eq_getElem?_getD, List.getElem?_set_ne this]
      simp only [List.map_cons, CMS.addLoop, Gen.cmsAddClampCmp, Cmp.evalInt, decide_eq_true_eq, List.foldl_cons]
      by_cases hv : cur.getD k 0 + 1 > Gen.int32Max
      · rw [if_pos hv]
        have : cur.set k Gen.int32Max = incrC cur k := by
          unfold incrC; congr 1; omega
        rw [this, hrest]
        exact ih _ _ hnd' (incrC_range _ _ hcur)
      · rw [if_neg hv, if_neg (by omega)]
        have : cur.set k (cur.getD k 0 + 1) = incrC cur k := by
          unfold incrC; congr 1; omega
        rw [this, hrest]
        exact ih _ _ hnd' (incrC_range _ _ hcur)

theorem cms_idx_nodup (w d : Nat) (hw : 0 < w) (r : Nat → Nat) :
    ((List.range d).map fun i => r i % w + i * w).Nodup := by
  unfold List.Nodup
  rw [List.pairwise_map]
  apply List.Pairwise.imp _ List.pairwise_lt_range
  intro i j hij e
  exact Nat.ne_of_lt hij (CmsCore.row_col_inj (Nat.mod_lt _ hw) (Nat.mod_lt _ hw) e).1

theorem cms_add_default (c : CMS) (key : Key) (hlen : c.bins.length = c.w * c.d) (hw : 0 < c.w)
    (hbins : BinsOK c.bins) :
    (c.addAlt (defaultFnv key c.d) 1).1 =
      { c with bins := ((List.range c.d).map fun i => Spec.hashI key.units i % c.w + i * c.w).foldl incrC c.bins,
               total := if c.total + 1 > 9223372036854775807 then 9223372036854775807 else c.total + 1 } := by
  unfold CMS.addAlt
  rw [binIdx_default]
  have hany := binIdx_in_range c key hlen hw
  simp only [hany, Bool.false_eq_true, if_false, zip_map_self_eq_map]
  obtain ⟨vals, hv⟩ := cms_addLoop_one c.bins _ [] (cms_idx_nodup c.w c.d hw (Spec.hashI key.units)) hbins
  rw [hv]
  simp [Gen.cmsTotalMaxCmp, Cmp.evalInt, Gen.int64Max]

theorem cmsRun_eq (w d : Nat) (hw : 0 < w) (keys : List Key) (c0 : CMS) (hcw : c0.w = w) (hcd : c0.d = d)
    (hlen : c0.bins.length = w * d) (hbins : BinsOK c0.bins)
    (ht : c0.total + keys.length ≤ 9223372036854775807) :
    keys.foldl (fun c key => (c.addAlt (defaultFnv key d) 1).1) c0 =
      { c0 with
        bins := (keys.map Key.units).foldl
          (fun arr key => (List.range d).foldl (fun a i => Spec.incrSatI a (i * w + Spec.hashI key i % w)) arr) c0.bins
        total := c0.total + keys.length } := by
  simp only [List.foldl_map, incrC_spec, Nat.add_comm (_ * w)]
  refine (foldl_invariant₂_length _ _
    (fun n c arr => c = { c0 with bins := arr, total := c0.total + n } ∧ arr.length = w * d ∧ BinsOK arr) keys c0 c0.bins
    ⟨by simp, hlen, hbins⟩ ?_).1
  rintro n _ arr hn ⟨rfl, hl, ha⟩ key _
  have hinv := foldl_incrC_inv ((List.range d).map fun i => Spec.hashI key.units i % w + i * w) arr ha
  rw [List.foldl_map] at hinv
  refine ⟨?_, hinv.1.trans hl, hinv.2⟩
  rw [← hcd, cms_add_default _ key (by rw [hl, hcw, hcd]) (hcw ▸ hw) ha]
  simp only [hcw, hcd, List.foldl_map, CMS.mk.injEq, true_and, and_true]
  split <;> omega

theorem cms_keys_range (w d : Nat) (keys : List (List Nat)) (cells : List Int)
    (h : BinsOK cells) :
    BinsOK (keys.foldl
      (fun arr key => (List.range d).foldl (fun a i => Spec.incrSatI a (i * w + Spec.hashI key i % w)) arr) cells) :=
  foldl_invariant _ BinsOK keys cells h fun a ha _ _ =>
    foldl_invariant _ BinsOK _ a ha fun a ha _ _ => incrC_spec a _ ▸ incrC_range a _ ha

theorem rdI64_cmsFile (w d : Nat) (cells : List Int) (t : Int) (hlen : cells.length = w * d)
    (h0 : -9223372036854775808 ≤ t) (h1 : t ≤ 9223372036854775807) :
    Spec.rdI64 (Spec.cmsFileFlat w d cells t) (4 * (w * d) + 8) = t := by
  have hpre : (cells.flatMap Spec.i32le ++ (Spec.u32le w ++ Spec.u32le d)).length = 4 * (w * d) + 8 := by
    rw [List.length_append, flatMap_length_const Spec.i32le 4 (fun _ => rfl), hlen]
    rfl
  have hs : ((Spec.cmsFileFlat w d cells t).drop (4 * (w * d) + 8)).take 8 = Spec.i64le t := by
    unfold Spec.cmsFileFlat Spec.cmsFooter
    rw [← List.append_assoc, List.drop_left' hpre]
    rfl
  rw [rdI64_of_slice hs rfl, ← leBytesInt8_int h0 h1, ofLEInt_leBytesInt_8 h0 h1]

theorem cms_check_default (c : CMS) (key : Key)
    (hlen : c.bins.length = c.w * c.d) (hw : 0 < c.w)
    (hbins : BinsOK c.bins) :
    c.checkAlt (defaultFnv key c.d) =
      c.query c.total (Spec.cmsSorted c.w c.d (Spec.cmsFileFlat c.w c.d c.bins c.total) key.units) := by
  unfold CMS.checkAlt
  rw [binIdx_default]
  have hany := binIdx_in_range c key hlen hw
  simp only [hany, Bool.false_eq_true, if_false]
  have hvals : ((List.range c.d).map fun i => Spec.hashI key.units i % c.w + i * c.w).map (fun x => c.bins.getD x 0)
      = (List.range c.d).map (Spec.cmsCellOf c.w (Spec.cmsFileFlat c.w c.d c.bins c.total) key.units) := by
    rw [List.map_map]
    apply List.map_congr_left
    intro i hi
    simp only [Function.comp_def, Spec.cmsCellOf, Spec.cmsFileFlat]
    rw [rdI32_cells _ _ _ (by rw [hlen, Nat.add_comm]; exact CmsCore.row_col_lt (List.mem_range.mp hi) (Nat.mod_lt _ hw))
      (BinsOK_iff.mp hbins),
      Nat.add_comm]
  rw [hvals]
  rfl

theorem cmsSorted_length (w d : Nat) (file key : Bytes) : (Spec.cmsSorted w d file key).length = d := by
  simp [Spec.cmsSorted]

theorem cmsSorted_sum (w d : Nat) (file key : Bytes) :
    (Spec.cmsSorted w d file key).sum = ((List.range d).map (Spec.cmsCellOf w file key)).sum :=
  perm_sum_int (List.mergeSort_perm _ _)

theorem cmsSorted_head (w d : Nat) (file key : Bytes) :
    (Spec.cmsSorted w d file key).head? = Spec.refReaderCmsMin w d file key := by
  unfold Spec.cmsSorted Spec.refReaderCmsMin
  cases (List.range d).map (Spec.cmsCellOf w file key) with
  | nil => simp
  | cons x xs =>
      obtain ⟨rest, hr⟩ := sortInts_head x xs
      unfold CMS.sortInts at hr
      rw [hr]; rfl

end PyProb
