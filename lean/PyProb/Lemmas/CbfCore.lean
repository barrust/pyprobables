/-
  Helper lemmas for the counting Bloom filter (`PyProb.CBF`): `minList`, the store loops of
  `add_alt` / `remove_alt` as one fold that applies a function to a cell once per occurrence of
  its position, the closed form of `addAlt` (saturation included) and those of `addAlt` /
  `removeAlt` below the saturation limit.
-/
import PyProb.Lemmas.GuardCanon
import PyProb.Lemmas.Histories
import PyProb.Lemmas.Lists
import PyProb.Model.Bloom

namespace PyProb.Counters
open PyProb

/-- the positions `add_alt` / `remove_alt` touch (repetitions kept): `posOf c.k c.cells.length hs` -/
def touched (c : CBF) (hs : List Nat) : List Nat := (hs.take c.k).map (· % c.cells.length)

/-- the minimum over the touched cells: what `remove_alt` compares the amount with -/
def touchedMin (c : CBF) (hs : List Nat) : Int :=
  CBF.minList ((touched c hs).map fun k => c.cells.getD k 0)

theorem cbf_indices (c : CBF) (hs : List Nat) :
    c.indices hs = if hs.length < c.k then .error .indexError else .ok (touched c hs) := rfl

theorem ite_gt_eq_min (n mn : Int) : (if mn > n then n else mn) = min n mn := by
  by_cases h : mn > n
  · rw [if_pos h, Int.min_eq_left (Int.le_of_lt h)]
  · rw [if_neg h, Int.min_eq_right (Int.not_lt.mp h)]

/-- the two `.ok` exits before the loop are a saturated key and an absent key -/
theorem cbf_removeAlt_eq (c : CBF) (hs : List Nat) (n : Int) :
    c.removeAlt hs n =
      if hs.length < c.k then (c, .error .indexError)
      else if touched c hs = [] then (c, .error .valueError)
      else if touchedMin c hs = Gen.uint32Max then (c, .ok Gen.uint32Max)
      else if touchedMin c hs = 0 then (c, .ok 0)
      else match CBF.removeLoop (min n (touchedMin c hs)) c.cells (touched c hs) with
        | (cells, some e) => ({ c with cells := cells }, .error e)
        | (cells, none) =>
          ({ c with cells := cells, count := c.count - min n (touchedMin c hs) },
            .ok (touchedMin c hs - min n (touchedMin c hs))) := by
  unfold CBF.removeAlt touchedMin
  rw [cbf_indices]
  generalize touched c hs = idx
  by_cases hk : hs.length < c.k
  · rw [if_pos hk, if_pos hk]
  · rw [if_neg hk, if_neg hk]
    cases idx with
    | nil => rfl
    | cons x xs =>
      simp only [reduceCtorEq, if_false, beq_iff_eq, ite_gt_eq_min]
      rfl

end PyProb.Counters

namespace PyProb.Cbf
open PyProb CBF

theorem minList_spec {l : List Int} (h : l ≠ []) : minList l ∈ l ∧ ∀ x ∈ l, minList l ≤ x := by
  cases l with
  | nil => exact absurd rfl h
  | cons x xs => exact foldl_min_spec xs x

theorem minList_le {l : List Int} {x : Int} (h : x ∈ l) : minList l ≤ x :=
  (minList_spec (List.ne_nil_of_mem h)).2 x h

theorem minList_mem {l : List Int} (h : l ≠ []) : minList l ∈ l := (minList_spec h).1

theorem le_minList {l : List Int} (h : l ≠ []) (b : Int) (hb : ∀ x ∈ l, b ≤ x) : b ≤ minList l :=
  hb _ (minList_mem h)

theorem minList_const (l : List Int) (h : l ≠ []) (a : Int) (hc : ∀ y ∈ l, y = a) :
    minList l = a := hc _ (minList_mem h)

theorem minList_pos (l : List Int) (h : l ≠ []) : 0 < minList l ↔ ∀ y ∈ l, 0 < y :=
  ⟨fun hp _ hy => Int.lt_of_lt_of_le hp (minList_le hy), fun hall => hall _ (minList_mem h)⟩

theorem minList_map_add {ι} (l : List ι) (f : ι → Int) (n : Int) (h : l ≠ []) :
    minList (l.map fun i => f i + n) = minList (l.map f) + n := by
  have h1 : l.map (fun i => f i + n) ≠ [] := by simpa using h
  have h2 : l.map f ≠ [] := by simpa using h
  apply Int.le_antisymm
  · obtain ⟨i, hi, e⟩ := List.mem_map.mp (minList_mem h2)
    have : minList (l.map fun i => f i + n) ≤ f i + n :=
      minList_le (List.mem_map.mpr ⟨i, hi, rfl⟩)
    omega
  · obtain ⟨i, hi, e⟩ := List.mem_map.mp (minList_mem h1)
    have : minList (l.map f) ≤ f i := minList_le (List.mem_map.mpr ⟨i, hi, rfl⟩)
    omega

theorem getD_set (l : List Int) (k j : Nat) (v : Int) :
    (l.set k v).getD j 0 = if k = j ∧ k < l.length then v else l.getD j 0 := by
  simp only [List.getD_eq_getElem?_getD, List.getElem?_set]
  by_cases h : k = j
  · subst h
    by_cases h' : k < l.length
    · simp [h']
    · simp [h']
  · simp [h]

theorem getD_nonneg_of_mem {l : List Int} (h : ∀ x ∈ l, 0 ≤ x) (j : Nat) : 0 ≤ l.getD j 0 :=
  getD_of_forall_mem h (Int.le_refl 0) j

theorem forall_mem_of_forall_getD {l : List Int} {P : Int → Prop} (h : ∀ j, j < l.length → P (l.getD j 0)) :
    ∀ x ∈ l, P x := by
  intro x hx
  obtain ⟨j, hj, rfl⟩ := List.getElem_of_mem hx
  rw [← getD_eq_getElem_of_lt l j hj 0]
  exact h j hj

/-! Both store loops visit the positions of a key in order and replace the cell at each position by a
function of its current value, so a cell that occurs `c` times among the positions has had that
function applied `c` times. -/

def bumpWith (f : Int → Int) (cells : List Int) (idx : List Nat) : List Int :=
  idx.foldl (fun cs j => cs.set j (f (cs.getD j 0))) cells

theorem bumpWith_cons (f : Int → Int) (cells : List Int) (k : Nat) (rest : List Nat) :
    bumpWith f cells (k :: rest) = bumpWith f (cells.set k (f (cells.getD k 0))) rest := rfl

@[simp] theorem bumpWith_length (f : Int → Int) (cells : List Int) (idx : List Nat) :
    (bumpWith f cells idx).length = cells.length := by
  induction idx generalizing cells with
  | nil => rfl
  | cons k rest ih => rw [bumpWith_cons, ih, List.length_set]

theorem repeat_comm (f : Int → Int) (c : Nat) (x : Int) :
    Nat.repeat f c (f x) = f (Nat.repeat f c x) := by
  induction c with
  | zero => rfl
  | succ c ih => simp only [Nat.repeat, ih]

theorem getD_bumpWith (f : Int → Int) (cells : List Int) (idx : List Nat) (j : Nat)
    (hj : j < cells.length) :
    (bumpWith f cells idx).getD j 0 = Nat.repeat f (idx.count j) (cells.getD j 0) := by
  induction idx generalizing cells with
  | nil => rfl
  | cons k rest ih =>
    rw [bumpWith_cons, ih _ (by rw [List.length_set]; exact hj), getD_set, List.count_cons]
    by_cases h : k = j
    · subst h
      simp only [hj, and_self, if_true, beq_self_eq_true]
      exact repeat_comm f _ _
    · simp [h]

def bump (n : Int) (cells : List Int) (idx : List Nat) : List Int :=
  idx.foldl (fun cs j => cs.set j (cs.getD j 0 + n)) cells

@[simp] theorem bump_nil (n : Int) (cells : List Int) : bump n cells [] = cells := rfl

@[simp] theorem bump_length (n : Int) (cells : List Int) (idx : List Nat) :
    (bump n cells idx).length = cells.length := bumpWith_length (· + n) cells idx

theorem repeat_add (n : Int) (c : Nat) (x : Int) : Nat.repeat (· + n) c x = x + (c : Int) * n := by
  induction c with
  | zero => simp [Nat.repeat]
  | succ c ih => rw [Nat.repeat, ih, Int.natCast_add, Int.add_mul]; omega

theorem getD_bump (n : Int) (cells : List Int) (idx : List Nat) (j : Nat) (hj : j < cells.length) :
    (bump n cells idx).getD j 0 = cells.getD j 0 + (idx.count j : Int) * n :=
  (getD_bumpWith (· + n) cells idx j hj).trans (repeat_add n _ _)

theorem getD_bump_all (n : Int) (cells : List Int) (idx : List Nat) (hin : ∀ k ∈ idx, k < cells.length)
    (j : Nat) : (bump n cells idx).getD j 0 = cells.getD j 0 + (idx.count j : Int) * n := by
  by_cases hj : j < cells.length
  · exact getD_bump n cells idx j hj
  · have h0 : idx.count j = 0 := List.count_eq_zero.mpr fun h => hj (hin j h)
    rw [h0, getD_of_length_le _ _ (by rw [bump_length]; omega), getD_of_length_le _ _ (by omega)]
    simp

theorem bump_bump_neg (n : Int) (cells : List Int) (idx : List Nat) :
    bump (-n) (bump n cells idx) idx = cells := by
  apply ext_getD 0 (by simp)
  intro j hj
  have hj' : j < cells.length := by simpa using hj
  rw [getD_bump _ _ _ _ (by simpa using hj'), getD_bump _ _ _ _ hj', Int.mul_neg]
  omega

theorem clampCell_eq_min (v : Int) : clampCell v = min Gen.uint32Max v := by
  unfold clampCell; omega

theorem le_clampCell {a v : Int} (h1 : a ≤ v) (h2 : a ≤ Gen.uint32Max) : a ≤ clampCell v := by
  unfold clampCell; split <;> assumption

theorem repeat_clampAdd {n : Int} (hn : 0 ≤ n) (c : Nat) {x : Int} (hx : x ≤ Gen.uint32Max) :
    Nat.repeat (fun v => clampCell (v + n)) c x = min Gen.uint32Max (x + (c : Int) * n) := by
  induction c with
  | zero => simp only [Nat.repeat]; omega
  | succ c ih =>
    have step : ∀ y, clampCell (min Gen.uint32Max y + n) = min Gen.uint32Max (y + n) := fun y => by
      rcases Int.le_total y Gen.uint32Max with h | h
      · rw [Int.min_eq_right h, clampCell_eq_min]
      · rw [Int.min_eq_left h, Int.min_eq_left (by omega), clampCell_eq_min, Int.min_eq_left (by omega)]
    rw [Nat.repeat, ih, step, Int.natCast_add, Int.add_mul, Int.add_assoc, Int.natCast_one,
      Int.one_mul]

/-- one round of the loop; the cell is read again (`cells.getD k 0`) although `v` was precomputed -/
theorem addLoop_cons (n : Int) (cells : List Int) (k : Nat) (v : Int) (rest : List (Nat × Int))
    (acc : List Int) :
    addLoop n cells ((k, v) :: rest) acc =
      if v > Gen.uint32Max then addLoop n (cells.set k Gen.uint32Max) rest (Gen.uint32Max :: acc)
      else if clampCell (cells.getD k 0 + n) < 0 then
        (cells, (v :: acc).reverse ++ rest.map (·.2), some .overflow)
      else addLoop n (cells.set k (clampCell (cells.getD k 0 + n))) rest (v :: acc) := by
  simp only [addLoop, Gen.cbfAddClampCmp, Cmp.evalInt, decide_eq_true_eq]
  rfl

/-- `old` are the cells from which the values were precomputed; the loop runs on cells that may have
    grown since (positions of one key may coincide).  When the precomputed value crosses the limit
    the loop stores the limit itself; the current cell is at least the old one, so the clamped
    increment would store the same. -/
theorem addLoop_eq (n : Int) (hn : 0 ≤ n) (old : List Int) (idx : List Nat) (cells acc : List Int)
    (hold : ∀ k, old.getD k 0 ≤ cells.getD k 0) (hmax : ∀ k, old.getD k 0 ≤ Gen.uint32Max)
    (h0 : ∀ k, 0 ≤ cells.getD k 0) :
    addLoop n cells (idx.zip (idx.map fun k => old.getD k 0 + n)) acc =
      (bumpWith (fun v => clampCell (v + n)) cells idx,
       acc.reverse ++ idx.map (fun k => clampCell (old.getD k 0 + n)), none) := by
  induction idx generalizing cells acc with
  | nil => simp [addLoop, bumpWith]
  | cons x t ih =>
    have hx := hold x
    have hm := hmax x
    have hz := h0 x
    -- storing a value `w` with `old x ≤ w` and `0 ≤ w` keeps both hypotheses
    have key : ∀ w, 0 ≤ w → old.getD x 0 ≤ w →
        (∀ k, old.getD k 0 ≤ (cells.set x w).getD k 0) ∧ (∀ k, 0 ≤ (cells.set x w).getD k 0) := by
      intro w hw0 hw1
      constructor
      · intro k; rw [getD_set]; split
        · rename_i h; rw [← h.1]; exact hw1
        · exact hold k
      · intro k; rw [getD_set]; split
        · exact hw0
        · exact h0 k
    rw [List.map_cons, List.zip_cons_cons, addLoop_cons, bumpWith_cons, List.map_cons]
    by_cases c : old.getD x 0 + n > Gen.uint32Max
    · obtain ⟨k1, k2⟩ := key Gen.uint32Max (by decide) hm
      have e1 : clampCell (cells.getD x 0 + n) = Gen.uint32Max :=
        if_pos (show cells.getD x 0 + n > Gen.uint32Max by omega)
      have e2 : clampCell (old.getD x 0 + n) = Gen.uint32Max := if_pos c
      rw [if_pos c, ih _ _ k1 k2, e1, e2, List.reverse_cons, List.append_assoc]
      rfl
    · have h1 : 0 ≤ clampCell (cells.getD x 0 + n) := le_clampCell (by omega) (by decide)
      obtain ⟨k1, k2⟩ := key _ h1 (le_clampCell (by omega) hm)
      have e2 : clampCell (old.getD x 0 + n) = old.getD x 0 + n := if_neg c
      rw [if_neg c, if_neg (Int.not_lt.mpr h1), ih _ _ k1 k2, e2, List.reverse_cons,
        List.append_assoc]
      rfl

theorem removeLoop_ok (r : Int) (hr : 0 ≤ r) (idx : List Nat) :
    ∀ (cells : List Int),
      (∀ k ∈ idx, k < cells.length) →
      (∀ j, cells.getD j 0 < Gen.uint32Max) →
      (∀ j, (idx.count j : Int) * r ≤ cells.getD j 0) →
      removeLoop r cells idx = (bump (-r) cells idx, none) := by
  induction idx with
  | nil => intro cells _ _ _; simp [removeLoop]
  | cons k rest ih =>
    intro cells hin hlt hge
    have hk : k < cells.length := hin k (by simp)
    have hgk := hge k
    simp only [List.count_cons, beq_self_eq_true, if_true] at hgk
    rw [Int.natCast_add, Int.add_mul] at hgk
    have hc : 0 ≤ ((rest.count k : Nat) : Int) * r := Int.mul_nonneg (Int.natCast_nonneg _) hr
    have hneg : ¬ cells.getD k 0 - r < 0 := by omega
    simp only [removeLoop, hlt k, if_true, hneg, if_false]
    rw [ih]
    · rfl
    · intro k' hk'; rw [List.length_set]; exact hin k' (List.mem_cons_of_mem _ hk')
    · intro j; rw [getD_set]; split
      · have := hlt k; omega
      · exact hlt j
    · intro j
      have hgj := hge j
      simp only [List.count_cons] at hgj
      rw [getD_set]
      by_cases h : k = j
      · subst h
        simp only [beq_self_eq_true, if_true] at hgj
        rw [Int.natCast_add, Int.add_mul] at hgj
        simp only [hk, and_self, if_true]
        omega
      · have : (k == j) = false := by simpa using h
        simp only [this, Bool.false_eq_true, if_false, Nat.add_zero] at hgj
        simp only [h, false_and, if_false]
        exact hgj

theorem indices_ok (c : CBF) (hs : List Nat) (hl : c.k ≤ hs.length) : c.indices hs = .ok (Counters.touched c hs) :=
  (Counters.cbf_indices c hs).trans (if_neg (Nat.not_lt.mpr hl))

theorem indices_short (c : CBF) (hs : List Nat) (hl : hs.length < c.k) :
    c.indices hs = .error .indexError :=
  (Counters.cbf_indices c hs).trans (if_pos hl)

theorem touched_lt (c : CBF) (hs : List Nat) (hm : 0 < c.cells.length) :
    ∀ j ∈ Counters.touched c hs, j < c.cells.length := by
  intro j hj
  obtain ⟨h, _, rfl⟩ := List.mem_map.mp hj
  exact Nat.mod_lt _ hm

theorem touched_ne_nil (c : CBF) (hs : List Nat) (hk : 0 < c.k) (hl : c.k ≤ hs.length) :
    Counters.touched c hs ≠ [] := by
  intro h
  have : (Counters.touched c hs).length = c.k := by simp [Counters.touched]; omega
  rw [h] at this; simp at this; omega

theorem le_count_mul {j : Nat} {l : List Nat} (h : j ∈ l) {n : Int} (hn : 0 ≤ n) :
    n ≤ (l.count j : Int) * n := by
  have h1 : (1 : Int) ≤ (l.count j : Int) := by
    have := List.count_pos_iff.mpr h; omega
  have := Int.mul_le_mul_of_nonneg_right h1 hn
  omega

theorem addAlt_eq (c : CBF) (hs : List Nat) (n : Int) (hn : 0 ≤ n) (hl : c.k ≤ hs.length)
    (hok : ∀ x ∈ c.cells, 0 ≤ x ∧ x ≤ Gen.uint32Max) :
    c.addAlt hs n =
      ({ c with cells := bumpWith (fun v => clampCell (v + n)) c.cells (Counters.touched c hs),
                count := min (c.count + n) Gen.uint64Max },
       .ok (minList ((Counters.touched c hs).map fun k => clampCell (c.cells.getD k 0 + n)))) := by
  have hM : (0 : Int) ≤ Gen.uint32Max := by decide
  unfold addAlt
  rw [indices_ok c hs hl]
  simp only
  rw [addLoop_eq n hn c.cells (Counters.touched c hs) c.cells [] (fun _ => Int.le_refl _)
    (fun k => (getD_of_forall_mem hok ⟨Int.le_refl 0, hM⟩ k).2)
    (fun k => (getD_of_forall_mem hok ⟨Int.le_refl 0, hM⟩ k).1)]
  rfl

theorem addAlt_unsat (c : CBF) (hs : List Nat) (n : Int) (hl : c.k ≤ hs.length) (hn : 0 ≤ n)
    (h0 : ∀ x ∈ c.cells, 0 ≤ x)
    (hu : ∀ j, c.cells.getD j 0 + ((Counters.touched c hs).count j : Int) * n ≤ Gen.uint32Max) :
    c.addAlt hs n =
      ({ c with cells := bump n c.cells (Counters.touched c hs), count := min (c.count + n) Gen.uint64Max },
       .ok (minList ((Counters.touched c hs).map fun j => c.cells.getD j 0 + n))) := by
  have hcn : ∀ j, 0 ≤ ((Counters.touched c hs).count j : Int) * n := fun j =>
    Int.mul_nonneg (Int.natCast_nonneg _) hn
  have hmax : ∀ j, c.cells.getD j 0 ≤ Gen.uint32Max := fun j => by
    have := hu j; have := hcn j; omega
  have hok : ∀ x ∈ c.cells, 0 ≤ x ∧ x ≤ Gen.uint32Max :=
    forall_mem_of_forall_getD fun j _ => ⟨getD_nonneg_of_mem h0 j, hmax j⟩
  have hcells : bumpWith (fun v => clampCell (v + n)) c.cells (Counters.touched c hs) =
      bump n c.cells (Counters.touched c hs) := by
    apply ext_getD 0 (by simp)
    intro j hj
    have hj' : j < c.cells.length := by simpa using hj
    have := hu j
    rw [getD_bumpWith _ _ _ _ hj', repeat_clampAdd hn _ (hmax j), getD_bump _ _ _ _ hj']
    omega
  have hvals : (Counters.touched c hs).map (fun k => clampCell (c.cells.getD k 0 + n)) =
      (Counters.touched c hs).map fun j => c.cells.getD j 0 + n := by
    apply List.map_congr_left
    intro j hj
    have := hu j
    have := le_count_mul hj hn
    rw [clampCell_eq_min]; omega
  rw [addAlt_eq c hs n hn hl hok, hcells, hvals]

theorem removeAlt_ok (c : CBF) (hs : List Nat) (n r : Int) (hl : c.k ≤ hs.length)
    (hm : 0 < c.cells.length) (hne : Counters.touched c hs ≠ [])
    (hlt : ∀ j, c.cells.getD j 0 < Gen.uint32Max)
    (hmn0 : minList ((Counters.touched c hs).map fun k => c.cells.getD k 0) ≠ 0)
    (hr : r = if minList ((Counters.touched c hs).map fun k => c.cells.getD k 0) > n then n
              else minList ((Counters.touched c hs).map fun k => c.cells.getD k 0))
    (hr0 : 0 ≤ r)
    (hge : ∀ j, ((Counters.touched c hs).count j : Int) * r ≤ c.cells.getD j 0) :
    c.removeAlt hs n =
      ({ c with cells := bump (-r) c.cells (Counters.touched c hs), count := c.count - r },
       .ok (minList ((Counters.touched c hs).map fun k => c.cells.getD k 0) - r)) := by
  have hmax : minList ((Counters.touched c hs).map fun k => c.cells.getD k 0) ≠ Gen.uint32Max := by
    have hne' : (Counters.touched c hs).map (fun k => c.cells.getD k 0) ≠ [] := by simpa using hne
    obtain ⟨j, _, e⟩ := List.mem_map.mp (minList_mem hne')
    have := hlt j
    omega
  rw [Counters.ite_gt_eq_min] at hr
  rw [Counters.cbf_removeAlt_eq, if_neg (Nat.not_lt.mpr hl), if_neg hne,
    if_neg (show Counters.touchedMin c hs ≠ Gen.uint32Max from hmax),
    if_neg (show Counters.touchedMin c hs ≠ 0 from hmn0), ← show r = min n (Counters.touchedMin c hs) from hr]
  rw [removeLoop_ok r hr0 (Counters.touched c hs) c.cells (touched_lt c hs hm) hlt hge]
  rfl

theorem prefix_induction {α} (P : List α → Prop) (ops : List α) (h0 : P [])
    (hs : ∀ i (hi : i < ops.length), P (ops.take i) → P (ops.take i ++ [ops[i]])) : P ops := by
  simpa using prefix_induction_all P ops h0 hs ops.length (Nat.le_refl _)

end PyProb.Cbf
