/-
  Boolean checkers that compare the four model paths of the quotient filter with the specification
  on ALL canonical tables `layout 3 false S`, `S` a subset of a small universe `U` (8 slots), and two
  such universes.  They are executable; `QFBounded.lean` proves that they succeed
  for every strictly sorted universe, and `C04_exact_set_universe` uses nothing else about the tables.
-/
import PyProb.Spec.QF

namespace PyProb.QFBounded
open PyProb PyProb.Spec

/-- all sublists (order preserving), i.e. all subsets of a sorted universe as sorted lists -/
def subsets {α : Type} : List α → List (List α)
  | [] => [[]]
  | x :: xs => let r := subsets xs; r ++ r.map (x :: ·)

def okEq (r : R QF) (t : QF) : Bool :=
  match r with
  | .ok s => s == t
  | .error _ => false

/-- look-up is membership -/
def containedOk (S : List Elem) (x : Elem) : Bool :=
  match QF.containedAtLoc (layout 3 false S) x.1 x.2 with
  | .ok o => o.isSome == S.contains x
  | .error _ => false

/-- the instance of `A1_contained` at `q = 3`, all `S ⊆ U`, all `x ∈ U` -/
def checkContained (U : List Elem) : Bool :=
  (subsets U).all fun S => decide (S.length ≥ 8) || U.all fun x => containedOk S x

/-- iteration lists a permutation of the hashes of `S` -/
def hashesOk (S : List Elem) : Bool :=
  match QF.getHashes (layout 3 false S) with
  | .ok l => l.isPerm (S.map (enc 3))
  | .error _ => false

/-- the instance of `A2_hashes` -/
def checkHashes (U : List Elem) : Bool :=
  (subsets U).all fun S => decide (S.length ≥ 8) || hashesOk S

def addOk (S : List Elem) (x : Elem) : Bool :=
  S.contains x || decide (S.length + 1 ≥ 8) ||
    okEq (QF.addQR (layout 3 false S) x.1 x.2) (layout 3 false (insert x S))

/-- the instance of `B1_add` -/
def checkAdd (U : List Elem) : Bool :=
  (subsets U).all fun S => decide (S.length ≥ 8) || U.all fun x => addOk S x

def removeOk (S : List Elem) (x : Elem) : Bool :=
  okEq (QF.removeQR (layout 3 false S) x.1 x.2) (layout 3 false (erase x S))

/-- the instance of `B2_remove` (and of "removing an absent element changes nothing") -/
def checkRemove (U : List Elem) : Bool :=
  (subsets U).all fun S => decide (S.length ≥ 8) || U.all fun x => removeOk S x

/-- `add_alt` (look-up, then insertion) is set insertion; a full table refuses a new element -/
def addAltOk (S : List Elem) (x : Elem) : Bool :=
  if S.contains x || decide (S.length + 1 < 8) then
    okEq (QF.addAlt 1 (layout 3 false S) (enc 3 x)) (layout 3 false (insert x S))
  else
    match QF.addAlt 1 (layout 3 false S) (enc 3 x) with
    | .error .qfError => true
    | _ => false

def checkAddAlt (U : List Elem) : Bool :=
  (subsets U).all fun S => decide (S.length ≥ 8) || U.all fun x => addAltOk S x

/-- the subsets of `U` are closed under inserting and erasing elements of `U` -/
def checkClosed (U : List Elem) : Bool :=
  (subsets U).all fun S => decide (S.length ≥ 8) ||
    U.all fun x => (subsets U).contains (insert x S) && (subsets U).contains (erase x S)

theorem okEq_iff (r : R QF) (t : QF) : okEq r t = true ↔ r = .ok t := by
  cases r with
  | error e => simp [okEq]
  | ok s => simp [okEq]

/-- what a successful check says, for one subset and one element -/
theorem all_sub_iff {U : List Elem} {f : List Elem → Elem → Bool} :
    ((subsets U).all fun S => decide (S.length ≥ 8) || U.all fun x => f S x) = true ↔
      ∀ S ∈ subsets U, S.length < 8 → ∀ x ∈ U, f S x = true := by
  simp only [List.all_eq_true, Bool.or_eq_true, decide_eq_true_eq]
  constructor
  · intro h S hS hl x hx
    exact (h S hS).resolve_left (by omega) x hx
  · intro h S hS
    by_cases hl : S.length ≥ 8
    · exact Or.inl hl
    · exact Or.inr (h S hS (by omega))

theorem closed_sub {U : List Elem} (h : checkClosed U = true) {S : List Elem} (hS : S ∈ subsets U)
    (hl : S.length < 8) {x : Elem} (hx : x ∈ U) :
    insert x S ∈ subsets U ∧ erase x S ∈ subsets U := by
  have := all_sub_iff (f := fun S x => (subsets U).contains (insert x S) && (subsets U).contains (erase x S)).1
    h S hS hl x hx
  rw [Bool.and_eq_true, List.contains_iff_mem, List.contains_iff_mem] at this
  exact this

/-- universe A: a run of three at quotient 0, a run wrapping round the end of the table;
    its 7-element subset fills the table up to the one slot that stays empty -/
def UA : List Elem := [(0, 1), (0, 2), (0, 3), (1, 0), (6, 1), (7, 0), (7, 2)]

/-- universe B: adjacent runs in the middle of the table -/
def UB : List Elem := [(2, 0), (2, 5), (3, 1), (3, 4), (4, 2), (5, 3)]

end PyProb.QFBounded
