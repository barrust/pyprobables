/-
  Sequences of homes with a value inserted at an index (`insAt`, what `_add` does to the element
  sequence) or with the member at an index deleted (`del`, what `_remove_element` does), and what
  becomes of the positions `posF` and the continuation flags `contF`.  The facts are proved for
  `insAt`; a sequence `d` is `del j d` with `d j` inserted at `j` (`insAt_del`), which turns each
  of them into one about `del`; only `pos_del_lt` (a congruence) and `pos_del_mid` (from the positions
  in the longer sequence to those in the shorter one) are proved on `del` directly.  `del` and its lemmas are in the namespace `QFRem`,
  `insAt` in `QFLin`: the statements of the removal chain (`QFRem.Ctx`) are written with these names.
-/
import PyProb.Lemmas.QFLin

namespace PyProb.QFRem

def del (j : Nat) (f : Nat → Nat) (i : Nat) : Nat := if i < j then f i else f (i + 1)

theorem del_lt (j : Nat) (f : Nat → Nat) (i : Nat) (h : i < j) : del j f i = f i := if_pos h

theorem del_ge (j : Nat) (f : Nat → Nat) (i : Nat) (h : j ≤ i) : del j f i = f (i + 1) :=
  if_neg (Nat.not_lt.2 h)

end PyProb.QFRem

namespace PyProb.QFLin
open PyProb PyProb.QF PyProb.QFRem

def insAt (j v : Nat) (f : Nat → Nat) (i : Nat) : Nat := if i < j then f i else if i = j then v else f (i - 1)

theorem insAt_lt (j v : Nat) (f : Nat → Nat) (i : Nat) (h : i < j) : insAt j v f i = f i := if_pos h

theorem insAt_eq (j v : Nat) (f : Nat → Nat) : insAt j v f j = v := by simp [insAt]

theorem insAt_gt (j v : Nat) (f : Nat → Nat) (i : Nat) (h : j ≤ i) : insAt j v f (i + 1) = f i := by
  simp only [insAt]
  rw [if_neg (by omega), if_neg (by omega), Nat.add_sub_cancel]

theorem insAt_del (j : Nat) (d : Nat → Nat) : insAt j (d j) (del j d) = d := by
  funext i
  rcases Nat.lt_trichotomy i j with h | h | h
  · rw [insAt_lt j _ _ i h, del_lt j d i h]
  · rw [h, insAt_eq]
  · obtain ⟨i, rfl⟩ : ∃ i', i = i' + 1 := ⟨i - 1, by omega⟩
    rw [insAt_gt j _ _ i (Nat.le_of_lt_succ h), del_ge j d i (Nat.le_of_lt_succ h)]

theorem del_insAt (j v : Nat) (f : Nat → Nat) : del j (insAt j v f) = f := by
  funext i
  by_cases h : i < j
  · rw [del_lt j _ i h, insAt_lt j v f i h]
  · rw [del_ge j _ i (Nat.le_of_not_lt h), insAt_gt j v f i (Nat.le_of_not_lt h)]

theorem exists_ins_iff (j D m y : Nat) (d : Nat → Nat) (hj : j ≤ m) :
    (∃ i, i < m ∧ d i = y) ↔ ∃ i, i < m + 1 ∧ i ≠ j ∧ insAt j D d i = y := by
  constructor
  · rintro ⟨i, hi, hdi⟩
    by_cases c : i < j
    · exact ⟨i, by omega, by omega, (insAt_lt j D d i c).trans hdi⟩
    · exact ⟨i + 1, by omega, by omega, (insAt_gt j D d i (by omega)).trans hdi⟩
  · rintro ⟨i, hi, hij, hdi⟩
    by_cases c : i < j
    · exact ⟨i, by omega, (insAt_lt j D d i c).symm.trans hdi⟩
    · obtain ⟨i', rfl⟩ : ∃ i', i = i' + 1 := ⟨i - 1, by omega⟩
      exact ⟨i', by omega, (insAt_gt j D d i' (by omega)).symm.trans hdi⟩

section nbrs
variable {j D rr m : Nat} {d r : Nat → Nat} (hsorted : SeqSorted (m + 1) (insAt j D d) (insAt j rr r))
include hsorted

theorem ins_prev (h1 : 1 ≤ j) (hj : j ≤ m) : d (j - 1) < D ∨ (d (j - 1) = D ∧ r (j - 1) < rr) := by
  have h2 := hsorted (j - 1) (by omega)
  rwa [show j - 1 + 1 = j by omega, insAt_eq, insAt_eq, insAt_lt j D d (j - 1) (by omega),
    insAt_lt j rr r (j - 1) (by omega)] at h2

theorem ins_next (hj : j < m) : D < d j ∨ (D = d j ∧ rr < r j) := by
  have h2 := hsorted j (by omega)
  rwa [insAt_eq, insAt_eq, insAt_gt j D d j (Nat.le_refl _), insAt_gt j rr r j (Nat.le_refl _)] at h2

theorem contF_at_ins (hj : j < m) (h : contF d j = true) : d j = D := by
  simp only [contF, Bool.and_eq_true, decide_eq_true_eq] at h
  have h1 := ins_prev hsorted (by omega) (by omega)
  have h2 := ins_next hsorted hj
  omega

end nbrs

theorem pos_ins_lt (j D : Nat) (d : Nat → Nat) (i : Nat) (h : i < j) : posF (insAt j D d) i = posF d i :=
  posF_congr _ _ i (fun k hk => insAt_lt j D d k (by omega))

theorem pos_ins_j (j D : Nat) (d : Nat → Nat) :
    posF (insAt j D d) j = if j = 0 then D else max (posF d (j - 1) + 1) D := by
  cases j with
  | zero => simp [posF, insAt]
  | succ j =>
      simp only [posF, insAt_eq, Nat.add_sub_cancel, Nat.add_one_ne_zero, if_false]
      rw [pos_ins_lt (j + 1) D d j (by omega)]

theorem home_le_pos_ins (j D : Nat) (d : Nat → Nat) : D ≤ posF (insAt j D d) j := by
  have h := p_ge_d (insAt j D d) j
  rwa [insAt_eq] at h

theorem pos_ins_succ (j D : Nat) (d : Nat → Nat) (i : Nat) (h : j ≤ i) :
    posF (insAt j D d) (i + 1) = max (posF (insAt j D d) i + 1) (d i) := by
  simp only [posF, insAt_gt j D d i h]

theorem pos_ins_le (j D : Nat) (d : Nat → Nat) (h : D ≤ d j) : posF (insAt j D d) j ≤ posF d j := by
  rw [pos_ins_j]
  cases j with
  | zero => simp only [if_true, posF]; exact h
  | succ j => simp only [Nat.add_one_ne_zero, if_false, Nat.add_sub_cancel, posF]; omega

theorem pos_ins_home (j D : Nat) (d : Nat → Nat) (h : d j = D) : posF (insAt j D d) j = posF d j := by
  rw [pos_ins_j, ← h]
  cases j with
  | zero => simp only [if_true, posF]
  | succ j => simp only [Nat.add_one_ne_zero, if_false, Nat.add_sub_cancel, posF]

/-- behind an element whose slot is not in front of the new home, the new element takes the next slot -/
theorem pos_ins_behind (i D : Nat) (d : Nat → Nat) (h : D ≤ posF d i) :
    posF (insAt (i + 1) D d) (i + 1) = posF d i + 1 := by
  rw [pos_ins_j, if_neg (Nat.succ_ne_zero i), Nat.add_sub_cancel]
  exact Nat.max_eq_left (Nat.le_succ_of_le h)

/-- behind the new element every element stays where it was, unless the elements in front of it,
    packed from the new element on, push it to the right -/
theorem pos_ins_after (j D : Nat) (d : Nat → Nat) (u : Nat) :
    posF (insAt j D d) (j + u + 1) = max (posF d (j + u)) (posF (insAt j D d) j + u + 1) := by
  induction u with
  | zero =>
      rw [Nat.add_zero, pos_ins_succ j D d j (Nat.le_refl _), pos_ins_j]
      cases j with
      | zero => simp only [posF, if_true]; omega
      | succ j => simp only [posF, Nat.add_one_ne_zero, if_false, Nat.add_sub_cancel]; omega
  | succ u ih =>
      have h := pos_ins_succ j D d (j + u + 1) (Nat.le_trans (Nat.le_add_right j u) (Nat.le_succ _))
      have e : posF d (j + u + 1) = max (posF d (j + u) + 1) (d (j + u + 1)) := rfl
      show posF (insAt j D d) (j + u + 1 + 1) = max (posF d (j + u + 1)) (posF (insAt j D d) j + u + 1 + 1)
      rw [h, ih, e, ← Nat.add_max_add_right, Nat.max_assoc, Nat.max_comm (posF (insAt j D d) j + u + 1 + 1),
        ← Nat.max_assoc]

theorem pos_ins_ge (j D : Nat) (d : Nat → Nat) (i : Nat) : posF d i ≤ posF (insAt j D d) (i + 1) := by
  by_cases h : i < j
  · rw [← pos_ins_lt j D d i h]
    exact Nat.le_of_lt (p_lt _ i (i + 1) (Nat.lt_succ_self i))
  · obtain ⟨u, rfl⟩ := Nat.exists_eq_add_of_le (Nat.not_lt.1 h)
    rw [pos_ins_after]
    exact Nat.le_max_left _ _

/-- from a slot `P` not behind element `j`, a longest run of elements packed from `P` on -/
theorem ins_block (d : Nat → Nat) (m j P : Nat) (hP : j < m → P ≤ posF d j) :
    ∃ k, (∀ u, u < k → j + u < m ∧ posF d (j + u) = P + u) ∧ (j + k < m → P + k < posF d (j + k)) := by
  obtain ⟨k, _, hk, hmin⟩ := exists_first (fun u => ¬ (j + u < m ∧ posF d (j + u) = P + u)) m (by
    intro h; omega)
  refine ⟨k, ?_, ?_⟩
  · intro u hu
    have := hmin u hu
    exact Classical.not_not.1 this
  · intro hjk
    have hne : posF d (j + k) ≠ P + k := fun h => hk ⟨hjk, h⟩
    cases k with
    | zero => have := hP hjk; simp only [Nat.add_zero] at *; omega
    | succ k =>
        have h1 := Classical.not_not.1 (hmin k (by omega))
        have h2 := p_step d (j + k)
        rw [show j + (k + 1) = j + k + 1 by omega] at hne ⊢
        omega

/- The new element is at `P`; the `k` old elements behind it that are packed from `P` on (`hblock`)
   are the ones it pushes, each by one slot; the old element behind them is further right (`hgap`). -/
section block
variable {j D k m P : Nat} {d : Nat → Nat} (hP : posF (insAt j D d) j = P)
  (hblock : ∀ u, u < k → j + u < m ∧ posF d (j + u) = P + u)
  (hgap : j + k < m → P + k < posF d (j + k))
include hP

/-- an element in front of the new one stays, in front of `P` -/
theorem pos_ins_front (i : Nat) (hi : i < j) : posF (insAt j D d) i = posF d i ∧ posF d i < P := by
  have h1 := pos_ins_lt j D d i hi
  have h2 := p_lt (insAt j D d) i j hi
  rw [h1, hP] at h2
  exact ⟨h1, h2⟩

include hgap

/-- an element behind the block stays, behind the slot `P + k` -/
theorem pos_ins_far (i : Nat) (h1 : j + k ≤ i) (h2 : i < m) :
    P + k < posF d i ∧ posF (insAt j D d) (i + 1) = posF d i := by
  obtain ⟨u, rfl⟩ : ∃ u, i = j + u :=
    ⟨i - j, (Nat.add_sub_of_le (Nat.le_trans (Nat.le_add_right j k) h1)).symm⟩
  have h3 := hgap (Nat.lt_of_le_of_lt h1 h2)
  have h4 := p_mono d (j + k) (j + u) h1
  rw [pos_ins_after j D d u, hP]
  omega

include hblock

omit hgap in
theorem pos_ins_moved (u : Nat) (hu : u < k) : posF (insAt j D d) (j + u + 1) = P + u + 1 := by
  rw [pos_ins_after j D d u, hP, (hblock u hu).2]
  exact Nat.max_eq_right (Nat.le_succ _)

/-- a slot without a new element is away from `P .. P + k` and held no old element -/
theorem pos_ins_free (hj : j ≤ m) (y : Nat) (hno : ∀ i, i < m + 1 → posF (insAt j D d) i ≠ y) :
    (y < P ∨ P + k < y) ∧ ∀ i, i < m → posF d i ≠ y := by
  have hy : y < P ∨ P + k < y := by
    apply Classical.byContradiction
    intro h
    by_cases hyP : y = P
    · exact hno j (Nat.lt_succ_of_le hj) (hP.trans hyP.symm)
    · obtain ⟨u, hu, rfl⟩ : ∃ u, u < k ∧ y = P + u + 1 := ⟨y - P - 1, by omega, by omega⟩
      exact hno (j + u + 1) (Nat.succ_lt_succ (hblock u hu).1) (pos_ins_moved hP hblock u hu)
  refine ⟨hy, ?_⟩
  intro i hi heq
  by_cases h1 : i < j
  · exact hno i (Nat.lt_succ_of_lt hi) ((pos_ins_front hP i h1).1.trans heq)
  · by_cases h2 : i < j + k
    · obtain ⟨u, rfl⟩ : ∃ u, i = j + u := ⟨i - j, (Nat.add_sub_of_le (Nat.not_lt.1 h1)).symm⟩
      have h4 := (hblock u (Nat.lt_of_add_lt_add_left h2)).2
      omega
    · exact hno (i + 1) (Nat.succ_lt_succ hi) ((pos_ins_far hP hgap i (Nat.not_lt.1 h2) hi).2.trans heq)

omit hP hgap in
/-- the slot behind the block is in the table -/
theorem block_end_lt {n : Nat} (hfit : SeqFits n m d) (hP1 : P + 1 < n) : P + k < n := by
  cases k with
  | zero => exact Nat.lt_of_succ_lt hP1
  | succ k =>
      obtain ⟨h1, h2⟩ := hblock k (Nat.lt_succ_self k)
      have := hfit (j + k) h1
      omega

end block

theorem contF_ins_lt (j D : Nat) (d : Nat → Nat) (i : Nat) (h : i < j) : contF (insAt j D d) i = contF d i := by
  simp only [contF]
  rw [insAt_lt j D d i h]
  by_cases h0 : i = 0
  · simp [h0]
  · rw [insAt_lt j D d (i - 1) (by omega)]

theorem contF_ins_j (j D : Nat) (d : Nat → Nat) :
    contF (insAt j D d) j = (decide (j ≠ 0) && decide (D = d (j - 1))) := by
  simp only [contF, insAt_eq]
  by_cases h0 : j = 0
  · simp [h0]
  · rw [insAt_lt j D d (j - 1) (by omega)]

theorem contF_ins_j_false (j D : Nat) (d : Nat → Nat) (h : 1 ≤ j → d (j - 1) ≠ D) :
    contF (insAt j D d) j = false := by
  rw [contF_ins_j, Bool.and_eq_false_iff, decide_eq_false_iff_not, decide_eq_false_iff_not]
  by_cases h0 : j = 0
  · exact Or.inl (fun h' => h' h0)
  · exact Or.inr (fun h' => h (by omega) h'.symm)

/-- the new element put into the run `f, …, g` of its home, or just behind it: as the first of the
    run it takes the slot of the old first and is no continuation; otherwise it is a continuation
    behind that slot -/
theorem ins_run_start {f g j D : Nat} {d : Nat → Nat} (hgrp : ∀ k, f ≤ k → k ≤ g → d k = D)
    (hfmin : ∀ k, k < f → d k ≠ D) (hfg : f ≤ g) (hfj : f ≤ j) (hjg : j ≤ g + 1) :
    (posF (insAt j D d) j = posF d f ∧ contF (insAt j D d) j = false) ∨
      (posF d f < posF (insAt j D d) j ∧ contF (insAt j D d) j = true) := by
  by_cases hjf : j = f
  · subst hjf
    exact Or.inl ⟨pos_ins_home j D d (hgrp j hfj hfg),
      contF_ins_j_false j D d (fun h1 => hfmin (j - 1) (Nat.sub_lt h1 Nat.one_pos))⟩
  · obtain ⟨a1, a2, a3⟩ : f ≤ j - 1 ∧ j - 1 ≤ g ∧ j ≠ 0 := by omega
    refine Or.inr ⟨?_, ?_⟩
    · have := p_mono d f (j - 1) a1
      rw [pos_ins_j, if_neg a3]
      omega
    · rw [contF_ins_j, hgrp (j - 1) a1 a2, decide_eq_true a3, decide_eq_true rfl]
      rfl

theorem contF_ins_succ (j D : Nat) (d : Nat → Nat) : contF (insAt j D d) (j + 1) = decide (d j = D) := by
  rw [contF_succ, insAt_eq, insAt_gt j D d j (Nat.le_refl _)]

theorem contF_ins_gt (j D : Nat) (d : Nat → Nat) (i : Nat) (h : j + 1 ≤ i) :
    contF (insAt j D d) (i + 1) = contF d i := by
  obtain ⟨i', rfl⟩ : ∃ i', i = i' + 1 := ⟨i - 1, by omega⟩
  rw [contF_succ, contF_succ, insAt_gt j D d (i' + 1) (by omega), insAt_gt j D d i' (by omega)]

end PyProb.QFLin

namespace PyProb.QFRem
open PyProb PyProb.QFLin

theorem pos_del_lt (d : Nat → Nat) (j i : Nat) (h : i < j) : posF (del j d) i = posF d i :=
  posF_congr _ _ i (fun k hk => del_lt j d k (by omega))

theorem pos_del_le (d : Nat → Nat) (j i : Nat) : posF (del j d) i ≤ posF d (i + 1) := by
  have h := pos_ins_ge j (d j) (del j d) i
  rwa [insAt_del j d] at h

/-- from the next cluster on nothing moves: element `b + 1` is at home, so it was not pushed -/
theorem pos_del_ge (d : Nat → Nat) (j b : Nat) (hjb : j ≤ b) (hb : posF d (b + 1) = d (b + 1)) (t : Nat) :
    posF (del j d) (b + t) = posF d (b + t + 1) := by
  obtain ⟨u, rfl⟩ := Nat.exists_eq_add_of_le hjb
  have h1 : posF (insAt j (d j) (del j d)) j + u + 1 ≤ posF (insAt j (d j) (del j d)) (j + u + 1) :=
    pos_ins_after j (d j) (del j d) u ▸ Nat.le_max_right _ _
  have h2 := pos_ins_after j (d j) (del j d) (u + t)
  rw [insAt_del j d] at h1 h2
  have h3 := p_ge_d (del j d) (j + u)
  rw [del_ge j d (j + u) (Nat.le_add_right j u)] at h3
  have h4 := p_mono (del j d) (j + u) (j + (u + t)) (by omega)
  rw [Nat.add_assoc j u t, h2]
  exact (Nat.max_eq_left (by omega)).symm

/-- behind the deleted element the elements of its cluster move one slot to the left -/
theorem pos_del_mid (d : Nat → Nat) (j b : Nat) (hmono : d j ≤ d (j + 1))
    (hsh : ∀ k, j < k → k ≤ b → posF d k ≠ d k) :
    ∀ t, j + t < b → posF (del j d) (j + t) + 1 = posF d (j + t + 1) := by
  intro t
  induction t with
  | zero =>
      intro h
      have h3 := hsh (j + 1) (Nat.lt_succ_self j) h
      have e1 : posF d (j + 1) = max (posF d j + 1) (d (j + 1)) := rfl
      -- `pos j` and the new `pos j` are the maximum of the same bound and the homes `d j`, `d (j + 1)`
      obtain ⟨p, e2, e3⟩ : ∃ p, posF d j = max p (d j) ∧ posF (del j d) j = max p (d (j + 1)) := by
        cases j with
        | zero => exact ⟨0, (Nat.zero_max _).symm, (Nat.zero_max _).symm⟩
        | succ j =>
            refine ⟨posF d j + 1, rfl, ?_⟩
            rw [posF, pos_del_lt d (j + 1) j (Nat.lt_succ_self j), del_ge (j + 1) d (j + 1) (Nat.le_refl _)]
      show posF (del j d) j + 1 = posF d (j + 1)
      omega
  | succ t ih =>
      intro h
      have h3 := hsh (j + t + 1 + 1) (by omega) h
      have e1 : posF d (j + t + 1 + 1) = max (posF d (j + t + 1) + 1) (d (j + t + 1 + 1)) := rfl
      have e2 : posF (del j d) (j + t + 1) = max (posF (del j d) (j + t) + 1) (del j d (j + t + 1)) := rfl
      rw [del_ge j d (j + t + 1) (by omega)] at e2
      have h6 := ih (by omega)
      show posF (del j d) (j + t + 1) + 1 = posF d (j + t + 1 + 1)
      omega

theorem contF_del_lt (d : Nat → Nat) (j i : Nat) (h : i < j) : contF (del j d) i = contF d i := by
  have h := contF_ins_lt j (d j) (del j d) i h
  rw [insAt_del j d] at h
  exact h.symm

theorem contF_del_gt (d : Nat → Nat) (j i : Nat) (h : j < i) : contF (del j d) i = contF d (i + 1) := by
  have h := contF_ins_gt j (d j) (del j d) i h
  rw [insAt_del j d] at h
  exact h.symm

theorem contF_del_eq (d : Nat → Nat) (j : Nat) (h1 : j ≠ 0 → d (j - 1) ≤ d j) (h2 : d j ≤ d (j + 1)) :
    contF (del j d) j = (contF d j && contF d (j + 1)) := by
  have e1 := contF_ins_j j (d j) (del j d)
  have e2 := contF_ins_succ j (d j) (del j d)
  rw [insAt_del j d] at e1 e2
  rw [e1, e2, contF, del_ge j d j (Nat.le_refl j)]
  by_cases h0 : j = 0
  · simp [h0]
  · have := h1 h0
    rw [del_lt j d (j - 1) (by omega), Bool.eq_iff_iff]
    simp only [Bool.and_eq_true, decide_eq_true_eq]
    omega

theorem del_exists (d : Nat → Nat) (j m y : Nat) (hj : j < m) :
    (∃ i, i < m - 1 ∧ del j d i = y) ↔ ∃ k, k < m ∧ k ≠ j ∧ d k = y := by
  have h := exists_ins_iff j (d j) (m - 1) y (del j d) (Nat.le_sub_one_of_lt hj)
  rwa [insAt_del j d, Nat.sub_add_cancel (Nat.succ_le_of_lt (Nat.lt_of_le_of_lt (Nat.zero_le j) hj))] at h

end PyProb.QFRem
