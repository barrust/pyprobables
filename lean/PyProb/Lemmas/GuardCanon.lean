/-
  The translator (harness/extract_facts.py) reads every guard it extracts as it is WRITTEN —
  `subject <raw> bound + off` — and hands the models a canonical operator against the bound itself.
  `canonical` and `strict` below are the translator's table (`canonical_guard`); it is proved sound
  once, for all integers:

    * `evalInt_canonical`, for the integer guards of the expanding / rotating filters:
        raw a (b + off)  =  canonical a b                     (`a <= b - 1` is `a < b`, …);
    * `ite_canonical`, for the saturation clamps (`if v <raw> M+off: cell = M else: cell = v`, and
      the mirrored "keep" form of remove): the value stored is the same
        (`>=` and `>` store the same value, because at v = M both branches store M).

  The theorems after them check, on every run and for whatever the translator emitted, that the
  emitted triple is an entry of that table.  So the translator's normalisation is checked by the
  kernel, not trusted.  A spelling outside the recognised ones is reported by the translator as a
  missing fact (a broken tie), never guessed.
-/
import PyProb.Generated.Repo

namespace PyProb.GuardCanon
open PyProb

def canonical (op : Cmp) (off : Int) : Option Cmp :=
  if off = 0 then some op
  else match op, off with
    | .lt, 1 => some .le
    | .le, -1 => some .lt
    | .gt, -1 => some .ge
    | .ge, 1 => some .gt
    | _, _ => none

theorem evalInt_canonical {raw canon : Cmp} {off : Int} (h : canonical raw off = some canon)
    (a b : Int) : raw.evalInt a (b + off) = canon.evalInt a b := by
  unfold canonical at h
  split at h
  · rename_i h0
    cases h
    rw [h0, Int.add_zero]
  · split at h
    all_goals cases h
    -- the four spellings with an offset: `a < b + 1 ↔ a ≤ b` and the like
    all_goals
      simp only [Cmp.evalInt, decide_eq_decide]
      omega

def strict : Cmp → Cmp
  | .ge => .gt
  | .le => .lt
  | c => c

theorem ite_canonical {raw canon : Cmp} {off : Int}
    (h : (canonical raw off).map strict = some canon) (v M x y : Int) (hxy : v = M → x = y) :
    (if raw.evalInt v (M + off) then x else y) = (if canon.evalInt v M then x else y) := by
  obtain ⟨c, hc, rfl⟩ := Option.map_eq_some_iff.1 h
  rw [evalInt_canonical hc]
  by_cases e : v = M
  · rw [hxy e, ite_self, ite_self]
  · cases c
    case ge =>
      have : v ≥ M ↔ v > M := by omega
      simp only [strict, Cmp.evalInt, decide_eq_true_eq, this]
    case le =>
      have : v ≤ M ↔ v < M := by omega
      simp only [strict, Cmp.evalInt, decide_eq_true_eq, this]
    all_goals rfl

theorem expGrow_canon (a b : Int) :
    Gen.expGrowCmpRaw.evalInt a (b + Gen.expGrowCmpOff) = Gen.expGrowCmp.evalInt a b :=
  evalInt_canonical (by decide) a b

theorem rotReady_canon (a b : Int) :
    Gen.rotReadyCmpRaw.evalInt a (b + Gen.rotReadyCmpOff) = Gen.rotReadyCmp.evalInt a b :=
  evalInt_canonical (by decide) a b

theorem rotRoom_canon (a b : Int) :
    Gen.rotRoomCmpRaw.evalInt a (b + Gen.rotRoomCmpOff) = Gen.rotRoomCmp.evalInt a b :=
  evalInt_canonical (by decide) a b

/-- count-min `add`: `if v <guard> INT32_MAX: cell = INT32_MAX else: cell = v` -/
theorem cmsAddClamp_canon (v : Int) :
    (if Gen.cmsAddClampCmpRaw.evalInt v (Gen.int32Max + Gen.cmsAddClampCmpOff) then Gen.int32Max else v)
      = (if Gen.cmsAddClampCmp.evalInt v Gen.int32Max then Gen.int32Max else v) :=
  ite_canonical (by decide) v _ _ _ Eq.symm

/-- count-min total: `if total <guard> INT64_MAX: total = INT64_MAX` -/
theorem cmsTotalMax_canon (v : Int) :
    (if Gen.cmsTotalMaxCmpRaw.evalInt v (Gen.int64Max + Gen.cmsTotalMaxCmpOff) then Gen.int64Max else v)
      = (if Gen.cmsTotalMaxCmp.evalInt v Gen.int64Max then Gen.int64Max else v) :=
  ite_canonical (by decide) v _ _ _ Eq.symm

/-- count-min `remove`: `if v <guard> INT32_MIN: cell = v else: cell = INT32_MIN` -/
theorem cmsRemoveKeep_canon (v : Int) :
    (if Gen.cmsRemoveKeepCmpRaw.evalInt v (Gen.int32Min + Gen.cmsRemoveKeepCmpOff) then v else Gen.int32Min)
      = (if Gen.cmsRemoveKeepCmp.evalInt v Gen.int32Min then v else Gen.int32Min) :=
  ite_canonical (by decide) v _ _ _ id

/-- counting Bloom `add`: `if v <guard> UINT32_MAX: cell = UINT32_MAX else: cell = min(w, UINT32_MAX)`
    where `w ≥ v` is the cell's current value plus the amount (positions of one key may coincide) -/
theorem cbfAddClamp_canon (v w : Int) (h : v ≤ w) :
    (if Gen.cbfAddClampCmpRaw.evalInt v (Gen.uint32Max + Gen.cbfAddClampCmpOff) then (Gen.uint32Max : Int)
      else min w Gen.uint32Max)
      = (if Gen.cbfAddClampCmp.evalInt v Gen.uint32Max then (Gen.uint32Max : Int) else min w Gen.uint32Max) :=
  ite_canonical (by decide) v _ _ _ fun e => (Int.min_eq_right (e ▸ h)).symm

end PyProb.GuardCanon
