/-
  The metadata repair pass at the end of `_remove_element`.  It is run on a table `u` that agrees
  with a table `t` in the linear view except that some shifted bits inside one cluster of `t` are
  still set (`Pre`, with the range of those slots); the pass walks over that cluster, every
  iteration takes one slot out of the range (`repair_cell`), and what is left at the end is `t`.
  The pass keeps a queue of pending quotients exactly as the generator `hashes()` does, so its
  queue is the model of `QFLinHashes.lean`: `Qf`, with the counts `Afn`, `Bfn` of elements placed,
  and at home, in front of a distance.
-/
import PyProb.Lemmas.QFExtRemove

namespace PyProb.QFRem
open PyProb PyProb.QF PyProb.QFLin PyProb.Spec

/-- the update the pass makes at slot `a` -/
def fixAt (s : QF) (a : Nat) : QF :=
  { s with cont := s.cont.set a false, shift := s.shift.set a false, occ := s.occ.set a true }

theorem repair_stop (stop fuel : Nat) (s : QF) (cur : Option Nat) (queue : List Nat) :
    removeRepair stop (fuel + 1) s stop cur queue = .ok s := by
  simp [removeRepair]

theorem repair_step_cont (stop fuel : Nat) (s : QF) (a : Nat) (cur : Option Nat) (queue : List Nat)
    (hne : (a == stop) = false) (hrs : s.isRunStart a = false) :
    removeRepair stop (fuel + 1) s a cur queue =
      removeRepair stop fuel (if cur == some a then fixAt s a else s)
        ((if cur == some a then fixAt s a else s).nxt a) cur
        (if bit s.occ a then queue ++ [a] else queue) := by
  simp only [removeRepair, hne, hrs, Bool.false_eq_true, if_false, fixAt]

theorem repair_step_start (stop fuel : Nat) (s : QF) (a : Nat) (cur : Option Nat) (queue : List Nat)
    (x : Nat) (rest : List Nat)
    (hne : (a == stop) = false) (hrs : s.isRunStart a = true)
    (hq : (if bit s.occ a then queue ++ [a] else queue) = x :: rest) :
    removeRepair stop (fuel + 1) s a cur queue =
      removeRepair stop fuel (if some x == some a then fixAt s a else s)
        ((if some x == some a then fixAt s a else s).nxt a) (some x) rest := by
  simp only [removeRepair, hne, hrs, Bool.false_eq_true, if_false, if_true, hq, fixAt]

section repair
variable {t : QF} {n e m : Nat} {d r : Nat → Nat}

/-- the invariant of the pass on the variable `cur_quot`: it names a slot that has been passed -/
def CurLt (n e X : Nat) (cur : Option Nat) : Prop := ∀ v, cur = some v → ∃ y, y < X ∧ v = io n e y

theorem curLt_ne (n e X : Nat) (hX : X < n) (cur : Option Nat) (h : CurLt n e X cur) :
    (cur == some (io n e X)) = false := by
  cases cur with
  | none => rfl
  | some v =>
      obtain ⟨y, hy, rfl⟩ := h v rfl
      simp only [beq_eq_false_iff_ne, ne_eq, Option.some.injEq]
      exact io_ne n e y X (by omega) hX (by omega)

theorem CurLt.mono {n e X : Nat} {cur : Option Nat} (h : CurLt n e X cur) : CurLt n e (X + 1) cur := by
  intro v hv
  obtain ⟨y, hy, hvy⟩ := h v hv
  exact ⟨y, Nat.lt_succ_of_lt hy, hvy⟩

structure Pre (u t : QF) (n e lo hi : Nat) : Prop where
  q : u.q = t.q
  auto : u.auto = t.auto
  count : u.count = t.count
  lrem : u.rem.length = n
  locc : u.occ.length = n
  lcont : u.cont.length = n
  lshift : u.shift.length = n
  rem : ∀ y, y < n → u.remAt (io n e y) = t.remAt (io n e y)
  occ : ∀ y, y < n → bit u.occ (io n e y) = bit t.occ (io n e y)
  cont : ∀ y, y < n → bit u.cont (io n e y) = bit t.cont (io n e y)
  shift : ∀ y, y < n → bit u.shift (io n e y) = bit t.shift (io n e y) ∨
    (lo ≤ y ∧ y < hi ∧ bit u.shift (io n e y) = true)

section pre
variable {u t : QF} {n e lo hi : Nat}

theorem Pre.widen (P : Pre u t n e lo hi) (lo' : Nat) (h : lo' ≤ lo) : Pre u t n e lo' hi :=
  { P with shift := fun y hy => (P.shift y hy).imp_right fun h' => ⟨Nat.le_trans h h'.1, h'.2⟩ }

theorem Pre.skip (P : Pre u t n e lo hi) (h : bit u.shift (io n e lo) = bit t.shift (io n e lo)) :
    Pre u t n e (lo + 1) hi := by
  refine { P with shift := fun y hy => ?_ }
  rcases P.shift y hy with h1 | h1
  · exact Or.inl h1
  · by_cases hy : y = lo
    · subst hy; exact Or.inl h
    · exact Or.inr ⟨by omega, h1.2⟩

theorem Pre.fix (P : Pre u t n e lo hi) (hlo : lo < n) (ho : bit t.occ (io n e lo) = true)
    (hc : bit t.cont (io n e lo) = false) (hs : bit t.shift (io n e lo) = false) :
    Pre (fixAt u (io n e lo)) t n e (lo + 1) hi := by
  refine ⟨P.q, P.auto, P.count, P.lrem, (List.length_set ..).trans P.locc, (List.length_set ..).trans P.lcont,
    (List.length_set ..).trans P.lshift, P.rem, ?_, ?_, ?_⟩
  · intro y hy
    refine (bit_set_io u.occ n e lo y true P.locc hlo hy).trans ?_
    by_cases h : lo = y
    · rw [if_pos h, ← h, ho]
    · rw [if_neg h, P.occ y hy]
  · intro y hy
    refine (bit_set_io u.cont n e lo y false P.lcont hlo hy).trans ?_
    by_cases h : lo = y
    · rw [if_pos h, ← h, hc]
    · rw [if_neg h, P.cont y hy]
  · intro y hy
    by_cases h : lo = y
    · exact Or.inl ((bit_set_io u.shift n e lo y false P.lshift hlo hy).trans (by rw [if_pos h, ← h, hs]))
    · rcases P.shift y hy with h1 | h1
      · exact Or.inl ((bit_set_io u.shift n e lo y false P.lshift hlo hy).trans (by rw [if_neg h, h1]))
      · exact Or.inr ⟨by omega, h1.2.1,
          (bit_set_io u.shift n e lo y false P.lshift hlo hy).trans (by rw [if_neg h, h1.2.2])⟩

theorem Pre.done (P : Pre u t n e hi hi) (he : e < n) (k1 : t.rem.length = n) (k2 : t.occ.length = n)
    (k3 : t.cont.length = n) (k4 : t.shift.length = n) : u = t := by
  apply qf_ext_io u t n e he P.q P.auto P.count P.lrem P.locc P.lcont P.lshift k1 k2 k3 k4
  intro y hy
  refine ⟨P.rem y hy, P.occ y hy, P.cont y hy, ?_⟩
  rcases P.shift y hy with h | h
  · exact h
  · omega

end pre

theorem repair_cell (L : Lin t n e m d r) {u : QF} {X hi : Nat} (P : Pre u t n e X hi) (hX : X < n)
    (i : Nat) (hi' : i < m) (hp : posF d i = X) (cur : Option Nat) (hcur : CurLt n e X cur)
    (stop fuel : Nat) (hne : (io n e X == stop) = false) :
    ∃ u' cur', Pre u' t n e (X + 1) hi ∧ CurLt n e (X + 1) cur' ∧
      removeRepair stop (fuel + 1) u (io n e X) cur (Qf n e d i (Bfn d m X - i)) =
        removeRepair stop fuel u' (io n e (X + 1)) cur' (Qf n e d (i + 1) (Bfn d m (X + 1) - (i + 1))) := by
  -- what the pass reads at this slot
  have hcontb : bit u.cont (io n e X) = contF d i := by
    rw [P.cont X hX, ← hp]; exact cont_cell L i hi'
  have hshift_t : bit t.shift (io n e X) = decide (posF d i ≠ d i) := by
    rw [← hp]; exact L.shift i hi'
  have hrs : u.isRunStart (io n e X) = !contF d i := by
    have hos := occ_or_shift_cell L i hi'
    rw [hp] at hos
    simp only [isRunStart, hcontb, P.occ X hX]
    rcases P.shift X hX with h | h
    · rw [h, hos, Bool.and_true]
    · rw [h.2.2, Bool.or_true, Bool.and_true]
  obtain ⟨hiB, hpush⟩ := Qf_push L X hX i hi' hp
  rw [← P.occ X hX] at hpush
  have hnx : ∀ u' : QF, u'.q = t.q → u'.nxt (io n e X) = io n e (X + 1) := fun u' hq =>
    nxt_io u' n e X (by rw [← L.size]; simp only [QF.size, hq])
  -- a slot that is not a cluster start of the target keeps its (set) shifted bit
  have hkeep : posF d i ≠ d i → Pre u t n e (X + 1) hi := by
    intro hsh
    apply P.skip
    rcases P.shift X hX with h | h
    · exact h
    · rw [h.2.2, hshift_t, decide_eq_true hsh]
  have hlen : Bfn d m (X + 1) - i = (Bfn d m (X + 1) - (i + 1)) + 1 := by omega
  cases hca : contF d i
  · -- a run start: pop its quotient
    have hqf : Qf n e d i (Bfn d m (X + 1) - i) =
        io n e (d i) :: Qf n e d (i + 1) (Bfn d m (X + 1) - (i + 1)) := by
      rw [hlen]
      simp only [Qf, hca, Bool.false_eq_true, if_false]
    rw [hca] at hrs
    rw [repair_step_start stop fuel u _ cur _ _ _ hne hrs (hpush.trans hqf)]
    have hcur' : CurLt n e (X + 1) (some (io n e (d i))) := by
      intro v hv
      cases hv
      exact ⟨d i, by have := p_ge_d d i; omega, rfl⟩
    by_cases hhome : posF d i = d i
    · -- a cluster start of the target: the pass repairs the slot
      rw [← hhome, hp, show (some (io n e X) == some (io n e X)) = true from beq_self_eq_true _, if_pos rfl,
        hnx (fixAt u (io n e X)) P.q]
      refine ⟨_, _, P.fix hX ((L.occ X hX).2 ⟨i, hi', by omega⟩) ?_ ?_, ?_, rfl⟩
      · rw [← hp, cont_cell L i hi', hca]
      · rw [hshift_t, decide_eq_false (fun h => h hhome)]
      · rwa [← hhome, hp] at hcur'
    · -- a shifted run start: nothing changes
      have hbeq : (some (io n e (d i)) == some (io n e X)) = false := by
        simp only [beq_eq_false_iff_ne, ne_eq, Option.some.injEq]
        exact io_ne n e _ _ (by have := p_ge_d d i; omega) hX (by omega)
      rw [hbeq, if_neg Bool.false_ne_true, hnx u P.q]
      exact ⟨u, _, hkeep hhome, hcur', rfl⟩
  · -- a continuation: nothing changes
    have hqf : Qf n e d i (Bfn d m (X + 1) - i) = Qf n e d (i + 1) (Bfn d m (X + 1) - (i + 1)) := by
      rw [hlen]
      simp only [Qf, hca, if_true]
    rw [hca] at hrs
    have hhome : posF d i ≠ d i := by
      intro h; rw [contF_home d _ h] at hca; cases hca
    rw [repair_step_cont stop fuel u _ cur _ hne hrs, curLt_ne n e X hX cur hcur, if_neg Bool.false_ne_true,
      hnx u P.q, hpush, hqf]
    exact ⟨u, cur, hkeep hhome, hcur.mono, rfl⟩

theorem repair_cells (L : Lin t n e m d r) (hi stop : Nat) :
    ∀ len X i (u : QF) cur fuel, Pre u t n e X hi → X + len ≤ n →
      (∀ k, k < len → i + k < m ∧ posF d (i + k) = X + k) →
      (∀ k, k < len → (io n e (X + k) == stop) = false) → CurLt n e X cur →
      ∃ u' cur', Pre u' t n e (X + len) hi ∧ CurLt n e (X + len) cur' ∧
        removeRepair stop (fuel + len) u (io n e X) cur (Qf n e d i (Bfn d m X - i)) =
          removeRepair stop fuel u' (io n e (X + len)) cur'
            (Qf n e d (i + len) (Bfn d m (X + len) - (i + len))) := by
  intro len
  induction len with
  | zero => intro X i u cur fuel P _ _ _ hcur; exact ⟨u, cur, P, hcur, rfl⟩
  | succ len ih =>
      intro X i u cur fuel P hXn hcells hstop hcur
      obtain ⟨him, hp⟩ := hcells 0 (Nat.succ_pos len)
      obtain ⟨u1, cur1, P1, hcur1, e1⟩ := repair_cell L P (by omega) i him hp cur hcur stop (fuel + len)
        (hstop 0 (Nat.succ_pos len))
      obtain ⟨u2, cur2, P2, hcur2, e2⟩ := ih (X + 1) (i + 1) u1 cur1 fuel P1 (by omega)
        (fun k hk => by have := hcells (k + 1) (by omega); rwa [Nat.add_right_comm i, Nat.add_right_comm X])
        (fun k hk => by have := hstop (k + 1) (by omega); rwa [Nat.add_right_comm X])
        hcur1
      rw [Nat.add_right_comm X] at e2 P2 hcur2
      rw [Nat.add_right_comm i] at e2
      exact ⟨u2, cur2, P2, hcur2, e1.trans e2⟩

/-- the last iteration, at the empty slot behind the cluster -/
theorem repair_end (L : Lin t n e m d r) {u : QF} {hi : Nat} (P : Pre u t n e hi hi) (hend : hi + 1 < n)
    (hnocell : ∀ i, i < m → posF d i ≠ hi) (cur : Option Nat) (hcur : CurLt n e hi cur)
    (fuel : Nat) (queue : List Nat) :
    removeRepair (io n e (hi + 1)) (fuel + 2) u (io n e hi) cur queue = .ok u := by
  have hX : hi < n := by omega
  have hne : (io n e hi == io n e (hi + 1)) = false := by
    simp only [beq_eq_false_iff_ne]
    exact io_ne n e _ _ hX hend (by omega)
  obtain ⟨hc, hs⟩ := L.nocell hi hX hnocell
  have hocc : bit u.occ (io n e hi) = false := (P.occ hi hX).trans (occ_nocell L hi hX hnocell)
  have hrs : u.isRunStart (io n e hi) = false := by
    simp only [isRunStart, P.cont hi hX, hc, hocc]
    rcases P.shift hi hX with h | h
    · rw [h, hs]; rfl
    · omega
  rw [repair_step_cont _ _ _ _ _ _ hne hrs, curLt_ne n e hi hX cur hcur, hocc, if_neg Bool.false_ne_true,
    if_neg Bool.false_ne_true, nxt_io u n e hi (by rw [← L.size]; simp only [QF.size, P.q]), repair_stop]

theorem repair_spec (T : LinX t n e m d r) (u : QF) (pa len hi a : Nat) (hhi : pa + len = hi)
    (P : Pre u t n e pa hi) (hcells : ∀ k, k < len → a + k < m ∧ posF d (a + k) = pa + k)
    (hnocell : ∀ i, i < m → posF d i ≠ hi) (hend : hi + 1 < n) (hB : Bfn d m pa ≤ a) :
    removeRepair (io n e (hi + 1)) u.fuelOf u (io n e pa) none [] = .ok t := by
  subst hhi
  have hfuel : u.fuelOf = (u.fuelOf - len - 2 + 2) + len := by
    have : u.size = n := by rw [← T.lin.size]; simp only [QF.size, P.q]
    simp only [fuelOf, this]; omega
  obtain ⟨u', cur', P', hcur', e1⟩ := repair_cells T.lin (pa + len) (io n e (pa + len + 1)) len pa a u none
    (u.fuelOf - len - 2 + 2) P (by omega) hcells
    (fun k hk => by
      simp only [beq_eq_false_iff_ne]
      exact io_ne n e _ _ (by omega) hend (by omega))
    (by intro v hv; cases hv)
  rw [show Bfn d m pa - a = 0 by omega] at e1
  rw [hfuel]
  exact (e1.trans (repair_end T.lin P' hend hnocell cur' hcur' _ _)).trans
    (congrArg _ (P'.done T.lin.he T.lrem T.locc T.lcont T.lshift))

end repair
end PyProb.QFRem
