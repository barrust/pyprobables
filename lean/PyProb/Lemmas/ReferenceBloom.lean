/-
  Lemmas relating the model's Bloom and counting-Bloom operations under the default hashing
  strategy to the documented hashing rule and the reference reader / writer of `Spec/Layout.lean`.
-/
import PyProb.Lemmas.ReferenceCommon
import PyProb.Lemmas.LayoutSpecBloom
import PyProb.Lemmas.WFOpsBloom

namespace PyProb

theorem positions_spec (b : Bloom) (key : Key) :
    b.positions (defaultFnv key b.k) = Spec.bloomPositions b.k b.m key.units := by
  unfold Bloom.positions Spec.bloomPositions
  rw [defaultFnv_spec, List.take_of_length_le (by simp)]
  simp [List.map_map, Function.comp_def]

theorem bitOfFile_eq (arr : Bytes) (i : Nat) : Spec.bitOfFile arr i = testBitB arr i := by
  rw [testBitB_eq]; rfl

theorem bitOfFile_append (bits suf : Bytes) (i : Nat) (h : i / 8 < bits.length) :
    Spec.bitOfFile (bits ++ suf) i = testBitB bits i := by
  rw [bitOfFile_eq, testBitB_eq, testBitB_eq, List.getD_eq_getElem?_getD, List.getD_eq_getElem?_getD,
    List.getElem?_append_left h]

theorem foldl_setBit_spec (ps : List Nat) (bs : Bytes) : ps.foldl Spec.setBit bs = ps.foldl setBitB bs :=
  congrArg (fun f => ps.foldl f bs) (funext fun b => funext (spec_setBit b))

theorem bloomRun_eq (k m : Nat) (keys : List Key) (b0 : Bloom) (hk : b0.k = k) (hm : b0.m = m) :
    keys.foldl (fun b key => (b.addAlt (defaultFnv key k)).1) b0 =
      { b0 with
        bits := (keys.map Key.units).foldl (fun arr key => (Spec.bloomPositions k m key).foldl Spec.setBit arr) b0.bits
        count := b0.count + keys.length } := by
  subst hk hm
  rw [List.foldl_map]
  refine foldl_invariant₂_length _ _ (fun n b arr => b = { b0 with bits := arr, count := b0.count + n }) keys b0
    b0.bits (by simp) ?_
  rintro n _ arr _ rfl key _
  unfold Bloom.addAlt
  rw [if_neg (by rw [C18.C18_len_default]; exact Nat.lt_irrefl _), foldl_setBit_spec, positions_spec]
  simp only [Bloom.mk.injEq, true_and]
  push_cast; omega

/-- `cells[p] = min(cells[p] + 1, UINT32_MAX)` on the model's cell list -/
def incrI (cells : List Int) (p : Nat) : List Int := cells.set p (min (cells.getD p 0 + 1) 4294967295)

theorem incrI_length (cells : List Int) (p : Nat) : (incrI cells p).length = cells.length := by simp [incrI]

theorem incrI_range (cells : List Int) (p : Nat) (h : CellsOK cells) : CellsOK (incrI cells p) := by
  have := CellsOK_getD h p
  exact CellsOK_set h p _ (by omega)

theorem incrI_getD_max (cells : List Int) (p q : Nat) (h : cells.getD q 0 = 4294967295) :
    (incrI cells p).getD q 0 = 4294967295 := by
  unfold incrI
  rw [List.getD_eq_getElem?_getD] at h
  by_cases hpq : p = q
  · subst hpq
    by_cases hp : p < cells.length
    · simp only [List.getD_eq_getElem?_getD, List.getElem?_set_self hp, Option.getD_some]
      omega
    · rw [List.set_eq_of_length_le (by omega), List.getD_eq_getElem?_getD]; exact h
  · simpa [List.getD_eq_getElem?_getD, List.getElem?_set_ne hpq] using h

theorem foldl_incrI_inv (ps : List Nat) (cells : List Int) (h : CellsOK cells) :
    (ps.foldl incrI cells).length = cells.length ∧ CellsOK (ps.foldl incrI cells) :=
  foldl_invariant incrI (fun c => c.length = cells.length ∧ CellsOK c) ps cells ⟨rfl, h⟩
    fun c hc p _ => ⟨(incrI_length c p).trans hc.1, incrI_range c p hc.2⟩

theorem cbf_addLoop_one (cur : List Int) (pairs : List (Nat × Int)) (acc : List Int)
    (hcur : CellsOK cur)
    (hp : ∀ kv ∈ pairs, kv.2 > 4294967295 → cur.getD kv.1 0 = 4294967295) :
    ∃ vals, CBF.addLoop 1 cur pairs acc = ((pairs.map (·.1)).foldl incrI cur, vals, none) := by
  induction pairs generalizing cur acc with
  | nil => exact ⟨_, rfl⟩
  | cons kv rest ih =>
      obtain ⟨k, v⟩ := kv
      have hk := hp (k, v) (by simp)
      have hrest : ∀ kv ∈ rest, kv.2 > 4294967295 → (incrI cur k).getD kv.1 0 = 4294967295 :=
        fun kv hkv hv => incrI_getD_max _ _ _ (hp kv (List.mem_cons_of_mem _ hkv) hv)
      have hnn := (CellsOK_getD hcur k).1
      have hmax : Gen.uint32Max = 4294967295 := rfl
      simp only [CBF.addLoop, Gen.cbfAddClampCmp, Cmp.evalInt, List.map_cons, List.foldl_cons,
        decide_eq_true_eq]
      by_cases hv : v > Gen.uint32Max
      · rw [if_pos hv]
        have : cur.set k Gen.uint32Max = incrI cur k := by
          unfold incrI; rw [hk (by omega)]; rfl
        rw [this]
        exact ih _ _ (incrI_range _ _ hcur) hrest
      · rw [if_neg hv]
        have e : (if cur.getD k 0 + 1 > Gen.uint32Max then Gen.uint32Max else cur.getD k 0 + 1)
            = min (cur.getD k 0 + 1) 4294967295 := by split <;> omega
        simp only [e]
        rw [if_neg (by omega)]
        exact ih _ _ (incrI_range _ _ hcur) hrest

theorem cbf_add_default (c : CBF) (key : Key) (hlen : c.cells.length = c.m) (hcells : CellsOK c.cells) :
    (c.addAlt (defaultFnv key c.k) 1).1 =
      { c with cells := (Spec.bloomPositions c.k c.m key.units).foldl incrI c.cells,
               count := min (c.count + 1) 18446744073709551615 } := by
  have hidx : c.indices (defaultFnv key c.k) = .ok (Spec.bloomPositions c.k c.m key.units) := by
    unfold CBF.indices
    rw [if_neg (by rw [C18.C18_len_default]; omega), List.take_of_length_le (by rw [C18.C18_len_default]; omega),
      defaultFnv_spec, hlen]
    simp [Spec.bloomPositions, List.map_map, Function.comp_def]
  unfold CBF.addAlt
  rw [hidx]
  simp only [zip_map_self_eq_map]
  obtain ⟨vals, hv⟩ := cbf_addLoop_one c.cells
    ((Spec.bloomPositions c.k c.m key.units).map fun k => (k, c.cells.getD k 0 + 1)) [] hcells (by
      intro kv hkv hgt
      simp only [List.mem_map] at hkv
      obtain ⟨p, _, rfl⟩ := hkv
      simp only at hgt ⊢
      have := (CellsOK_getD hcells p).2
      omega)
  rw [hv]
  simp [List.map_map, Function.comp_def, Gen.uint64Max]

theorem cbfRun_eq (k m : Nat) (keys : List Key) (c0 : CBF) (hk : c0.k = k) (hm : c0.m = m)
    (hlen : c0.cells.length = m) (hcells : CellsOK c0.cells)
    (hc : c0.count + keys.length ≤ 18446744073709551615) :
    keys.foldl (fun c key => (c.addAlt (defaultFnv key k) 1).1) c0 =
      { c0 with
        cells := (keys.map Key.units).foldl (fun arr key => (Spec.bloomPositions k m key).foldl incrI arr) c0.cells
        count := c0.count + keys.length } := by
  rw [List.foldl_map]
  refine (foldl_invariant₂_length _ _
    (fun n c arr => c = { c0 with cells := arr, count := c0.count + n } ∧ arr.length = m ∧ CellsOK arr) keys c0 c0.cells
    ⟨by simp, hlen, hcells⟩ ?_).1
  rintro n _ arr hn ⟨rfl, hl, ha⟩ key _
  have hinv := foldl_incrI_inv (Spec.bloomPositions k m key.units) arr ha
  refine ⟨?_, hinv.1.trans hl, hinv.2⟩
  rw [← hk, cbf_add_default _ key (hl.trans hm.symm) ha]
  simp only [hk, hm, CBF.mk.injEq, true_and]
  omega
theorem incrI_toNat (cells : List Int) (p : Nat) (h : ∀ x ∈ cells, 0 ≤ x) :
    (incrI cells p).map Int.toNat = Spec.incrSat (cells.map Int.toNat) p := by
  induction cells generalizing p with
  | nil => simp [incrI, Spec.incrSat]
  | cons c cs ih =>
      have hc := h c (by simp)
      cases p with
      | zero =>
          simp only [incrI, List.set_cons_zero, List.getD_cons_zero, List.map_cons, Spec.incrSat]
          congr 1
          split <;> omega
      | succ p =>
          have := ih p (fun x hx => h x (List.mem_cons_of_mem _ hx))
          simp only [incrI, List.set_cons_succ, List.getD_cons_succ, List.map_cons, Spec.incrSat] at this ⊢
          rw [this]

/-- The model's cells stay in range and, read as naturals, are the reference writer's cells: the relation
    is kept by one increment, hence by the increments of one key, hence by those of all keys. -/
theorem foldl_incrI_toNat (ps : List Nat) (cells : List Int) (h : CellsOK cells) :
    CellsOK (ps.foldl incrI cells) ∧
    (ps.foldl incrI cells).map Int.toNat = ps.foldl Spec.incrSat (cells.map Int.toNat) :=
  foldl_invariant₂ incrI Spec.incrSat (fun c n => CellsOK c ∧ c.map Int.toNat = n) ps cells _ ⟨h, rfl⟩
    fun c _ hc p _ => ⟨incrI_range c p hc.1, hc.2 ▸ incrI_toNat c p fun x hx => (hc.1 x hx).1⟩

theorem foldl_keys_incrI (k m : Nat) (keys : List (List Nat)) (cells : List Int) (h : CellsOK cells) :
    let r := keys.foldl (fun arr key => (Spec.bloomPositions k m key).foldl incrI arr) cells
    CellsOK r ∧
    r.map Int.toNat = keys.foldl (fun arr key => (Spec.bloomPositions k m key).foldl Spec.incrSat arr) (cells.map Int.toNat) :=
  foldl_invariant₂ _ _ (fun c n => CellsOK c ∧ c.map Int.toNat = n) keys cells _ ⟨h, rfl⟩
    fun c _ hc key _ => hc.2 ▸ foldl_incrI_toNat (Spec.bloomPositions k m key) c hc.1

end PyProb
