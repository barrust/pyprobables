/-
  The Bloom-filter "rounding allowance": a code-independent real inequality.

  With `m` bits chosen so that `m·c1 ≥ −n ln t` and a hash count `k ≥ 1` within ½ of `c2·m/n`
  (`c1 = 8655072057804149/2^54 ≤ ln² 2`, `c2 = 6243314768165359/2^53 ≤ ln 2` are the exact values
  of the code's literals), the textbook false-positive rate `(1 − e^{−kn/m})^k` is at most
  `1.07·t`   (`C07_allowance` in Properties/C07.lean, all `n m k` unbounded, no extra hypotheses).

  Proof (`allowance_real`, for any `a ∈ [2/3, 3/4]` with `e^a ≤ 2`, any `c ≤ a²` and any real load
  `r = n/m > 0`).  Put `u = k·r = a + v`, `y = e^{−v}`.  The hypotheses say `t ≥ exp(−c·k/u)` and
  `2k·|v| ≤ u`, so it suffices to bound `A^k` where `A = (1 − e^{−u})·e^{a²/u}`.  Because
  `e^{−a} ≥ ½`, `e^{a} ≤ 2` and `a²/u = a − v + v²/u`,
      `A ≤ (1 − y/2)·2y·e^{v²/u} = (1 − (1−y)²)·e^{v²/u} ≤ exp(v²/u − (1−y)²)`   (`factor_le`).
  * `v ≤ 0`:  `(1−y)² ≥ v²`, so `A ≤ exp((v²/u)(1−u))`; the window gives `k·v²/u ≤ u/4`, and
    `(u/4)(1−u) ≤ 1/16`                                                        (`left_factor`).
  * `v ≥ 0`:  `1−y ≥ v/(1+v)` and `1/u − 1/(1+v)² ≤ ½`, so `A ≤ exp(v²/2)`      (`right_factor`);
    `k·v² ≤ (u/2)(u/4) ≤ 1/8` for `k ≥ 2` (where `u ≤ 4a/3 ≤ 1`), and `v² ≤ (1−a)² ≤ 1/9` for
    `k = 1, u ≤ 1`.
    In these cases `A^k ≤ e^{1/16} ≤ 16/15 ≤ 1.07`.
  * `k = 1`, `1 ≤ u ≤ 2a`: `A ≤ ¾·e^{a/2} ≤ ¾·√2 ≈ 1.0607`, which is where the supremum sits
                                                                               (`case_one_far`).
-/
import PyProb.Lemmas.Log2Bound

namespace PyProb.BloomAllowance

open Real

structure Consts (a : ℝ) : Prop where
  lo : 2 / 3 ≤ a
  hi : a ≤ 3 / 4
  exp_le : exp a ≤ 2

theorem Consts.half_le_exp_neg {a : ℝ} (H : Consts a) : 1 / 2 ≤ exp (-a) := by
  rw [exp_neg, one_div]
  exact inv_anti₀ (exp_pos a) H.exp_le

theorem exp_sixteenth_le : exp (1 / 16) ≤ 107 / 100 := by
  have h : (15 / 16 : ℝ) ≤ (exp (1 / 16))⁻¹ :=
    calc (15 / 16 : ℝ) = 1 - 1 / 16 := by norm_num
      _ ≤ exp (-(1 / 16)) := one_sub_le_exp_neg _
      _ = (exp (1 / 16))⁻¹ := exp_neg _
  exact ((le_inv_comm₀ (by norm_num) (exp_pos _)).mp h).trans (by norm_num)

theorem pow_le_of_exp {A B : ℝ} (k : ℕ) (hA : 0 ≤ A) (hAB : A ≤ exp B)
    (hkB : (k : ℝ) * B ≤ 1 / 16) : A ^ k ≤ 107 / 100 :=
  calc A ^ k ≤ (exp B) ^ k := pow_le_pow_left₀ hA hAB k
    _ = exp (k * B) := (exp_nat_mul B k).symm
    _ ≤ exp (1 / 16) := exp_le_exp.mpr hkB
    _ ≤ 107 / 100 := exp_sixteenth_le

theorem one_sub_exp_neg_nonneg {u : ℝ} (hu : 0 < u) : 0 ≤ 1 - exp (-u) :=
  sub_nonneg.mpr (exp_le_one_iff.mpr (neg_nonpos.mpr hu.le))

theorem one_sub_mul_exp_le (w q : ℝ) : (1 - w) * exp q ≤ exp (q - w) := by
  rw [sub_eq_neg_add q w, exp_add]
  exact mul_le_mul_of_nonneg_right (one_sub_le_exp_neg w) (exp_pos q).le

theorem factor_le {a u v : ℝ} (H : Consts a) (hu : 0 < u) (huv : u = a + v) :
    (1 - exp (-u)) * exp (a ^ 2 / u) ≤ exp (v ^ 2 / u - (1 - exp (-v)) ^ 2) := by
  have hy : 0 < exp (-v) := exp_pos _
  have h1 : 1 - exp (-u) ≤ 1 - exp (-v) / 2 := by
    rw [huv, neg_add, exp_add, div_eq_inv_mul, ← one_div]
    exact sub_le_sub_left (mul_le_mul_of_nonneg_right H.half_le_exp_neg hy.le) 1
  have h2 : exp (a ^ 2 / u) ≤ 2 * exp (-v) * exp (v ^ 2 / u) := by
    have h : a ^ 2 = (a + -v) * u + v ^ 2 := by rw [huv]; ring
    rw [h, add_div, mul_div_cancel_right₀ _ hu.ne', exp_add, exp_add]
    exact mul_le_mul_of_nonneg_right (mul_le_mul_of_nonneg_right H.exp_le hy.le) (exp_pos _).le
  calc (1 - exp (-u)) * exp (a ^ 2 / u)
      ≤ (1 - exp (-v) / 2) * (2 * exp (-v) * exp (v ^ 2 / u)) :=
        mul_le_mul h1 h2 (exp_pos _).le ((one_sub_exp_neg_nonneg hu).trans h1)
    _ = (1 - (1 - exp (-v)) ^ 2) * exp (v ^ 2 / u) := by ring
    _ ≤ _ := one_sub_mul_exp_le _ _

theorem left_factor {a u v : ℝ} (H : Consts a) (hu : 0 < u) (huv : u = a + v) (hv : v ≤ 0) :
    (1 - exp (-u)) * exp (a ^ 2 / u) ≤ exp (v ^ 2 / u * (1 - u)) := by
  refine (factor_le H hu huv).trans (exp_le_exp.mpr ?_)
  have hs : v ^ 2 ≤ (1 - exp (-v)) ^ 2 := by
    rw [sub_sq_comm, ← neg_sq v]
    exact pow_le_pow_left₀ (neg_nonneg.mpr hv) (le_sub_iff_add_le.mpr (add_one_le_exp (-v))) 2
  rw [mul_sub, mul_one, div_mul_cancel₀ _ hu.ne']
  exact sub_le_sub_left hs _

theorem bracket_le {a u v : ℝ} (ha : 2 / 3 ≤ a) (hu : 0 < u) (huv : u = a + v) (hv : 0 ≤ v) :
    1 / u - 1 / (1 + v) ^ 2 ≤ 1 / 2 := by
  have h1v : 0 < (1 + v) ^ 2 := pow_pos (add_pos_of_pos_of_nonneg one_pos hv) 2
  rw [div_sub_div _ _ hu.ne' h1v.ne', div_le_div_iff₀ (mul_pos hu h1v) two_pos, ← sub_nonneg]
  have h : u * (1 + v) ^ 2 - (1 * (1 + v) ^ 2 - u * 1) * 2
      = (3 * a - 2) + v * (2 * a - 1) + v ^ 2 * a + v ^ 3 := by rw [huv]; ring
  rw [one_mul, h]
  have t0 : 0 ≤ 3 * a - 2 := by linarith only [ha]
  have t1 : 0 ≤ 2 * a - 1 := by linarith only [ha]
  have t2 : 0 ≤ a := by linarith only [ha]
  exact add_nonneg (add_nonneg (add_nonneg t0 (mul_nonneg hv t1)) (mul_nonneg (sq_nonneg v) t2))
    (pow_nonneg hv 3)

theorem right_factor {a u v : ℝ} (H : Consts a) (hu : 0 < u) (huv : u = a + v) (hv : 0 ≤ v) :
    (1 - exp (-u)) * exp (a ^ 2 / u) ≤ exp (v ^ 2 / 2) := by
  have h1v : 0 < 1 + v := add_pos_of_pos_of_nonneg one_pos hv
  refine (factor_le H hu huv).trans (exp_le_exp.mpr ?_)
  have hy : v / (1 + v) ≤ 1 - exp (-v) := by
    rw [le_sub_comm, one_sub_div h1v.ne', add_sub_cancel_right, exp_neg, one_div]
    exact inv_anti₀ h1v ((add_comm 1 v).trans_le (add_one_le_exp v))
  have hs : v ^ 2 / (1 + v) ^ 2 ≤ (1 - exp (-v)) ^ 2 := by
    rw [← div_pow]
    exact pow_le_pow_left₀ (div_nonneg hv h1v.le) hy 2
  have hb := mul_le_mul_of_nonneg_left (bracket_le H.lo hu huv hv) (sq_nonneg v)
  rw [mul_sub, mul_one_div, mul_one_div, mul_one_div] at hb
  linarith only [hs, hb]

/-- `k = 1`, `1 ≤ u ≤ 2a`, the region containing the supremum `¾·√2`.  With `d = 2a − u` and
    `z = a²/u − a/2`: `e^{−u} = e^{−2a}·e^{d} ≥ ¼(1 + d + d²/2)`, which `3a ≤ (2+d)·u` turns into
    `1 − e^{−u} ≤ ¾(1 − z)`; and `(1 − z)·e^{z} ≤ 1`, so `A ≤ ¾·e^{a/2}`. -/
theorem case_one_far {a u d : ℝ} (H : Consts a) (hu1 : 1 ≤ u) (hd : 0 ≤ d) (hud : u = 2 * a - d) :
    (1 - exp (-u)) * exp (a ^ 2 / u) ≤ 107 / 100 := by
  have hu : 0 < u := one_pos.trans_le hu1
  have hea := H.half_le_exp_neg
  have h1 : 1 / 2 * (1 / 2) * (1 + d + d ^ 2 / 2) ≤ exp (-u) := by
    rw [show -u = -a + -a + d by rw [hud]; ring, exp_add, exp_add]
    exact mul_le_mul (mul_le_mul hea hea (by norm_num) (exp_pos _).le)
      (quadratic_le_exp_of_nonneg hd) (by positivity) (mul_pos (exp_pos _) (exp_pos _)).le
  obtain ⟨z, hz⟩ : ∃ z, a ^ 2 / u = a / 2 + z := ⟨a ^ 2 / u - a / 2, by ring⟩
  have h2 : a / 2 + z ≤ a / 2 + (d / 3 + d ^ 2 / 6) := by
    rw [← hz, div_le_iff₀ hu, ← sub_nonneg]
    have h : (a / 2 + (d / 3 + d ^ 2 / 6)) * u - a ^ 2 = d * ((u - 1) * d + (u - a)) / 6 := by
      rw [hud]; ring
    rw [h]
    exact div_nonneg (mul_nonneg hd (add_nonneg (mul_nonneg (sub_nonneg.mpr hu1) hd)
      (by linarith only [hu1, H.hi]))) (by norm_num)
  have h3 : 1 - exp (-u) ≤ 3 / 4 * (1 - z) := by linarith only [h1, h2]
  -- `e^{a/2} ≤ √2 ≤ 107/75`
  have h4 : exp (a / 2) ≤ 107 / 75 := by
    refine (pow_le_pow_iff_left₀ (exp_pos _).le (by norm_num) two_ne_zero).mp ?_
    rw [← exp_nat_mul, Nat.cast_ofNat, mul_div_cancel₀ _ two_ne_zero]
    exact H.exp_le.trans (by norm_num)
  have hz1 : (1 - z) * exp z ≤ 1 := by
    simpa using one_sub_mul_exp_le z z
  rw [hz, exp_add]
  calc (1 - exp (-u)) * (exp (a / 2) * exp z)
      ≤ 3 / 4 * (1 - z) * (exp (a / 2) * exp z) :=
        mul_le_mul_of_nonneg_right h3 (mul_pos (exp_pos _) (exp_pos _)).le
    _ = 3 / 4 * exp (a / 2) * ((1 - z) * exp z) := by ring
    _ ≤ 3 / 4 * exp (a / 2) * 1 :=
        mul_le_mul_of_nonneg_left hz1 (mul_pos (by norm_num) (exp_pos _)).le
    _ ≤ 107 / 100 := by linarith only [h4]

theorem core {a u : ℝ} (H : Consts a) (k : ℕ) (hk : 1 ≤ k) (hu : 0 < u)
    (hwin : 2 * (k : ℝ) * |u - a| ≤ u) :
    ((1 - exp (-u)) * exp (a ^ 2 / u)) ^ k ≤ 107 / 100 := by
  obtain ⟨v, huv⟩ : ∃ v, u = a + v := ⟨u - a, (add_sub_cancel a u).symm⟩
  rw [huv, add_sub_cancel_left, ← huv] at hwin
  have hkR : (1 : ℝ) ≤ k := by exact_mod_cast hk
  have hA : 0 ≤ (1 - exp (-u)) * exp (a ^ 2 / u) :=
    mul_nonneg (one_sub_exp_neg_nonneg hu) (exp_pos _).le
  rcases le_total v 0 with hv | hv
  · rw [abs_of_nonpos hv] at hwin
    refine pow_le_of_exp k hA (left_factor H hu huv hv) ?_
    -- `k·v² = (k·|v|)·|v| ≤ (u/2)·(u/2)`
    have hv2 : -v ≤ u / 2 := by
      linarith only [hwin, le_mul_of_one_le_left (neg_nonneg.mpr hv) hkR]
    have hkv : (k : ℝ) * v ^ 2 ≤ u / 2 * (u / 2) := by
      rw [← neg_sq v, sq, ← mul_assoc]
      exact mul_le_mul (by linarith only [hwin]) hv2 (neg_nonneg.mpr hv) (half_pos hu).le
    have hq : (k : ℝ) * (v ^ 2 / u) ≤ u / 4 := by
      rw [← mul_div_assoc, div_le_iff₀ hu]
      linarith only [hkv]
    have h1u : 0 ≤ 1 - u := by linarith only [huv, hv, H.hi]
    rw [← mul_assoc]
    refine (mul_le_mul_of_nonneg_right hq h1u).trans ?_
    linarith only [sq_nonneg (u - 1 / 2)]
  rw [abs_of_nonneg hv] at hwin
  -- both remaining `exp (v²/2)` cases have `k·v² ≤ 1/8`
  rcases Nat.lt_or_ge k 2 with hk2 | hk2
  · obtain rfl : k = 1 := by omega
    rw [Nat.cast_one, mul_one] at hwin
    rcases le_total u 1 with hu1 | hu1
    · refine pow_le_of_exp 1 hA (right_factor H hu huv hv) ?_
      have hv3 : v ≤ 1 / 3 := by linarith only [huv, hu1, H.lo]
      rw [Nat.cast_one]
      linarith only [mul_le_mul hv3 hv3 hv (by norm_num)]
    · rw [pow_one]
      exact case_one_far H hu1 (d := a - v) (by linarith only [hwin, huv])
        (by linarith only [huv])
  · have hkR2 : (2 : ℝ) ≤ k := by exact_mod_cast hk2
    refine pow_le_of_exp k hA (right_factor H hu huv hv) ?_
    have hv4 : v ≤ u / 4 := by linarith only [hwin, mul_le_mul_of_nonneg_right hkR2 hv]
    have hu1 : u ≤ 1 := by linarith only [hv4, huv, H.hi]
    have h := mul_le_mul (show (k : ℝ) * v ≤ 1 / 2 by linarith only [hwin, hu1])
      (show v ≤ 1 / 4 by linarith only [hv4, hu1]) hv (by norm_num)
    linarith only [h]

theorem consts_c2 : Consts c2 where
  lo := le_trans (by norm_num) c2_bounds.1
  hi := c2_bounds.2.trans (by norm_num)
  exp_le := by
    have h := exp_le_exp.mpr c2_le_log_two
    rwa [exp_log two_pos] at h

theorem allowance_real {a c r t : ℝ} (H : Consts a) (hc : c ≤ a ^ 2) (k : ℕ) (hk : 1 ≤ k)
    (hr : 0 < r) (ht : 0 < t) (hbits : -log t ≤ c / r) (hhash : |(k : ℝ) - a / r| ≤ 1 / 2) :
    (1 - exp (-((k : ℝ) * r))) ^ k ≤ 107 / 100 * t := by
  have hkR : (0 : ℝ) < k := by exact_mod_cast hk
  have hu : 0 < (k : ℝ) * r := mul_pos hkR hr
  have hP := one_sub_exp_neg_nonneg hu
  -- the window for `u = k·r`
  have hwin : 2 * (k : ℝ) * |(k : ℝ) * r - a| ≤ (k : ℝ) * r := by
    have h : (k : ℝ) * r - a = r * ((k : ℝ) - a / r) := by
      rw [mul_sub, mul_div_cancel₀ _ hr.ne', mul_comm]
    rw [h, abs_mul, abs_of_pos hr]
    calc 2 * (k : ℝ) * (r * |(k : ℝ) - a / r|) = (k : ℝ) * r * (2 * |(k : ℝ) - a / r|) := by ring
      _ ≤ (k : ℝ) * r * 1 := mul_le_mul_of_nonneg_left (by linarith only [hhash]) hu.le
      _ = (k : ℝ) * r := mul_one _
  -- `t ≥ exp(−c/r) = exp(−c/u)^k`
  have hE : exp (c / ((k : ℝ) * r)) ^ k = exp (c / r) := by
    rw [← exp_nat_mul, mul_div_assoc', mul_div_mul_left _ _ hkR.ne']
  have ht' : exp (-(c / r)) ≤ t := (le_log_iff_exp_le ht).mp (neg_le.mp hbits)
  calc (1 - exp (-((k : ℝ) * r))) ^ k
      = ((1 - exp (-((k : ℝ) * r))) * exp (c / ((k : ℝ) * r))) ^ k * exp (-(c / r)) := by
        rw [mul_pow, hE, mul_assoc, ← exp_add, add_neg_cancel, exp_zero, mul_one]
    _ ≤ ((1 - exp (-((k : ℝ) * r))) * exp (a ^ 2 / ((k : ℝ) * r))) ^ k * exp (-(c / r)) :=
        mul_le_mul_of_nonneg_right (pow_le_pow_left₀ (mul_nonneg hP (exp_pos _).le)
          (mul_le_mul_of_nonneg_left (exp_le_exp.mpr (div_le_div_of_nonneg_right hc hu.le)) hP) k)
          (exp_pos _).le
    _ ≤ 107 / 100 * t := mul_le_mul (core H k hk hu hwin) ht' (exp_pos _).le (by norm_num)

end PyProb.BloomAllowance
