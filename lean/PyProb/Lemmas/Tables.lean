/-
  Abstract logic of the tracking tables of HeavyHitters / StreamThreshold
  (countminsketch.py), independent of the sketch: the table update depends only on the sequence
  of `(key, returned estimate)` pairs.  Core Lean only.
-/
import PyProb.Lemmas.Histories
import PyProb.Model.CMS

namespace PyProb
namespace Table

def keys (t : Table) : List Key := t.map (·.1)

@[simp] theorem keys_nil : keys [] = [] := rfl
@[simp] theorem keys_cons (p : Key × Int) (t : Table) : keys (p :: t) = p.1 :: keys t := rfl
@[simp] theorem keys_append (a b : Table) : keys (a ++ b) = keys a ++ keys b := by simp [keys]
@[simp] theorem keys_length (t : Table) : (keys t).length = t.length := by simp [keys]

theorem mem_keys_of_mem {t : Table} {k : Key} {v : Int} (h : (k, v) ∈ t) : k ∈ keys t :=
  List.mem_map.mpr ⟨(k, v), h, rfl⟩

@[simp] theorem get?_nil (k : Key) : get? [] k = none := rfl

theorem get?_cons (p : Key × Int) (t : Table) (k : Key) :
    get? (p :: t) k = if p.1 = k then some p.2 else get? t k := by
  by_cases h : p.1 = k <;> simp [get?, h]

theorem get?_eq_none_iff (t : Table) (k : Key) : t.get? k = none ↔ k ∉ keys t := by
  simp only [get?, keys, Option.map_eq_none_iff, List.find?_eq_none, beq_iff_eq, List.mem_map,
    not_exists, not_and]

theorem get?_isSome_iff (t : Table) (k : Key) : (t.get? k).isSome = true ↔ k ∈ keys t := by
  have := get?_eq_none_iff t k
  cases h : t.get? k <;> simp_all

theorem mem_of_get? {t : Table} {k : Key} {v : Int} (h : t.get? k = some v) : (k, v) ∈ t := by
  obtain ⟨p, hp, rfl⟩ := Option.map_eq_some_iff.1 h
  have hk := List.find?_some hp
  simp only [beq_iff_eq] at hk
  rw [← hk]; exact List.mem_of_find?_eq_some hp

theorem get?_of_mem {t : Table} (hn : (keys t).Nodup) {k : Key} {v : Int} (h : (k, v) ∈ t) :
    t.get? k = some v := by
  induction t with
  | nil => simp at h
  | cons p t ih =>
      rw [get?_cons]
      simp only [keys_cons, List.nodup_cons] at hn
      rcases List.mem_cons.mp h with e | e
      · subst e; simp
      · have : p.1 ≠ k := fun e' => hn.1 (e' ▸ mem_keys_of_mem e)
        simp [this, ih hn.2 e]

theorem get?_iff_mem {t : Table} (hn : (keys t).Nodup) (k : Key) (v : Int) :
    t.get? k = some v ↔ (k, v) ∈ t := ⟨mem_of_get?, get?_of_mem hn⟩

theorem any_key (t : Table) (key : Key) : t.any (·.1 == key) = true ↔ key ∈ keys t := by
  simp only [keys, List.any_eq_true, List.mem_map, beq_iff_eq]

theorem set_of_not_mem {t : Table} {key : Key} (h : key ∉ keys t) (v : Int) :
    t.set key v = t ++ [(key, v)] := by
  have : ¬ t.any (·.1 == key) = true := fun e => h ((any_key t key).mp e)
  unfold set; rw [if_neg this]

theorem set_of_mem {t : Table} {key : Key} (h : key ∈ keys t) (v : Int) :
    t.set key v = t.map fun p => if p.1 = key then (key, v) else p := by
  have : t.any (·.1 == key) = true := (any_key t key).mpr h
  unfold set; rw [if_pos this]
  apply List.map_congr_left
  intro p _
  by_cases e : p.1 = key <;> simp [e]

theorem keys_set_of_mem {t : Table} {key : Key} (h : key ∈ keys t) (v : Int) :
    keys (t.set key v) = keys t := by
  rw [set_of_mem h, keys, keys, List.map_map]
  apply List.map_congr_left
  intro p _
  by_cases e : p.1 = key <;> simp [e]

theorem keys_set_of_not_mem {t : Table} {key : Key} (h : key ∉ keys t) (v : Int) :
    keys (t.set key v) = keys t ++ [key] := by
  rw [set_of_not_mem h]; simp

theorem length_set_of_mem {t : Table} {key : Key} (h : key ∈ keys t) (v : Int) :
    (t.set key v).length = t.length := by
  rw [set_of_mem h]; simp

theorem length_set_of_not_mem {t : Table} {key : Key} (h : key ∉ keys t) (v : Int) :
    (t.set key v).length = t.length + 1 := by
  rw [set_of_not_mem h]; simp

theorem nodup_set {t : Table} (hn : (keys t).Nodup) (key : Key) (v : Int) :
    (keys (t.set key v)).Nodup := by
  by_cases h : key ∈ keys t
  · rw [keys_set_of_mem h]; exact hn
  · rw [keys_set_of_not_mem h]
    exact List.nodup_append.mpr ⟨hn, by simp, by
      intro a ha b hb; simp at hb; subst hb; exact fun e => h (e ▸ ha)⟩

theorem mem_keys_set (t : Table) (key : Key) (v : Int) (k : Key) :
    k ∈ keys (t.set key v) ↔ k = key ∨ k ∈ keys t := by
  by_cases h : key ∈ keys t
  · rw [keys_set_of_mem h]
    constructor
    · exact Or.inr
    · rintro (rfl | e); exact h; exact e
  · rw [keys_set_of_not_mem h]; simp [or_comm]

theorem get?_append (a b : Table) (k : Key) :
    get? (a ++ b) k = (get? a k).or (get? b k) := by
  induction a with
  | nil => simp
  | cons p a ih =>
      simp only [List.cons_append, get?_cons, ih]
      by_cases e : p.1 = k <;> simp [e]

theorem get?_map_set (t : Table) (key : Key) (v : Int) (k : Key) :
    get? (t.map fun p => if p.1 = key then (key, v) else p) k =
      if key = k then (t.get? key).map fun _ => v else t.get? k := by
  induction t with
  | nil => simp
  | cons p t ih =>
      simp only [List.map_cons, get?_cons, ih]
      by_cases ek : key = k
      · subst ek
        by_cases e : p.1 = key <;> simp [e]
      · by_cases e : p.1 = key <;> simp [e, ek]

theorem get?_set (t : Table) (key : Key) (v : Int) (k : Key) :
    (t.set key v).get? k = if key = k then some v else t.get? k := by
  by_cases h : key ∈ keys t
  · obtain ⟨v0, hv0⟩ := Option.isSome_iff_exists.mp ((get?_isSome_iff t key).mpr h)
    rw [set_of_mem h, get?_map_set, hv0]; rfl
  · rw [set_of_not_mem h, get?_append, get?_cons, get?_nil]
    by_cases ek : key = k
    · subst ek; simp [(get?_eq_none_iff t key).mpr h]
    · simp [ek]

theorem keys_pop (t : Table) (k : Key) : keys (t.pop k) = (keys t).filter (· != k) := by
  simp only [pop, keys, List.filter_map]; rfl

theorem nodup_pop {t : Table} (hn : (keys t).Nodup) (k : Key) : (keys (t.pop k)).Nodup := by
  rw [keys_pop]; exact hn.filter _

theorem mem_keys_pop (t : Table) (k k' : Key) : k' ∈ keys (t.pop k) ↔ k' ∈ keys t ∧ k' ≠ k := by
  rw [keys_pop]; simp

theorem get?_pop (t : Table) (key : Key) (k : Key) :
    (t.pop key).get? k = if key = k then none else t.get? k := by
  rw [get?, pop, List.find?_filter]
  by_cases hk : key = k
  · subst hk
    rw [if_pos rfl, Option.map_eq_none_iff, List.find?_eq_none]
    intro p _
    simp
  · rw [if_neg hk, get?]
    congr 2
    funext p
    by_cases e : p.1 = k
    · simpa [e] using fun x : k = key => hk x.symm
    · simp [e]

theorem length_pop {t : Table} (hn : (keys t).Nodup) {k : Key} (h : k ∈ keys t) :
    (t.pop k).length + 1 = t.length := by
  have hpos := List.length_pos_of_mem h
  rw [← keys_length (t.pop k), keys_pop, ← hn.erase_eq_filter, List.length_erase_of_mem h]
  rw [keys_length] at hpos ⊢
  omega

theorem argmin_eq_none {t : Table} : argmin t = none ↔ t = [] := by
  cases t <;> simp [argmin]

private theorem foldl_min (rest : Table) (p m : Key × Int)
    (hm : rest.foldl (fun best q => if q.2 < best.2 then q else best) p = m) :
    (m = p ∨ m ∈ rest) ∧ m.2 ≤ p.2 ∧ ∀ q ∈ rest, m.2 ≤ q.2 := by
  induction rest generalizing p with
  | nil => simp at hm; simp [hm]
  | cons q rest ih =>
      simp only [List.foldl_cons] at hm
      obtain ⟨h1, h2, h3⟩ := ih (if q.2 < p.2 then q else p) hm
      refine ⟨?_, ?_, ?_⟩
      · rcases h1 with h1 | h1
        · rw [h1]; split <;> simp
        · exact Or.inr (List.mem_cons_of_mem _ h1)
      · split at h2 <;> omega
      · intro r hr
        rcases List.mem_cons.mp hr with rfl | hr
        · split at h2 <;> omega
        · exact h3 r hr

theorem argmin_spec {t : Table} {p : Key × Int} (h : argmin t = some p) :
    p ∈ t ∧ ∀ q ∈ t, p.2 ≤ q.2 := by
  cases t with
  | nil => simp [argmin] at h
  | cons a rest =>
      simp only [argmin, Option.some.injEq] at h
      obtain ⟨h1, h2, h3⟩ := foldl_min rest a p h
      refine ⟨?_, ?_⟩
      · rcases h1 with h1 | h1
        · simp [h1]
        · exact List.mem_cons_of_mem _ h1
      · intro q hq
        rcases List.mem_cons.mp hq with rfl | hq
        · exact h2
        · exact h3 q hq

end Table

def lastRet (seq : List (Key × Int)) (k : Key) : Option Int :=
  seq.foldl (fun acc p => if p.1 = k then some p.2 else acc) none

def distinct (seq : List (Key × Int)) : Nat := (seq.map (·.1)).eraseDups.length

@[simp] theorem lastRet_nil (k : Key) : lastRet [] k = none := rfl

theorem lastRet_snoc (seq : List (Key × Int)) (p : Key × Int) (k : Key) :
    lastRet (seq ++ [p]) k = if p.1 = k then some p.2 else lastRet seq k := by
  simp [lastRet, List.foldl_append]

theorem lastRet_eq_none_iff (seq : List (Key × Int)) (k : Key) :
    lastRet seq k = none ↔ k ∉ seq.map (·.1) := by
  induction seq using snoc_induction with
  | nil => simp
  | snoc seq p ih =>
      rw [lastRet_snoc]
      by_cases e : p.1 = k
      · simp [e]
      · have : ¬ k = p.1 := fun x => e x.symm
        simp [e, ih, this]

@[simp] theorem distinct_nil : distinct [] = 0 := rfl

theorem distinct_snoc (seq : List (Key × Int)) (p : Key × Int) :
    distinct (seq ++ [p]) = distinct seq + if lastRet seq p.1 = none then 1 else 0 := by
  rw [distinct, List.map_append, List.eraseDups_append, List.length_append]
  simp only [lastRet_eq_none_iff]
  by_cases h : p.1 ∈ seq.map (·.1)
  · simp [List.removeAll, h, distinct]
  · simp [List.removeAll, h, distinct, List.eraseDups_cons]

theorem distinct_le_snoc (seq : List (Key × Int)) (p : Key × Int) :
    distinct seq ≤ distinct (seq ++ [p]) := by
  rw [distinct_snoc]; omega

/-- the part of a `HH` that the table logic touches -/
structure HHS where
  table : Table
  size : Nat
  smallest : Int

/-- exact mirror of the branches of `HH.addAlt` below `(c, .ok res)` -/
def hhStep (num : Int) (s : HHS) (key : Key) (res : Int) : HHS × R Int :=
  if (s.size : Int) < num then
    let had := s.table.get? key
    let t := s.table.set key res
    ({ s with table := t, size := if had.isNone then t.length else s.size }, .ok res)
  else if (s.table.get? key).isSome then ({ s with table := s.table.set key res }, .ok res)
  else if res > s.smallest then
    let t := s.table.set key res
    match Table.argmin t with
    | none => ({ s with table := t }, .error .valueError)
    | some (k, _) =>
        let t := t.pop k
        match Table.argmin t with
        | none => ({ s with table := t }, .error .valueError)
        | some (_, v) => ({ s with table := t, smallest := v }, .ok res)
  else (s, .ok res)

def HH.abs (h : HH) : HHS := ⟨h.table, h.size, h.smallest⟩

theorem HH.addAlt_error (h : HH) (key : Key) (hs : List Nat) (n : Int) (c : CMS) (e : Err)
    (hc : h.cms.addAlt hs n = (c, .error e)) :
    h.addAlt key hs n = ({ h with cms := c }, .error e) := by
  unfold HH.addAlt
  simp only [hc]

theorem HH.addAlt_ok (h : HH) (key : Key) (hs : List Nat) (n : Int) (c : CMS) (res : Int)
    (hc : h.cms.addAlt hs n = (c, .ok res)) :
    h.addAlt key hs n =
      ({ h with cms := c, table := (hhStep h.num h.abs key res).1.table,
                size := (hhStep h.num h.abs key res).1.size,
                smallest := (hhStep h.num h.abs key res).1.smallest },
       (hhStep h.num h.abs key res).2) := by
  unfold HH.addAlt
  simp only [hc, hhStep, HH.abs]
  by_cases h1 : (h.size : Int) < h.num
  · simp only [h1, ↓reduceIte]
    rfl
  · by_cases h2 : (h.table.get? key).isSome = true
    · simp only [h1, h2, ↓reduceIte]
    · by_cases h3 : res > h.smallest
      · simp only [h1, h2, h3, ↓reduceIte]
        rcases Table.argmin (h.table.set key res) with _ | ⟨k, m⟩
        · rfl
        · dsimp only
          rcases Table.argmin ((h.table.set key res).pop k) with _ | ⟨k2, v⟩ <;> rfl
      · simp only [h1, h2, h3, ↓reduceIte]
        rfl

structure HHInv (num : Int) (seq : List (Key × Int)) (s : HHS) : Prop where
  nodup : (Table.keys s.table).Nodup
  size : s.size = s.table.length
  le : (s.table.length : Int) ≤ num
  count : (s.table.length : Int) = min num (distinct seq)
  tracked : ∀ k v, s.table.get? k = some v → lastRet seq k = some v
  notfull : (s.table.length : Int) < num →
    s.smallest = 0 ∧ ∀ k, lastRet seq k ≠ none → k ∈ Table.keys s.table
  low : ∀ k v, s.table.get? k = some v → s.smallest ≤ v
  untracked : ∀ u r, lastRet seq u = some r → s.table.get? u = none → r ≤ s.smallest

theorem HHInv.init (num : Int) (hnum : 1 ≤ num) : HHInv num [] ⟨[], 0, 0⟩ where
  nodup := by simp
  size := rfl
  le := by simp; omega
  count := by simp; omega
  tracked := by simp
  notfull := by simp
  low := by simp
  untracked := by simp

/-- what `HHInv` says of the entries, with the threshold `m` free: no key twice, every entry is
    its key's most recent estimate and at least `m`, every other key's most recent estimate is at
    most `m`.  The three table operations of a step keep it; the rest of `HHInv` is counting. -/
structure Tracks (seq : List (Key × Int)) (t : Table) (m : Int) : Prop where
  nodup : (Table.keys t).Nodup
  tracked : ∀ k v, t.get? k = some v → lastRet seq k = some v
  low : ∀ k v, t.get? k = some v → m ≤ v
  untracked : ∀ u r, lastRet seq u = some r → t.get? u = none → r ≤ m

theorem HHInv.tracks {num : Int} {seq : List (Key × Int)} {s : HHS} (hI : HHInv num seq s) :
    Tracks seq s.table s.smallest :=
  ⟨hI.nodup, hI.tracked, hI.low, hI.untracked⟩

/-- `d[key] = res` with `res` not below the threshold -/
theorem Tracks.set {seq : List (Key × Int)} {t : Table} {m : Int} (h : Tracks seq t m) (key : Key)
    {res : Int} (hm : m ≤ res) : Tracks (seq ++ [(key, res)]) (t.set key res) m where
  nodup := Table.nodup_set h.nodup key res
  tracked := by
    intro k v hg
    rw [Table.get?_set] at hg; rw [lastRet_snoc]
    by_cases ek : key = k
    · subst ek; simpa using hg
    · simp only [ek, if_false] at hg ⊢; exact h.tracked k v hg
  low := by
    intro k v hg
    rw [Table.get?_set] at hg
    by_cases ek : key = k
    · simp only [ek, if_true, Option.some.injEq] at hg; omega
    · simp only [ek, if_false] at hg; exact h.low k v hg
  untracked := by
    intro u r h1 h2
    rw [Table.get?_set] at h2; rw [lastRet_snoc] at h1
    by_cases ek : key = u
    · simp [ek] at h2
    · simp only [ek, if_false] at h1 h2; exact h.untracked u r h1 h2

theorem Tracks.skip {seq : List (Key × Int)} {t : Table} {m : Int} (h : Tracks seq t m) {key : Key}
    (hk : t.get? key = none) {res : Int} (hm : res ≤ m) : Tracks (seq ++ [(key, res)]) t m where
  nodup := h.nodup
  tracked := by
    intro x w hx
    rw [lastRet_snoc]
    have : ¬ key = x := by
      intro ex; subst ex; rw [hk] at hx; simp at hx
    simp only [this, if_false]; exact h.tracked x w hx
  low := h.low
  untracked := by
    intro u r hu1 hu2
    rw [lastRet_snoc] at hu1
    by_cases eu : key = u
    · rw [if_pos eu, Option.some.injEq] at hu1
      exact hu1 ▸ hm
    · rw [if_neg eu] at hu1; exact h.untracked u r hu1 hu2

/-- the eviction: once the first least entry `(k, x)` is popped, the least remaining value `v` is
    a threshold again, since `x ≤ v` covers the evicted key and `m ≤ v` the other untracked ones -/
theorem Tracks.pop_argmin {seq : List (Key × Int)} {t : Table} {m : Int} (h : Tracks seq t m)
    {k k2 : Key} {x v : Int} (hA : Table.argmin t = some (k, x))
    (hB : Table.argmin (t.pop k) = some (k2, v)) : Tracks seq (t.pop k) v := by
  obtain ⟨hmem, hmin⟩ := Table.argmin_spec hA
  obtain ⟨hmem2, hmin2⟩ := Table.argmin_spec hB
  have hv : (k2, v) ∈ t := (List.mem_filter.mp hmem2).1
  have hxv : x ≤ v := hmin _ hv
  have hmv : m ≤ v := h.low k2 v (Table.get?_of_mem h.nodup hv)
  exact {
    nodup := Table.nodup_pop h.nodup k
    tracked := by
      intro u w hu
      rw [Table.get?_pop] at hu
      by_cases eu : k = u
      · simp [eu] at hu
      · rw [if_neg eu] at hu; exact h.tracked u w hu
    low := fun u w hu => hmin2 _ (Table.mem_of_get? hu)
    untracked := by
      intro u r hu1 hu2
      rw [Table.get?_pop] at hu2
      by_cases eu : k = u
      · subst eu
        rw [h.tracked _ _ (Table.get?_of_mem h.nodup hmem), Option.some.injEq] at hu1
        exact hu1 ▸ hxv
      · rw [if_neg eu] at hu2
        exact Int.le_trans (h.untracked u r hu1 hu2) hmv }

/-- `HHInv` is `Tracks` at the threshold `smallest` plus the counting; the bound on the number of
    entries is part of the count -/
theorem Tracks.inv {seq : List (Key × Int)} {t : Table} {m : Int} (hT : Tracks seq t m) {num : Int}
    {sz : Nat} (size : sz = t.length) (count : (t.length : Int) = min num (distinct seq))
    (notfull : (t.length : Int) < num →
      m = 0 ∧ ∀ k, lastRet seq k ≠ none → k ∈ Table.keys t) : HHInv num seq ⟨t, sz, m⟩ :=
  ⟨hT.nodup, size, count ▸ Int.min_le_left _ _, count, hT.tracked, notfull, hT.low, hT.untracked⟩

private theorem seen_set {t : Table} {seq : List (Key × Int)} (key : Key) (res : Int)
    (h : ∀ k, lastRet seq k ≠ none → k ∈ Table.keys t) :
    ∀ k, lastRet (seq ++ [(key, res)]) k ≠ none → k ∈ Table.keys (t.set key res) := by
  intro k hk
  rw [Table.mem_keys_set]
  rw [lastRet_snoc] at hk
  by_cases ek : key = k
  · exact Or.inl ek.symm
  · rw [if_neg ek] at hk; exact Or.inr (h k hk)

theorem min_of_full {num : Int} {l d : Nat} (hc : (l : Int) = min num d) (hf : ¬ (l : Int) < num)
    (k : Nat) : (l : Int) = min num ((d + k : Nat) : Int) := by
  have h : num ≤ (d : Int) := Int.le_trans (hc ▸ Int.not_lt.mp hf) (Int.min_le_right _ _)
  rw [hc, Int.min_eq_left h,
    Int.min_eq_left (Int.le_trans h (Int.ofNat_le.2 (Nat.le_add_right d k)))]

/-- a full table stays full under a step that keeps the number of entries, so the number of keys
    seen does not matter any more -/
theorem HHInv.of_full {num : Int} {seq : List (Key × Int)} {s : HHS} (hI : HHInv num seq s)
    (h1 : ¬ (s.size : Int) < num) (p : Key × Int) {t : Table} {m : Int}
    (hT : Tracks (seq ++ [p]) t m) (hlen : t.length = s.table.length) :
    HHInv num (seq ++ [p]) { s with table := t, smallest := m } := by
  have hfull : ¬ (s.table.length : Int) < num := hI.size ▸ h1
  refine hT.inv (hI.size.trans hlen.symm) ?_ fun h => absurd (hlen ▸ h) hfull
  rw [hlen, distinct_snoc]
  exact min_of_full hI.count hfull _

theorem hhStep_tracked (num : Int) (s : HHS) (key : Key) (res : Int)
    (hk : key ∈ Table.keys s.table) :
    hhStep num s key res = ({ s with table := s.table.set key res }, .ok res) := by
  have hsome : (s.table.get? key).isSome = true := (Table.get?_isSome_iff _ _).mpr hk
  have hnone : (s.table.get? key).isNone = false := by
    rw [Option.isNone_eq_false_iff]; exact hsome
  unfold hhStep
  by_cases h1 : (s.size : Int) < num
  · simp only [if_pos h1, hnone, Bool.false_eq_true, if_false]
  · rw [if_neg h1, if_pos hsome]

/-- a new key on a full table with an estimate above `smallest`: it is inserted and the first
    least entry is evicted, which leaves at least one entry, so neither `ValueError` branch is
    taken; `smallest` becomes the least remaining value -/
theorem hhStep_evict {num : Int} {seq : List (Key × Int)} {s : HHS} (hnum : 1 ≤ num)
    (hI : HHInv num seq s) (key : Key) (res : Int) (h1 : ¬ (s.size : Int) < num)
    (hk : key ∉ Table.keys s.table) (h3 : res > s.smallest) :
    (hhStep num s key res).2 = .ok res ∧
      HHInv num (seq ++ [(key, res)]) (hhStep num s key res).1 := by
  have hsz := hI.size
  have hnone : s.table.get? key = none := (Table.get?_eq_none_iff _ _).mpr hk
  have hT := hI.tracks.set key (Int.le_of_lt h3)
  have hlt := Table.length_set_of_not_mem hk res
  cases hA : Table.argmin (s.table.set key res) with
  | none => rw [Table.argmin_eq_none] at hA; rw [hA] at hlt; simp at hlt
  | some p =>
    obtain ⟨k, x⟩ := p
    have hlp := Table.length_pop hT.nodup (Table.mem_keys_of_mem (Table.argmin_spec hA).1)
    have hlen : ((s.table.set key res).pop k).length = s.table.length :=
      Nat.add_right_cancel (hlp.trans hlt)
    cases hB : Table.argmin ((s.table.set key res).pop k) with
    | none =>
      rw [Table.argmin_eq_none] at hB
      rw [hB, List.length_nil] at hlen
      omega
    | some q =>
      obtain ⟨k2, v⟩ := q
      have e : hhStep num s key res =
          ({ s with table := (s.table.set key res).pop k, smallest := v }, .ok res) := by
        simp [hhStep, h1, hnone, h3, hA, hB]
      rw [e]
      exact ⟨rfl, hI.of_full h1 (key, res) (hT.pop_argmin hA hB) hlen⟩

theorem hhStep_inv {num : Int} {seq : List (Key × Int)} {s : HHS} (hnum : 1 ≤ num)
    (hI : HHInv num seq s) (key : Key) (res : Int) (hr : 0 ≤ res)
    (hm : ∀ v, lastRet seq key = some v → v ≤ res) :
    (hhStep num s key res).2 = .ok res ∧
      HHInv num (seq ++ [(key, res)]) (hhStep num s key res).1 := by
  have hd := distinct_snoc seq (key, res)
  have hc := hI.count
  by_cases hk : key ∈ Table.keys s.table
  · -- a tracked key: below capacity `smallest` is still 0, at capacity it is at most the old value
    obtain ⟨v0, hv0⟩ := Option.isSome_iff_exists.mp ((Table.get?_isSome_iff _ _).mpr hk)
    have hT := hI.tracks.set key (Int.le_trans (hI.low _ _ hv0) (hm v0 (hI.tracked _ _ hv0)))
    have hne : lastRet seq key ≠ none := by rw [hI.tracked _ _ hv0]; simp
    have hlen := Table.length_set_of_mem hk res
    rw [hhStep_tracked num s key res hk]
    refine ⟨rfl, hT.inv (hI.size.trans hlen.symm) ?_ fun h => ?_⟩
    · rw [hlen, hd]; simp only [hne, if_false, Nat.add_zero]; exact hc
    · rw [hlen] at h
      exact ⟨(hI.notfull h).1, seen_set key res (hI.notfull h).2⟩
  have hnone : s.table.get? key = none := (Table.get?_eq_none_iff _ _).mpr hk
  by_cases h1 : (s.size : Int) < num
  · -- room for a new key: `smallest` is still 0 and every key seen is tracked, so `key` is new
    obtain ⟨hs0, hseen⟩ := hI.notfull (by rw [← hI.size]; exact h1)
    have hT := hI.tracks.set key (hs0 ▸ hr)
    have hnew : lastRet seq key = none := by
      cases h : lastRet seq key with
      | none => rfl
      | some v => exact absurd (hseen key (by simp [h])) hk
    have hlen := Table.length_set_of_not_mem hk res
    have hsz := hI.size
    have e : hhStep num s key res =
        ({ s with table := s.table.set key res, size := (s.table.set key res).length }, .ok res) := by
      simp only [hhStep, h1, hnone, ↓reduceIte, Option.isNone_none]
    rw [e]
    refine ⟨rfl, hT.inv rfl ?_ fun _ => ⟨hs0, seen_set key res hseen⟩⟩
    simp only [hlen, hd, hnew, if_true]; omega
  by_cases h3 : res > s.smallest
  · exact hhStep_evict hnum hI key res h1 hk h3
  · have e : hhStep num s key res = (s, .ok res) := by
      simp only [hhStep, h1, hnone, h3, ↓reduceIte, Option.isSome_none, Bool.false_eq_true]
    rw [e]
    exact ⟨rfl, hI.of_full h1 (key, res) (hI.tracks.skip hnone (Int.not_lt.mp h3)) rfl⟩

/-- hypothesis on a history: every estimate is non-negative and not below the estimate the same key
    got the time before (what a count-min sketch under additions delivers, see `CmsMono`) -/
def MonoSeq (seq : List (Key × Int)) : Prop :=
  ∀ pre k r post, seq = pre ++ (k, r) :: post → 0 ≤ r ∧ ∀ v, lastRet pre k = some v → v ≤ r

theorem monoSeq_nil : MonoSeq [] := by
  intro pre k r post h; simp at h

theorem monoSeq_snoc (seq : List (Key × Int)) (p : Key × Int) :
    MonoSeq (seq ++ [p]) ↔
      MonoSeq seq ∧ 0 ≤ p.2 ∧ ∀ v, lastRet seq p.1 = some v → v ≤ p.2 := by
  constructor
  · intro h
    refine ⟨?_, ?_⟩
    · intro pre k r post e
      exact h pre k r (post ++ [p]) (by rw [e]; simp)
    · exact h seq p.1 p.2 [] rfl
  · rintro ⟨h1, h2⟩ pre k r post e
    rcases List.eq_nil_or_concat post with rfl | ⟨L, b, rfl⟩
    · obtain ⟨e1, e2⟩ := List.append_inj' e rfl
      simp only [List.cons.injEq, and_true] at e2
      subst e1; subst e2; exact h2
    · rw [List.concat_eq_append, ← List.cons_append, ← List.append_assoc] at e
      obtain ⟨e1, _⟩ := List.append_inj' e rfl
      exact h1 pre k r L e1

/-- What follows holds for any `MonoSeq` history, whoever produced the estimates; C17's run takes
    them from the sketch call by call and carries `HHInv` along with the sketch's invariant. -/
def hhRun (num : Int) (seq : List (Key × Int)) : HHS × List (R Int) :=
  seq.foldl (fun st p => ((hhStep num st.1 p.1 p.2).1, st.2 ++ [(hhStep num st.1 p.1 p.2).2]))
    (⟨[], 0, 0⟩, [])

theorem hhRun_snoc (num : Int) (seq : List (Key × Int)) (p : Key × Int) :
    hhRun num (seq ++ [p]) =
      ((hhStep num (hhRun num seq).1 p.1 p.2).1,
       (hhRun num seq).2 ++ [(hhStep num (hhRun num seq).1 p.1 p.2).2]) := by
  simp [hhRun, List.foldl_append]

theorem hhRun_inv {num : Int} (hnum : 1 ≤ num) (seq : List (Key × Int)) (hm : MonoSeq seq) :
    HHInv num seq (hhRun num seq).1 ∧ (hhRun num seq).2 = seq.map fun p => .ok p.2 := by
  induction seq using snoc_induction with
  | nil => exact ⟨HHInv.init num hnum, rfl⟩
  | snoc seq p ih =>
      obtain ⟨hm1, hr, hv⟩ := (monoSeq_snoc seq p).mp hm
      obtain ⟨hI, hlog⟩ := ih hm1
      obtain ⟨h1, h2⟩ := hhStep_inv hnum hI p.1 p.2 hr hv
      rw [hhRun_snoc]
      exact ⟨h2, by simp [hlog, h1]⟩

theorem hhRun_ok {num : Int} (hnum : 1 ≤ num) (seq : List (Key × Int)) (hm : MonoSeq seq) :
    (hhRun num seq).2 = seq.map fun p => .ok p.2 := (hhRun_inv hnum seq hm).2

theorem hhRun_size {num : Int} (hnum : 1 ≤ num) (seq : List (Key × Int)) (hm : MonoSeq seq) :
    ((hhRun num seq).1.table.length : Int) = min num (distinct seq) ∧
      (hhRun num seq).1.size = (hhRun num seq).1.table.length :=
  ⟨(hhRun_inv hnum seq hm).1.count, (hhRun_inv hnum seq hm).1.size⟩

theorem hhRun_tracked {num : Int} (hnum : 1 ≤ num) (seq : List (Key × Int)) (hm : MonoSeq seq) :
    (Table.keys (hhRun num seq).1.table).Nodup ∧
      ∀ k v, (k, v) ∈ (hhRun num seq).1.table → lastRet seq k = some v := by
  have hI := (hhRun_inv hnum seq hm).1
  exact ⟨hI.nodup, fun k v h => hI.tracked k v (Table.get?_of_mem hI.nodup h)⟩

theorem HHInv.untracked_le {num : Int} {seq : List (Key × Int)} {s : HHS} (hI : HHInv num seq s)
    {u : Key} {r : Int} (hu : lastRet seq u = some r) (hn : u ∉ Table.keys s.table)
    {k : Key} {v : Int} (hk : (k, v) ∈ s.table) : r ≤ v := by
  have h1 := hI.untracked u r hu ((Table.get?_eq_none_iff _ _).mpr hn)
  have h2 := hI.low k v (Table.get?_of_mem hI.nodup hk)
  omega

theorem hhRun_untracked {num : Int} (hnum : 1 ≤ num) (seq : List (Key × Int)) (hm : MonoSeq seq)
    (u : Key) (r : Int) (hu : lastRet seq u = some r) (hn : u ∉ Table.keys (hhRun num seq).1.table)
    (k : Key) (v : Int) (hk : (k, v) ∈ (hhRun num seq).1.table) : r ≤ v :=
  (hhRun_inv hnum seq hm).1.untracked_le hu hn hk

/-- mirror of the table update of `ST.addAlt` (`isAdd = true`) / `ST.removeAlt` (`false`) after
    the sketch returned `res` -/
def stStep (T : Int) (t : Table) (isAdd : Bool) (key : Key) (res : Int) : Table :=
  if isAdd then (if res ≥ T then t.set key res else t.pop key)
  else (if res < T then t.pop key else t.set key res)

theorem stStep_eq (T : Int) (t : Table) (isAdd : Bool) (key : Key) (res : Int) :
    stStep T t isAdd key res = if T ≤ res then t.set key res else t.pop key := by
  cases isAdd
  · simp only [stStep, Bool.false_eq_true, if_false, ← Int.not_le, ite_not]
  · simp only [stStep, if_true, ge_iff_le]

theorem ST.addAlt_error (s : ST) (key : Key) (hs : List Nat) (n : Int) (c : CMS) (e : Err)
    (hc : s.cms.addAlt hs n = (c, .error e)) :
    s.addAlt key hs n = ({ s with cms := c }, .error e) := by
  unfold ST.addAlt; simp only [hc]

theorem ST.addAlt_ok (s : ST) (key : Key) (hs : List Nat) (n : Int) (c : CMS) (res : Int)
    (hc : s.cms.addAlt hs n = (c, .ok res)) :
    s.addAlt key hs n =
      ({ s with cms := c, table := stStep s.threshold s.table true key res }, .ok res) := by
  unfold ST.addAlt stStep
  simp only [hc, if_true]
  split <;> rfl

theorem ST.removeAlt_error (s : ST) (key : Key) (hs : List Nat) (n : Int) (c : CMS) (e : Err)
    (hc : s.cms.removeAlt hs n = (c, .error e)) :
    s.removeAlt key hs n = ({ s with cms := c }, .error e) := by
  unfold ST.removeAlt; simp only [hc]

theorem ST.removeAlt_ok (s : ST) (key : Key) (hs : List Nat) (n : Int) (c : CMS) (res : Int)
    (hc : s.cms.removeAlt hs n = (c, .ok res)) :
    s.removeAlt key hs n =
      ({ s with cms := c, table := stStep s.threshold s.table false key res }, .ok res) := by
  unfold ST.removeAlt stStep
  simp only [hc, Bool.false_eq_true, if_false]
  split <;> rfl

structure STInv (T : Int) (seq : List (Key × Int)) (t : Table) : Prop where
  nodup : (Table.keys t).Nodup
  spec : ∀ k v, t.get? k = some v ↔ lastRet seq k = some v ∧ T ≤ v

theorem STInv.init (T : Int) : STInv T [] [] := ⟨by simp, by simp⟩

theorem stStep_inv {T : Int} {seq : List (Key × Int)} {t : Table} (hI : STInv T seq t)
    (isAdd : Bool) (key : Key) (res : Int) :
    STInv T (seq ++ [(key, res)]) (stStep T t isAdd key res) := by
  rw [stStep_eq]
  by_cases h : T ≤ res
  · simp only [h, if_true]
    refine ⟨Table.nodup_set hI.nodup key res, ?_⟩
    intro k v
    rw [Table.get?_set, lastRet_snoc]
    by_cases ek : key = k
    · subst ek
      simp only [if_true, Option.some.injEq]
      constructor
      · intro e; subst e; exact ⟨rfl, h⟩
      · exact fun e => e.1
    · simp only [ek, if_false]; exact hI.spec k v
  · simp only [h, if_false]
    refine ⟨Table.nodup_pop hI.nodup key, ?_⟩
    intro k v
    rw [Table.get?_pop, lastRet_snoc]
    by_cases ek : key = k
    · subst ek
      simp only [if_true, Option.some.injEq]
      constructor
      · intro e; simp at e
      · rintro ⟨e, h'⟩; subst e; exact absurd h' h
    · simp only [ek, if_false]; exact hI.spec k v

def stRun (T : Int) (ops : List (Bool × Key × Int)) : Table :=
  ops.foldl (fun t o => stStep T t o.1 o.2.1 o.2.2) []

theorem stRun_inv (T : Int) (ops : List (Bool × Key × Int)) :
    STInv T (ops.map (·.2)) (stRun T ops) := by
  induction ops using snoc_induction with
  | nil => exact STInv.init T
  | snoc ops o ih =>
      have : stRun T (ops ++ [o]) = stStep T (stRun T ops) o.1 o.2.1 o.2.2 := by
        simp [stRun, List.foldl_append]
      rw [this, List.map_append]
      exact stStep_inv ih o.1 o.2.1 o.2.2

end PyProb
