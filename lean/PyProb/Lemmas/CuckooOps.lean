/-
  The table invariant `Tab` and the specifications of `add`, `remove`, `expand`.  An `add` / `remove` of a
  stored fingerprint exchanges one bin for another of the same fingerprint (or for nothing), an `add` of
  a new one gains a bin: `Tab_of_exchange`; the clauses of the post-conditions `AddPost`, `RemovePost`,
  `ExpandPost` are read off that one conservation law on `tsum`.  Core Lean only.
-/
import PyProb.Lemmas.CuckooCount

namespace PyProb.Cuckoo

theorem bsum_zero_of (f : CBin → Nat) (l : List CBin) (h : ∀ b ∈ l, f b = 0) : bsum f l = 0 :=
  Nat.eq_zero_of_not_pos fun hp =>
    let ⟨b, hb, hfb⟩ := (bsum_pos_iff f l).mp hp
    Nat.ne_of_gt hfb (h b hb)

theorem bsum_erase (f : CBin → Nat) (l : List CBin) (a : CBin) (h : a ∈ l) : bsum f (l.erase a) + f a = bsum f l := by
  induction l with
  | nil => simp at h
  | cons x l ih =>
    by_cases e : x = a
    · subst e; simp only [List.erase_cons_head, bsum_cons]; omega
    · have hm : a ∈ l := by
        rcases List.mem_cons.mp h with h | h
        · exact absurd h.symm e
        · exact h
      have := ih hm
      rw [List.erase_cons_tail (by simpa using e)]
      simp only [bsum_cons]; omega

theorem isFp_zero_of_bsum (fp : Nat) (l : List CBin) (h : bsum (isFp fp) l = 0) : ∀ b ∈ l, b.1 ≠ fp := by
  intro b hb e
  have : 0 < bsum (isFp fp) l := (bsum_pos_iff _ _).mpr ⟨b, hb, by simp [isFp, e]⟩
  omega

theorem others_ne (fp : Nat) (l : List CBin) (bin : CBin) (hn : bsum (isFp fp) l ≤ 1) (hm : bin ∈ l)
    (hb : bin.1 = fp) : ∀ x ∈ l.erase bin, x.1 ≠ fp := by
  have h1 := bsum_erase (isFp fp) l bin hm
  have h2 : isFp fp bin = 1 := if_pos hb
  exact isFp_zero_of_bsum fp _ (by omega)

theorem bsum_unique (f : CBin → Nat) (fp : Nat) (l : List CBin) (bin : CBin)
    (hn : bsum (isFp fp) l ≤ 1) (hm : bin ∈ l) (hb : bin.1 = fp) (hf : ∀ b, b.1 ≠ fp → f b = 0) :
    bsum f l = f bin := by
  rw [← bsum_erase f l bin hm, bsum_zero_of f _ (fun x hx => hf x (others_ne fp l bin hn hm hb x hx)), Nat.zero_add]

theorem bsum_map_one (f : CBin → Nat) (m : CBin → CBin) (l : List CBin) (a : CBin)
    (hn : bsum (isFp a.1) l ≤ 1) (ha : a ∈ l) (hm : ∀ x, x.1 ≠ a.1 → m x = x) :
    bsum f (l.map m) + f a = bsum f l + f (m a) := by
  have h1 : bsum f (l.map m) = bsum (fun x => f (m x)) l := by simp [bsum, List.map_map, Function.comp_def]
  have h2 := bsum_erase (fun x => f (m x)) l a ha
  have h3 := bsum_erase f l a ha
  have h4 : bsum (fun x => f (m x)) (l.erase a) = bsum f (l.erase a) :=
    bsum_congr _ _ _ (fun x hx => by rw [hm x (others_ne a.1 l a hn ha rfl x hx)])
  omega

/-- `n` is the slack in the bucket sizes, see `TB`. -/
structure Tab (G : Nat → Nat) (n : Nat) (c : Cuckoo) : Prop where
  ts : TB G n c
  nodup : ∀ g, tsum (isFp g) c ≤ 1
  cnt_pos : ∀ bin, stored c bin → 1 ≤ bin.2
  plain : c.counting = false → ∀ bin, stored c bin → bin.2 = 1

/-- the invariant of reachable states; `C15.Inv` is the same thing written out -/
structure WF (G : Nat → Nat) (c : Cuckoo) : Prop extends Tab G 0 c where
  b_pos : 0 < c.b
  rate_pos : 0 < c.rate

theorem WF.of_tab {G : Nat → Nat} {c c' : Cuckoo} (hw : WF G c) (hx : SameX c c') (ht : Tab G 0 c') : WF G c' :=
  ⟨ht, by rw [hx.b]; exact hw.b_pos, by rw [hx.rate]; exact hw.rate_pos⟩

theorem stored_of_bucket {c : Cuckoo} {i : Nat} {bin : CBin} (h : bin ∈ c.bucket i) : stored c bin :=
  (stored_iff_bucket c bin).mpr ⟨i, h⟩

theorem tsum_unique {c : Cuckoo} (hn : ∀ g, tsum (isFp g) c ≤ 1) (f : CBin → Nat) (bin : CBin)
    (hm : stored c bin) (hf : ∀ b, b.1 ≠ bin.1 → f b = 0) : tsum f c = f bin := by
  rw [tsum_eq_flatten]
  exact bsum_unique f bin.1 _ bin (by rw [← tsum_eq_flatten]; exact hn _) hm rfl hf

theorem WF_new (G : Nat → Nat) (counting : Bool) (cap b maxSwaps rate : Nat) (auto : Bool) (fpBits : Nat)
    (hcap : 0 < cap) (hb : 0 < b) (hrate : 0 < rate) :
    WF G (Cuckoo.new counting cap b maxSwaps rate auto fpBits) := by
  have hbk : ∀ i, (Cuckoo.new counting cap b maxSwaps rate auto fpBits).bucket i = [] :=
    bucket_of_empty_table (n := cap) rfl
  have hst : ∀ bin, ¬ stored (Cuckoo.new counting cap b maxSwaps rate auto fpBits) bin := by
    intro bin h
    obtain ⟨i, hi⟩ := (stored_iff_bucket _ _).mp h
    rw [hbk] at hi; simp at hi
  refine ⟨⟨⟨by simp [Cuckoo.new], hcap, ?_, ?_⟩, ?_, ?_, ?_⟩, hb, hrate⟩
  · intro i; rw [hbk]; exact Nat.zero_le _
  · intro i bin; rw [hbk]; simp
  · intro g; rw [tsum_empty_table _ _ cap rfl]; omega
  · intro bin h; exact absurd h (hst bin)
  · intro _ bin h; exact absurd h (hst bin)

/-- a table that lost at most one bin and gained at most one is well-formed again, provided the
    only stored bin with the fingerprint of the gained one, if any, is the lost one -/
theorem Tab_of_exchange {G : Nat → Nat} {n : Nat} {c c' : Cuckoo} (hw : Tab G n c) (hs' : TB G n c') (hx : SameX c c')
    (lost extra : Option CBin) (hc : ∀ f, tsum f c' + optW f lost = tsum f c + optW f extra)
    (hex : ∀ bin, extra = some bin → tsum (isFp bin.1) c = optW (isFp bin.1) lost ∧ 1 ≤ bin.2 ∧
      (c.counting = false → bin.2 = 1)) :
    Tab G n c' := by
  have hst : ∀ b, stored c' b → stored c b ∨ extra = some b := by
    intro b hb
    have h1 := (stored_iff_tsum c' b).mp hb
    have h2 := hc (isBin b)
    by_cases h3 : 0 < tsum (isBin b) c
    · exact Or.inl ((stored_iff_tsum c b).mpr h3)
    · right
      cases extra with
      | none => simp only [optW] at h2; omega
      | some x =>
        by_cases e : x = b
        · rw [e]
        · simp only [optW, isBin, if_neg e] at h2; omega
  refine ⟨hs', ?_, ?_, ?_⟩
  · intro g
    have h1 := hc (isFp g)
    have h2 := hw.nodup g
    cases extra with
    | none => simp only [optW] at h1; omega
    | some x =>
      obtain ⟨h0, _, _⟩ := hex x rfl
      by_cases e : x.1 = g
      · subst e; simp only [optW, isFp, if_true] at h1 h0; omega
      · simp only [optW, isFp, if_neg e] at h1; omega
  · intro b hb
    rcases hst b hb with h | h
    · exact hw.cnt_pos b h
    · exact (hex b h).2.1
  · intro hcount b hb
    rw [hx.counting] at hcount
    rcases hst b hb with h | h
    · exact hw.plain hcount b h
    · exact (hex b h).2.2 hcount

theorem hasFp_iff (c : Cuckoo) (i fp : Nat) : c.hasFp i fp = true ↔ ∃ bin ∈ c.bucket i, bin.1 = fp := by
  simp [hasFp, List.any_eq_true]

theorem present_none {c : Cuckoo} {i1 i2 fp : Nat} (h : c.present i1 i2 fp = none) :
    c.hasFp i1 fp = false ∧ c.hasFp i2 fp = false := by
  unfold present at h
  cases h1 : c.hasFp i1 fp
  · cases h2 : c.hasFp i2 fp
    · exact ⟨rfl, rfl⟩
    · rw [h1, h2] at h
      cases h
  · rw [h1] at h
    cases h

theorem present_some {c : Cuckoo} {i1 i2 fp i : Nat} (h : c.present i1 i2 fp = some i) :
    (i = i1 ∨ i = i2) ∧ c.hasFp i fp = true := by
  unfold present at h
  cases h1 : c.hasFp i1 fp
  · cases h2 : c.hasFp i2 fp
    · rw [h1, h2] at h
      cases h
    · rw [h1, h2] at h
      cases h
      exact ⟨Or.inr rfl, h2⟩
  · rw [h1] at h
    cases h
    exact ⟨Or.inl rfl, h1⟩

/-- the answer of `_check_if_present`; `C03.contains` is the same proposition -/
def containsL (G : Nat → Nat) (c : Cuckoo) (fp : Nat) : Prop :=
  c.hasFp (fp % c.cap) fp = true ∨ c.hasFp (G fp % c.cap) fp = true

theorem not_containsL_of_present {G : Nat → Nat} {c : Cuckoo} {fp : Nat}
    (hp : c.present (fp % c.cap) (G fp % c.cap) fp = none) : ¬ containsL G c fp := by
  obtain ⟨h1, h2⟩ := present_none hp
  unfold containsL; simp [h1, h2]

theorem present_some_bin {G : Nat → Nat} {n : Nat} {c : Cuckoo} (hs : TB G n c) {fp i : Nat}
    (hp : c.present (fp % c.cap) (G fp % c.cap) fp = some i) :
    i < c.cap ∧ containsL G c fp ∧ ∃ a ∈ c.bucket i, a.1 = fp := by
  obtain ⟨hi12, hh⟩ := present_some hp
  refine ⟨?_, ?_, (hasFp_iff c i fp).mp hh⟩
  · rcases hi12 with rfl | rfl <;> exact Nat.mod_lt _ hs.cap_pos
  · rcases hi12 with rfl | rfl
    · exact Or.inl hh
    · exact Or.inr hh

theorem containsL_iff_stored {G : Nat → Nat} {n : Nat} {c : Cuckoo} (hs : TB G n c) (fp : Nat) :
    containsL G c fp ↔ ∃ bin, stored c bin ∧ bin.1 = fp := by
  unfold containsL
  rw [hasFp_iff, hasFp_iff]
  constructor
  · rintro (⟨bin, hm, e⟩ | ⟨bin, hm, e⟩) <;> exact ⟨bin, stored_of_bucket hm, e⟩
  · rintro ⟨bin, hm, e⟩
    obtain ⟨i, hi⟩ := (stored_iff_bucket c bin).mp hm
    rcases hs.pos i bin hi with h | h
    · left; exact ⟨bin, by rw [← e, ← h]; exact hi, e⟩
    · right; exact ⟨bin, by rw [← e, ← h]; exact hi, e⟩

theorem containsL_iff_isFp {G : Nat → Nat} {n : Nat} {c : Cuckoo} (hs : TB G n c) (fp : Nat) :
    containsL G c fp ↔ 0 < tsum (isFp fp) c := by
  rw [containsL_iff_stored hs, tsum_pos_iff]
  constructor
  · rintro ⟨bin, hm, e⟩; exact ⟨bin, hm, by simp [isFp, e]⟩
  · rintro ⟨bin, hm, h⟩
    refine ⟨bin, hm, ?_⟩
    by_cases e : bin.1 = fp
    · exact e
    · simp [isFp, e] at h

theorem containsL_iff_cnt {G : Nat → Nat} {n : Nat} {c : Cuckoo} (hw : Tab G n c) (fp : Nat) :
    containsL G c fp ↔ 0 < tsum (cntW fp) c := by
  rw [containsL_iff_stored hw.ts, tsum_pos_iff]
  constructor
  · rintro ⟨bin, hm, e⟩; exact ⟨bin, hm, by have := hw.cnt_pos bin hm; simp only [cntW, e, if_true]; omega⟩
  · rintro ⟨bin, hm, h⟩
    refine ⟨bin, hm, ?_⟩
    by_cases e : bin.1 = fp
    · exact e
    · simp [cntW, e] at h

theorem tsum_zero_of_absent {G : Nat → Nat} {n : Nat} {c : Cuckoo} (hs : TB G n c) (fp : Nat) (habs : ¬ containsL G c fp)
    (f : CBin → Nat) (hf : ∀ b, b.1 ≠ fp → f b = 0) : tsum f c = 0 := by
  by_cases h : 0 < tsum f c
  · exfalso
    obtain ⟨bin, hm, hp⟩ := (tsum_pos_iff f c).mp h
    apply habs
    rw [containsL_iff_stored hs]
    refine ⟨bin, hm, ?_⟩
    by_cases e : bin.1 = fp
    · exact e
    · rw [hf bin e] at hp; omega
  · omega

theorem check_eq_cnt {G : Nat → Nat} {n : Nat} {c : Cuckoo} (hw : Tab G n c) (h : Nat) :
    check G c h = tsum (cntW (c.fingerprint h)) c := by
  simp only [check, indices]
  generalize c.fingerprint h = fp
  split
  · rename_i hp
    exact (tsum_zero_of_absent hw.ts fp (not_containsL_of_present hp) _ fun b hb => if_neg hb).symm
  · rename_i i hp
    obtain ⟨_, _, bin, hm, e⟩ := present_some_bin hw.ts hp
    cases hf : (c.bucket i).find? (·.1 == fp) with
    | none =>
      rw [List.find?_eq_none] at hf
      exact absurd (by simpa using e) (hf bin hm)
    | some x =>
      have hx1 : x.1 = fp := by simpa using List.find?_some hf
      have hxm := List.mem_of_find?_eq_some hf
      rw [tsum_unique hw.nodup (cntW fp) x (stored_of_bucket hxm) (by intro b hb; simp [cntW, hx1 ▸ hb])]
      simp [cntW, hx1]

theorem check_congr (G : Nat → Nat) (h : Nat) {c c' : Cuckoo} (hf : c'.fpBits = c.fpBits) (hc : c'.cap = c.cap)
    (hb : c'.buckets = c.buckets) : check G c' h = check G c h := by
  have hbk : c'.bucket = c.bucket := by funext i; simp only [bucket, hb]
  have hhas : c'.hasFp = c.hasFp := by funext i fp; simp only [hasFp, hbk]
  have hpr : c'.present = c.present := by funext i1 i2 fp; simp only [present, hhas]
  simp only [check, indices, fingerprint_congr hf, hc, hpr, hbk]

theorem Tab_modify_erase {G : Nat → Nat} {n : Nat} {c c' : Cuckoo} {i : Nat} (a : CBin) (hw : Tab G n c) (hi : i < c.cap)
    (hsame : Same c c') (hb : c'.buckets = c.buckets.set i ((c.bucket i).erase a)) (ha : a ∈ c.bucket i) :
    Tab G n c' ∧ ∀ f, tsum f c' + f a = tsum f c := by
  obtain ⟨hs', hc⟩ := modify_spec (bkt' := (c.bucket i).erase a) hw.ts hi hsame hb
    (by have := List.length_erase_of_mem ha; have := hw.ts.size i; omega)
    (fun bin hbin => hw.ts.pos i bin (List.mem_of_mem_erase hbin))
  have hc' : ∀ f, tsum f c' + f a = tsum f c := by
    intro f; have := hc f; have := bsum_erase f _ a ha; omega
  exact ⟨Tab_of_exchange hw hs' hsame.toX (some a) none hc' (fun _ h => nomatch h), hc'⟩

abbrev reCount (fp : Nat) (g : Nat → Nat) : CBin → CBin := fun x => if x.1 == fp then (x.1, g x.2) else x

theorem reCount_fst (fp : Nat) (g : Nat → Nat) (x : CBin) : (reCount fp g x).1 = x.1 := by
  unfold reCount; split <;> rfl

theorem reCount_self (g : Nat → Nat) (a : CBin) : reCount a.1 g a = (a.1, g a.2) := by
  simp [reCount]

theorem reCount_other {fp : Nat} (g : Nat → Nat) (x : CBin) (h : x.1 ≠ fp) : reCount fp g x = x := by
  simp [reCount, h]

theorem Tab_reCount {G : Nat → Nat} {n : Nat} {c c' : Cuckoo} {i : Nat} {a : CBin} (g : Nat → Nat)
    (hw : Tab G n c) (hi : i < c.cap) (hsame : Same c c')
    (hb : c'.buckets = c.buckets.set i ((c.bucket i).map (reCount a.1 g))) (ha : a ∈ c.bucket i)
    (hg : 1 ≤ g a.2) (hcount : c.counting = true) :
    Tab G n c' ∧ ∀ f, tsum f c' + f a = tsum f c + f (a.1, g a.2) := by
  obtain ⟨hs', hc⟩ := modify_spec (bkt' := (c.bucket i).map (reCount a.1 g)) hw.ts hi hsame hb
    (by rw [List.length_map]; exact hw.ts.size i)
    (by
      intro bin hbin
      obtain ⟨x, hx, rfl⟩ := List.mem_map.mp hbin
      rw [reCount_fst]; exact hw.ts.pos i x hx)
  have hc' : ∀ f, tsum f c' + f a = tsum f c + f (a.1, g a.2) := by
    intro f
    have h1 := hc f
    have h2 := bsum_map_one f (reCount a.1 g) (c.bucket i) a
      (Nat.le_trans (bsum_le_tsum _ c i) (hw.nodup a.1)) ha (reCount_other g)
    rw [reCount_self] at h2
    omega
  refine ⟨Tab_of_exchange hw hs' hsame.toX (some a) (some (a.1, g a.2)) hc' ?_, hc'⟩
  intro bin hbin
  cases hbin
  exact ⟨tsum_unique hw.nodup (isFp a.1) a (stored_of_bucket ha) (fun b hb => if_neg hb), hg,
    fun hf => nomatch hcount.symm.trans hf⟩

theorem exchange_frame {c c' : Cuckoo} {a : CBin} {a' : Option CBin}
    (hc : ∀ f, tsum f c' + f a = tsum f c + optW f a') (ha' : ∀ b, a' = some b → b.1 = a.1)
    (f : CBin → Nat) (hf : ∀ b, b.1 = a.1 → f b = 0) : tsum f c' = tsum f c := by
  have h := hc f
  rw [hf a rfl] at h
  cases a' with
  | none => exact h
  | some b => rw [optW, hf b (ha' b rfl)] at h; exact h

theorem exchange_cnt {c c' : Cuckoo} {a : CBin} {a' : Option CBin} (hn : ∀ g, tsum (isFp g) c ≤ 1)
    (hst : stored c a) (hc : ∀ f, tsum f c' + f a = tsum f c + optW f a') :
    tsum (cntW a.1) c' = optW (cntW a.1) a' ∧ tsum (cntW a.1) c = a.2 := by
  have h1 : tsum (cntW a.1) c = a.2 := by
    rw [tsum_unique hn (cntW a.1) a hst (by intro b hb; simp [cntW, hb])]; simp [cntW]
  have h2 := hc (cntW a.1)
  have h3 : cntW a.1 a = a.2 := by simp [cntW]
  omega

def AddPost (G : Nat → Nat) (n : Nat) (c : Cuckoo) (fp : Nat) (c' : Cuckoo) (err : Option Err) : Prop :=
  (err = none ∧ Tab G n c' ∧ SameX c c' ∧ (c'.cap = c.cap ∨ (c.auto = true ∧ c'.cap = c.cap * c.rate)) ∧
    (∀ f : CBin → Nat, (∀ b, b.1 = fp → f b = 0) → tsum f c' = tsum f c) ∧
    tsum (cntW fp) c' = (if c.counting then tsum (cntW fp) c + 1 else 1) ∧
    (¬ containsL G c fp → ∀ f : CBin → Nat, tsum f c' = tsum f c + f (fp, 1)) ∧
    (CountInv c → CountInv c')) ∨
  (err = some .cuckooFull ∧ c' = c)

/-- where the three ways `add` places a new bin (first fit, kick loop, expansion) meet -/
theorem addPost_of_gain {G : Nat → Nat} {n : Nat} {c c' : Cuckoo} {fp : Nat} (hw : Tab G n c) (habs : ¬ containsL G c fp)
    (hs' : TB G n c') (hx : SameX c c') (hcap : c'.cap = c.cap ∨ (c.auto = true ∧ c'.cap = c.cap * c.rate))
    (hc : ∀ f : CBin → Nat, tsum f c' = tsum f c + f (fp, 1)) (hci : CountInv c → CountInv c') :
    AddPost G n c fp c' none := by
  have h0 : ∀ f : CBin → Nat, (∀ b, b.1 ≠ fp → f b = 0) → tsum f c = 0 :=
    fun f hf => tsum_zero_of_absent hw.ts fp habs f hf
  refine Or.inl ⟨rfl, ?_, hx, hcap, ?_, ?_, fun _ => hc, hci⟩
  · refine Tab_of_exchange hw hs' hx none (some (fp, 1)) (fun f => hc f) ?_
    intro bin hbin
    simp only [Option.some.injEq] at hbin
    subst hbin
    exact ⟨h0 _ (by intro b hb; simp [isFp, hb]), Nat.le_refl 1, fun _ => rfl⟩
  · intro f hf; rw [hc, hf (fp, 1) rfl]; rfl
  · rw [hc, h0 (cntW fp) (by intro b hb; simp [cntW, hb])]
    simp [cntW]

theorem addPost_inc {G : Nat → Nat} {n : Nat} {c c' : Cuckoo} {i : Nat} {a : CBin} (hw : Tab G n c) (hi : i < c.cap)
    (hcon : containsL G c a.1) (hsame : Same c c')
    (hb : c'.buckets = c.buckets.set i ((c.bucket i).map (reCount a.1 (· + 1)))) (ha : a ∈ c.bucket i)
    (hcount : c.counting = true) (e1 : c'.count = c.count + 1) (e2 : c'.unique = c.unique) :
    AddPost G n c a.1 c' none := by
  obtain ⟨ht', hc'⟩ := Tab_reCount (· + 1) hw hi hsame hb ha (Nat.le_add_left 1 a.2) hcount
  obtain ⟨k1, k2⟩ := exchange_cnt (a' := some (a.1, a.2 + 1)) hw.nodup (stored_of_bucket ha) hc'
  refine Or.inl ⟨rfl, ht', hsame.toX, Or.inl hsame.cap,
    exchange_frame (a' := some (a.1, a.2 + 1)) hc' (fun b hb => by cases hb; rfl), ?_,
    fun hn => absurd hcon hn, fun hci => ?_⟩
  · rw [if_pos hcount, k1, k2]; simp only [optW, cntW, if_true]
  · refine CountInv_exchange (a' := some (a.1, a.2 + 1)) hci hc' hsame.counting ?_ (fun _ => ?_)
      (fun hf => nomatch hcount.symm.trans hf)
    · rw [e1]
      show c.count + 1 + (a.2 : Int) = c.count + ((a.2 + 1 : Nat) : Int)
      omega
    · rw [e2]; rfl

/-- no `0 < c.rate` here: a stored fingerprint means no insertion, hence no expansion -/
theorem add_present_spec {G : Nat → Nat} {n : Nat} {c : Cuckoo} (h : Nat) (o : List Nat) (hw : Tab G n c) {i : Nat}
    (hp : c.present (c.fingerprint h % c.cap) (G (c.fingerprint h) % c.cap) (c.fingerprint h) = some i) :
    AddPost G n c (c.fingerprint h) (add G c h o).1 (add G c h o).2.1 := by
  simp only [add, indices, hp]
  generalize c.fingerprint h = fp at hp ⊢
  obtain ⟨hi, hcon, a, ha, e⟩ := present_some_bin hw.ts hp
  subst e
  by_cases hcount : c.counting = true
  · rw [if_pos hcount]
    exact addPost_inc hw hi hcon ⟨rfl, rfl, rfl, rfl, rfl, rfl, rfl⟩ rfl ha hcount rfl rfl
  · have hcf : c.counting = false := by simpa using hcount
    have hst := stored_of_bucket ha
    rw [if_neg hcount]
    refine Or.inl ⟨rfl, hw, SameX.refl c, Or.inl rfl, fun _ _ => rfl, ?_, fun hn => absurd hcon hn, id⟩
    rw [if_neg hcount, tsum_unique hw.nodup (cntW a.1) a hst (by intro b hb; simp [cntW, hb])]
    simp [cntW, hw.plain hcf a hst]

theorem add_spec {G : Nat → Nat} {n : Nat} {c : Cuckoo} (h : Nat) (o : List Nat) (hw : Tab G n c) (hr : 0 < c.rate) :
    AddPost G n c (c.fingerprint h) (add G c h o).1 (add G c h o).2.1 := by
  cases hp : c.present (c.fingerprint h % c.cap) (G (c.fingerprint h) % c.cap) (c.fingerprint h) with
  | some i => exact add_present_spec h o hw hp
  | none =>
    simp only [add, indices, hp]
    generalize c.fingerprint h = fp at hp ⊢
    have habs := not_containsL_of_present hp
    have hspec := insertFp_spec (G := G) (fp, 1) o hw.ts
    simp only at hspec
    generalize insertFp G c (fp, 1) (fp % c.cap) (G fp % c.cap) o = r at hspec
    obtain ⟨c1, left, o1⟩ := r
    simp only at hspec
    rcases hspec with ⟨hl, hs1, hsame1, hc1, hci⟩ | ⟨hl, hc1⟩
    · subst hl
      exact addPost_of_gain hw habs hs1 hsame1.toX (Or.inl hsame1.cap) hc1 hci
    · subst hl; subst hc1
      simp only
      by_cases ha : c1.auto = true
      · simp only [ha, if_true]
        rcases expandLogic_spec (G := G) (some (fp, 1)) o1 hw.ts hr with
          ⟨he, hs2, hx2, hcap2, hc2, hci2⟩ | ⟨he, hc2⟩
        · rw [he]
          exact addPost_of_gain hw habs hs2 hx2 (Or.inr ⟨ha, hcap2⟩) hc2 (fun _ => hci2)
        · rw [he, hc2]; exact Or.inr ⟨rfl, rfl⟩
      · simp only [ha]
        exact Or.inr ⟨rfl, rfl⟩

def RemovePost (G : Nat → Nat) (n : Nat) (c : Cuckoo) (fp : Nat) (c' : Cuckoo) (ret : Bool) : Prop :=
  (ret = true ∧ Tab G n c' ∧ Same c c' ∧ containsL G c fp ∧
    (∀ f : CBin → Nat, (∀ b, b.1 = fp → f b = 0) → tsum f c' = tsum f c) ∧
    tsum (cntW fp) c' + 1 = tsum (cntW fp) c ∧
    (c.counting = false → ∀ f : CBin → Nat, tsum f c' + f (fp, 1) = tsum f c) ∧
    (CountInv c → CountInv c') ∧ c'.count = c.count - 1) ∨
  (ret = false ∧ c' = c ∧ ¬ containsL G c fp)

theorem removePost_erase {G : Nat → Nat} {n : Nat} {c c' : Cuckoo} {i : Nat} {a : CBin} (hw : Tab G n c)
    (hi : i < c.cap) (hcon : containsL G c a.1) (hsame : Same c c')
    (hb : c'.buckets = c.buckets.set i ((c.bucket i).erase a)) (ha : a ∈ c.bucket i) (ha2 : a.2 = 1)
    (e1 : c'.count = c.count - 1) (e2 : c'.unique = if c.counting then c.unique - 1 else c.unique) :
    RemovePost G n c a.1 c' true := by
  obtain ⟨ht', hc'⟩ := Tab_modify_erase a hw hi hsame hb ha
  have hc'' : ∀ f, tsum f c' + f a = tsum f c + optW f none := hc'
  obtain ⟨k1, k2⟩ := exchange_cnt hw.nodup (stored_of_bucket ha) hc''
  have ea : a = (a.1, 1) := Prod.ext rfl ha2
  refine Or.inl ⟨rfl, ht', hsame, hcon, exchange_frame hc'' (fun b hb => by cases hb), ?_, fun _ f => ?_,
    fun hci => ?_, e1⟩
  · rw [k1, k2, ha2]; rfl
  · rw [← ea]; exact hc' f
  · refine CountInv_exchange hci hc'' hsame.counting ?_ (fun hf => ?_) (fun hf => ?_)
    · rw [e1, ha2]
      show c.count - 1 + ((1 : Nat) : Int) = c.count + ((0 : Nat) : Int)
      omega
    · rw [e2, if_pos hf]
      show c.unique - 1 + 1 = c.unique + ((0 : Nat) : Int)
      omega
    · rw [e2, hf]; rfl

theorem removePost_dec {G : Nat → Nat} {n : Nat} {c c' : Cuckoo} {i : Nat} {a : CBin} (hw : Tab G n c)
    (hi : i < c.cap) (hcon : containsL G c a.1) (hsame : Same c c')
    (hb : c'.buckets = c.buckets.set i ((c.bucket i).map (reCount a.1 (· - 1)))) (ha : a ∈ c.bucket i)
    (hgt : 1 < a.2) (hcount : c.counting = true) (e1 : c'.count = c.count - 1) (e2 : c'.unique = c.unique) :
    RemovePost G n c a.1 c' true := by
  obtain ⟨ht', hc'⟩ := Tab_reCount (· - 1) hw hi hsame hb ha (Nat.le_sub_one_of_lt hgt) hcount
  obtain ⟨k1, k2⟩ := exchange_cnt (a' := some (a.1, a.2 - 1)) hw.nodup (stored_of_bucket ha) hc'
  refine Or.inl ⟨rfl, ht', hsame, hcon,
    exchange_frame (a' := some (a.1, a.2 - 1)) hc' (fun b hb => by cases hb; rfl), ?_,
    (fun hf => nomatch hcount.symm.trans hf), fun hci => ?_, e1⟩
  · rw [k1, k2]
    show (if a.1 = a.1 then a.2 - 1 else 0) + 1 = a.2
    rw [if_pos rfl, Nat.sub_add_cancel (Nat.le_of_lt hgt)]
  · refine CountInv_exchange (a' := some (a.1, a.2 - 1)) hci hc' hsame.counting ?_ (fun _ => ?_)
      (fun hf => nomatch hcount.symm.trans hf)
    · rw [e1]
      show c.count - 1 + (a.2 : Int) = c.count + ((a.2 - 1 : Nat) : Int)
      rw [Int.ofNat_sub (Nat.le_of_lt hgt)]
      omega
    · rw [e2]; rfl

theorem remove_spec {G : Nat → Nat} {n : Nat} {c : Cuckoo} (h : Nat) (hw : Tab G n c) :
    RemovePost G n c (c.fingerprint h) (remove G c h).1 (remove G c h).2 := by
  cases hp : c.present (c.fingerprint h % c.cap) (G (c.fingerprint h) % c.cap) (c.fingerprint h) with
  | none =>
    simp only [remove, indices, hp]
    exact Or.inr ⟨rfl, rfl, not_containsL_of_present hp⟩
  | some i =>
    simp only [remove, indices, hp]
    generalize c.fingerprint h = fp at hp ⊢
    obtain ⟨hi, hcon, bin0, hm0, e0⟩ := present_some_bin hw.ts hp
    by_cases hcount : c.counting = true
    · rw [if_pos hcount]
      cases hf : (c.bucket i).find? (·.1 == fp) with
      | none =>
        rw [List.find?_eq_none] at hf
        exact absurd (by simpa using e0) (hf bin0 hm0)
      | some a =>
        have ha1 : a.1 = fp := by simpa using List.find?_some hf
        have ha : a ∈ c.bucket i := List.mem_of_find?_eq_some hf
        have hapos := hw.cnt_pos a (stored_of_bucket ha)
        subst ha1
        simp only []
        by_cases hle : a.2 ≤ 1
        · rw [if_pos hle]
          exact removePost_erase hw hi hcon ⟨rfl, rfl, rfl, rfl, rfl, rfl, rfl⟩ rfl ha (by omega) rfl
            (by simp only [hcount, if_true])
        · rw [if_neg hle]
          exact removePost_dec hw hi hcon ⟨rfl, rfl, rfl, rfl, rfl, rfl, rfl⟩ rfl ha (by omega) hcount rfl rfl
    · have hcf : c.counting = false := by simpa using hcount
      rw [if_neg hcount]
      have hb0 : bin0 = (fp, 1) := Prod.ext e0 (hw.plain hcf bin0 (stored_of_bucket hm0))
      subst hb0
      exact removePost_erase (a := (fp, 1)) hw hi hcon ⟨rfl, rfl, rfl, rfl, rfl, rfl, rfl⟩ rfl hm0 rfl rfl
        (by simp only [hcf]; rfl)

def ExpandPost (G : Nat → Nat) (n : Nat) (c : Cuckoo) (c' : Cuckoo) (err : Option Err) : Prop :=
  (err = none ∧ Tab G n c' ∧ SameX c c' ∧ c'.cap = c.cap * c.rate ∧ ∀ f : CBin → Nat, tsum f c' = tsum f c) ∨
  (err = some .cuckooFull ∧ c' = c)

theorem expand_spec {G : Nat → Nat} {n : Nat} {c : Cuckoo} (o : List Nat) (hw : Tab G n c) (hr : 0 < c.rate) :
    ExpandPost G n c (expandLogic G c none o).1 (expandLogic G c none o).2.1 := by
  rcases expandLogic_spec (G := G) none o hw.ts hr with ⟨he, hs2, hx2, hcap2, hc2, _⟩ | ⟨he, hc2⟩
  · refine Or.inl ⟨he, Tab_of_exchange hw hs2 hx2 none none hc2 (fun _ h => nomatch h), hx2, hcap2, ?_⟩
    intro f; rw [hc2]; rfl
  · exact Or.inr ⟨he, hc2⟩

theorem add_countInv {G : Nat → Nat} {c : Cuckoo} (h : Nat) (o : List Nat) (hw : WF G c) (hc : CountInv c) :
    CountInv (add G c h o).1 := by
  rcases add_spec h o hw.toTab hw.rate_pos with ⟨_, _, _, _, _, _, _, hci⟩ | ⟨_, hsame⟩
  · exact hci hc
  · rw [hsame]; exact hc

theorem remove_countInv {G : Nat → Nat} {c : Cuckoo} (h : Nat) (hw : WF G c) (hc : CountInv c) :
    CountInv (remove G c h).1 := by
  rcases remove_spec h hw.toTab with ⟨_, _, _, _, _, _, _, hci, _⟩ | ⟨_, hsame, _⟩
  · exact hci hc
  · rw [hsame]; exact hc

/-- the plain filter raises `elements_added` only if the fingerprint was not there yet (`check` = 0) -/
theorem add_count_delta {G : Nat → Nat} {c : Cuckoo} (h : Nat) (o : List Nat) (hw : WF G c) (hc : CountInv c)
    (hok : (add G c h o).2.1 = none) :
    (add G c h o).1.count = c.count + (if c.counting then 1 else 1 - (check G c h : Int)) := by
  rcases add_spec h o hw.toTab hw.rate_pos with ⟨_, _, _, _, hoff, hcnt, _, hci⟩ | ⟨he, _⟩
  · -- both counters are sums over the table; split them into the key's fingerprint and the rest
    rw [(hci hc).1, hc.1, wCnt_split (c.fingerprint h) (add G c h o).1, wCnt_split (c.fingerprint h) c,
      hoff (offFp (c.fingerprint h)) (fun b hb => if_pos hb), hcnt, check_eq_cnt hw.toTab h]
    by_cases hcount : c.counting = true
    · rw [if_pos hcount, if_pos hcount]; omega
    · rw [if_neg hcount, if_neg hcount]; omega
  · rw [hok] at he; simp at he

theorem remove_count_delta {G : Nat → Nat} {c : Cuckoo} (h : Nat) (hw : WF G c) (_ : CountInv c)
    (hret : (remove G c h).2 = true) : (remove G c h).1.count = c.count - 1 := by
  rcases remove_spec h hw.toTab with ⟨_, _, _, _, _, _, _, _, hcount⟩ | ⟨hf, _⟩
  · exact hcount
  · rw [hret] at hf; cases hf

end PyProb.Cuckoo
