/-
  Layer A2 on the linear view: the generator `hashes()` terminates on a table in the linear view
  and yields the hash of every stored element exactly once (in the order of the table, starting
  behind the first empty slot).
-/
import PyProb.Lemmas.QFLin

namespace PyProb.QFLin
open PyProb PyProb.QF

section hashes
variable {s : QF} {n e m : Nat} {d r : Nat → Nat}

/-- `Afn`: the elements placed in front of distance `x`; `Bfn`: those whose home is in front of it.
    They are equal iff no element is pushed across `x` ("nothing is pending"). -/
def Afn (d : Nat → Nat) (m x : Nat) : Nat := cntP (fun i => decide (posF d i < x)) 0 m
def Bfn (d : Nat → Nat) (m x : Nat) : Nat := cntP (fun i => decide (d i < x)) 0 m

theorem B_le_m (d : Nat → Nat) (m x : Nat) : Bfn d m x ≤ m := cntP_le _ 0 m

theorem A_lt (d : Nat → Nat) (m x i : Nat) : i < Afn d m x ↔ i < m ∧ posF d i < x := by
  have h := cntP_thr (fun i => decide (posF d i < x)) m (fun i k h1 _ h3 => decide_eq_true
    (Nat.lt_of_le_of_lt (Nat.le_trans (Nat.le_add_right _ _) (p_mono d i k h1)) (of_decide_eq_true h3))) i
  rw [decide_eq_true_eq] at h
  exact h

theorem B_lt (L : Lin s n e m d r) (x i : Nat) : i < Bfn d m x ↔ i < m ∧ d i < x := by
  have h := cntP_thr (fun i => decide (d i < x)) m (fun i k h1 h2 h3 => decide_eq_true
    (Nat.lt_of_le_of_lt (d_mono L i k h1 h2) (of_decide_eq_true h3))) i
  rw [decide_eq_true_eq] at h
  exact h

theorem B_char (L : Lin s n e m d r) (x i : Nat) (hi : i < m) : i < Bfn d m x ↔ d i < x :=
  (B_lt L x i).trans (and_iff_right hi)

theorem A_le_B (L : Lin s n e m d r) (x : Nat) : Afn d m x ≤ Bfn d m x :=
  thr_le (A_lt d m x) (B_lt L x) fun i h => ⟨h.1, Nat.lt_of_le_of_lt (p_ge_d d i) h.2⟩

theorem A_zero (d : Nat → Nat) (m : Nat) : Afn d m 0 = 0 :=
  Nat.eq_zero_of_not_pos fun h => Nat.not_lt_zero _ ((A_lt d m 0 0).1 h).2

theorem B_zero (L : Lin s n e m d r) : Bfn d m 0 = 0 :=
  Nat.eq_zero_of_not_pos fun h => Nat.not_lt_zero _ ((B_lt L 0 0).1 h).2

theorem A_full (L : Lin s n e m d r) : Afn d m n = m :=
  thr_eq (A_lt d m n) (fun _ => Iff.rfl) fun i =>
    ⟨fun h => h.1, fun h => ⟨h, Nat.lt_of_lt_of_le (Nat.lt_add_of_pos_right (by decide)) (L.fit i h)⟩⟩

theorem cell_step (d : Nat → Nat) (m x a : Nat) (ha : a < m) (hp : posF d a = x) :
    Afn d m x = a ∧ Afn d m (x + 1) = a + 1 := by
  subst hp
  constructor
  · exact thr_eq (A_lt d m _) (fun _ => Iff.rfl) fun i =>
      ⟨fun h => (p_lt_iff d i a).1 h.2, fun h => ⟨Nat.lt_trans h ha, p_lt d i a h⟩⟩
  · refine thr_eq (A_lt d m _) (fun _ => Iff.rfl) fun i => ?_
    have h1 := p_lt_iff d a i
    omega

theorem nocell_step (L : Lin s n e m d r) (x : Nat) (h : ∀ i, i < m → posF d i ≠ x) :
    Afn d m (x + 1) = Afn d m x ∧ Bfn d m (x + 1) = Bfn d m x ∧ Afn d m x = Bfn d m x := by
  have hgap : ∀ i, i < m → ¬ (d i ≤ x ∧ x ≤ posF d i) := fun i hi hh => by
    obtain ⟨k, hk, hpk⟩ := pos_between L x i hi hh.1 hh.2
    exact h k (Nat.lt_of_le_of_lt hk hi) hpk
  have hcmp : ∀ i, i < m → ((posF d i < x + 1 ↔ posF d i < x) ∧ (d i < x + 1 ↔ d i < x) ∧
      (posF d i < x ↔ d i < x)) := fun i hi => by
    have := hgap i hi
    have := p_ge_d d i
    omega
  exact ⟨thr_eq (A_lt d m _) (A_lt d m _) fun i => and_congr_right fun hi => (hcmp i hi).1,
    thr_eq (B_lt L _) (B_lt L _) fun i => and_congr_right fun hi => (hcmp i hi).2.1,
    thr_eq (A_lt d m _) (B_lt L _) fun i => and_congr_right fun hi => (hcmp i hi).2.2⟩

theorem home_block (L : Lin s n e m d r) (x : Nat) (hx : x < n) :
    Bfn d m x ≤ Bfn d m (x + 1) ∧
    (bit s.occ (io n e x) = true ↔ Bfn d m x < Bfn d m (x + 1)) ∧
    (∀ i, Bfn d m x ≤ i → i < Bfn d m (x + 1) → d i = x ∧ contF d i = decide (i ≠ Bfn d m x)) := by
  have hblock : ∀ i, (Bfn d m x ≤ i ∧ i < Bfn d m (x + 1)) ↔ (i < m ∧ d i = x) := fun i => by
    rw [← Nat.not_lt, B_lt L x i, B_lt L (x + 1) i]
    omega
  refine ⟨thr_le (B_lt L x) (B_lt L (x + 1)) fun i h => ⟨h.1, Nat.lt_succ_of_lt h.2⟩, ?_, ?_⟩
  · rw [L.occ x hx]
    constructor
    · rintro ⟨i, hi⟩
      have := (hblock i).2 hi
      exact Nat.lt_of_le_of_lt this.1 this.2
    · exact fun hlt => ⟨_, (hblock _).1 ⟨Nat.le_refl _, hlt⟩⟩
  · intro i h1 h2
    have hi := ((hblock i).1 ⟨h1, h2⟩).2
    refine ⟨hi, ?_⟩
    rw [Bool.eq_iff_iff, contF_iff, decide_eq_true_eq]
    -- the element in front of `i` has home `x` too, unless `i` is the first of the block
    constructor
    · rintro ⟨h0, hd⟩ heq
      have hlt := ((B_lt L x (i - 1)).1 (Nat.lt_of_lt_of_eq (Nat.sub_one_lt h0) heq)).2
      rw [← hd, hi] at hlt
      exact Nat.lt_irrefl x hlt
    · intro hne
      have hlt := Nat.lt_of_le_of_ne h1 (Ne.symm hne)
      have hp := (hblock (i - 1)).1 ⟨Nat.le_sub_one_of_lt hlt, Nat.lt_of_le_of_lt (Nat.sub_le i 1) h2⟩
      exact ⟨Nat.ne_of_gt (Nat.lt_of_le_of_lt (Nat.zero_le _) hlt), hi.trans hp.2.symm⟩

/-- the `queue` of `hashes()`: the slots of the homes of the run starts among the elements
    `a, …, a + len - 1` -/
def Qf (n e : Nat) (d : Nat → Nat) : Nat → Nat → List Nat
  | _, 0 => []
  | a, len + 1 => if contF d a then Qf n e d (a + 1) len else io n e (d a) :: Qf n e d (a + 1) len

theorem Qf_append (n e : Nat) (d : Nat → Nat) (a l1 l2 : Nat) :
    Qf n e d a (l1 + l2) = Qf n e d a l1 ++ Qf n e d (a + l1) l2 := by
  induction l1 generalizing a with
  | zero => rw [Nat.zero_add, Nat.add_zero]; rfl
  | succ l1 ih =>
      rw [Nat.add_right_comm, Qf, Qf, ih (a + 1), Nat.add_assoc a 1 l1, Nat.add_comm 1 l1]
      split
      · rfl
      · rfl

theorem Qf_cont (n e : Nat) (d : Nat → Nat) (a len : Nat) (h : ∀ i, a ≤ i → i < a + len → contF d i = true) :
    Qf n e d a len = [] := by
  induction len generalizing a with
  | zero => rfl
  | succ len ih =>
      rw [Qf, if_pos (h a (Nat.le_refl _) (by omega))]
      exact ih (a + 1) (fun i h1 h2 => h i (by omega) (by omega))

theorem Qf_split (n e : Nat) (d : Nat → Nat) {a b c : Nat} (h1 : a ≤ b) (h2 : b ≤ c) :
    Qf n e d a (c - a) = Qf n e d a (b - a) ++ Qf n e d b (c - b) := by
  obtain ⟨p, rfl⟩ := Nat.exists_eq_add_of_le h1
  obtain ⟨q, rfl⟩ := Nat.exists_eq_add_of_le h2
  rw [@Nat.add_sub_cancel_left (a + p) q, @Nat.add_sub_cancel_left a p, Nat.add_assoc,
    Nat.add_sub_cancel_left, Qf_append]

theorem Qf_block (L : Lin s n e m d r) (x : Nat) (hx : x < n) :
    Qf n e d (Bfn d m x) (Bfn d m (x + 1) - Bfn d m x) =
      if bit s.occ (io n e x) = true then [io n e x] else [] := by
  obtain ⟨hle, hocc, hblock⟩ := home_block L x hx
  by_cases ho : bit s.occ (io n e x) = true
  · obtain ⟨l, hl⟩ := Nat.exists_eq_add_of_lt (hocc.1 ho)
    have hb := hblock _ (Nat.le_refl _) (hocc.1 ho)
    -- the first of them is a run start, the others are continuations
    rw [if_pos ho, hl, Nat.add_assoc, Nat.add_sub_cancel_left, Qf, hb.1, if_neg, Qf_cont]
    · intro j h1 h2
      rw [(hblock j (Nat.le_of_lt h1) (by omega)).2]
      exact decide_eq_true (Nat.ne_of_gt h1)
    · rw [hb.2, decide_eq_false fun h => h rfl]
      exact Bool.false_ne_true
  · rw [if_neg ho, Nat.le_antisymm (Nat.le_of_not_lt fun h => ho (hocc.2 h)) hle, Nat.sub_self]
    rfl

theorem Qf_push (L : Lin s n e m d r) (x : Nat) (hx : x < n) (a : Nat) (ha : a < m) (hp : posF d a = x) :
    a < Bfn d m (x + 1) ∧
    (if bit s.occ (io n e x) = true then Qf n e d a (Bfn d m x - a) ++ [io n e x]
      else Qf n e d a (Bfn d m x - a)) = Qf n e d a (Bfn d m (x + 1) - a) := by
  have hAB := A_le_B L x
  rw [(cell_step d m x a ha hp).1] at hAB
  refine ⟨(B_lt L _ a).2 ⟨ha, hp ▸ Nat.lt_succ_of_le (p_ge_d d a)⟩, ?_⟩
  rw [Qf_split n e d hAB (home_block L x hx).1, Qf_block L x hx]
  split
  · rfl
  · rw [List.append_nil]

def hashF (s : QF) (n e : Nat) (d r : Nat → Nat) (i : Nat) : Nat := io n e (d i) * 2 ^ s.r + r i

/-- the slot of element `a`: its hash is yielded; `cur_quot` becomes (or stays) its quotient -/
theorem hashesLoop_cell (L : Lin s n e m d r) (a : Nat) (ha : a < m) (i : Nat)
    (hi : i % n = io n e (posF d a)) (k cur : Nat) (acc : List Nat)
    (hcur : contF d a = true → cur = io n e (d a)) :
    hashesLoop s (k + 1) i (Qf n e d a (Bfn d m (posF d a) - a)) cur acc =
      hashesLoop s k (i + 1) (Qf n e d (a + 1) (Bfn d m (posF d a + 1) - (a + 1))) (io n e (d a))
        (hashF s n e d r a :: acc) := by
  have hidx : i % s.size = io n e (posF d a) := by rw [L.size]; exact hi
  obtain ⟨haB, hq⟩ := Qf_push L _ (pos_lt L a ha) a ha rfl
  have hB : Bfn d m (posF d a + 1) - a = (Bfn d m (posF d a + 1) - (a + 1)) + 1 :=
    (Nat.succ_pred_eq_of_pos (Nat.sub_pos_of_lt haB)).symm
  have hne := isEmpty_cell L a ha
  have hrs := isRunStart_cell L a ha
  rw [hB, Qf] at hq
  cases hc : contF d a
  · -- a run start: its quotient is popped from the queue
    rw [hc] at hq hrs
    simp only [hashesLoop, hidx, hne, hrs, hq, L.rem a ha, hashF, Bool.false_eq_true, if_false, if_true,
      Bool.not_false]
  · -- a continuation: the quotient is `cur_quot`
    rw [hc] at hq hrs
    simp only [hashesLoop, hidx, hne, hrs, hq, L.rem a ha, hashF, hcur hc, Bool.false_eq_true, if_false,
      if_true, Bool.not_true]

/-- `cur_quot` is the quotient of the run that is being continued -/
def CurOK (n e : Nat) (d : Nat → Nat) (m x cur : Nat) : Prop :=
  Afn d m x < m → contF d (Afn d m x) = true → cur = io n e (d (Afn d m x))

/-- where nothing is pending the next element starts a run, so `cur_quot` is irrelevant -/
theorem curOK_clean (L : Lin s n e m d r) (x cur : Nat) (h : Afn d m x = Bfn d m x) :
    CurOK n e d m x cur := by
  intro ha hc
  obtain ⟨h0, hd⟩ := (contF_iff d _).1 hc
  -- the element in front has the same home and is placed in front of `x`
  have h1 := ((A_lt d m x _).1 (Nat.sub_one_lt h0)).2
  have h2 := (B_lt L x _).2 ⟨ha, Nat.lt_of_le_of_lt (hd ▸ p_ge_d d _) h1⟩
  exact absurd (Nat.lt_of_lt_of_eq h2 h.symm) (Nat.lt_irrefl _)

theorem hashes_step (L : Lin s n e m d r) (x : Nat) (hx : x < n) (i : Nat) (hi : i % n = io n e x)
    (k cur : Nat) (acc : List Nat) (hcur : CurOK n e d m x cur) :
    ∃ cur' c, CurOK n e d m (x + 1) cur' ∧ Afn d m (x + 1) = Afn d m x + c ∧
      hashesLoop s (k + 1) i (Qf n e d (Afn d m x) (Bfn d m x - Afn d m x)) cur acc =
      hashesLoop s k (i + 1) (Qf n e d (Afn d m (x + 1)) (Bfn d m (x + 1) - Afn d m (x + 1))) cur'
        (((List.range' (Afn d m x) c).map (hashF s n e d r)).reverse ++ acc) := by
  by_cases hcell : ∃ a, a < m ∧ posF d a = x
  · obtain ⟨a, ha, rfl⟩ := hcell
    obtain ⟨hA, hA1⟩ := cell_step d m _ a ha rfl
    unfold CurOK at hcur ⊢
    rw [hA] at hcur
    rw [hA, hA1]
    refine ⟨io n e (d a), 1, fun _ hc => ?_, rfl, hashesLoop_cell L a ha i hi k cur acc (hcur ha)⟩
    rw [((contF_iff d _).1 hc).2, Nat.add_sub_cancel]
  · have hno : ∀ i, i < m → posF d i ≠ x := fun i hi hp => hcell ⟨i, hi, hp⟩
    obtain ⟨h1, h2, h3⟩ := nocell_step L x hno
    refine ⟨cur, 0, curOK_clean L (x + 1) cur (by rw [h1, h2, h3]), h1, ?_⟩
    rw [h1, h2, h3, Nat.sub_self]
    have hidx : i % s.size = io n e x := by rw [L.size]; exact hi
    simp only [hashesLoop, hidx, isEmpty_nocell L x hx hno, if_true, Qf, List.isEmpty_nil, List.range'_zero,
      List.map_nil, List.reverse_nil, List.nil_append]

theorem io_add (n e x i len : Nat) (hi : i % n = io n e x) : (i + len) % n = io n e (x + len) := by
  simp only [io] at *
  rw [Nat.add_mod, hi, ← Nat.add_mod, Nat.add_assoc]

/-- the slots from distance `x` up to `y`: the hashes of the elements placed there are yielded in
    order -/
theorem hashes_walk (L : Lin s n e m d r) : ∀ len x y f i k cur acc, x + len = y → y ≤ n → f = len + k →
    i % n = io n e x → CurOK n e d m x cur →
    ∃ cur' c, Afn d m y = Afn d m x + c ∧
      hashesLoop s f i (Qf n e d (Afn d m x) (Bfn d m x - Afn d m x)) cur acc =
      hashesLoop s k (i + len) (Qf n e d (Afn d m y) (Bfn d m y - Afn d m y)) cur'
        (((List.range' (Afn d m x) c).map (hashF s n e d r)).reverse ++ acc) := by
  intro len
  induction len with
  | zero =>
      intro x y f i k cur acc hy _ hf _ _
      subst hy hf
      exact ⟨cur, 0, rfl, by rw [Nat.zero_add]; rfl⟩
  | succ len ih =>
      intro x y f i k cur acc hy hn hf hi hc
      subst hy hf
      obtain ⟨cur1, c1, hc1, hA1, h1⟩ := hashes_step L x (by omega) i hi (len + k) cur acc hc
      obtain ⟨cur2, c2, hA2, h2⟩ := ih (x + 1) _ _ (i + 1) k cur1 _ rfl (by omega) rfl
        (io_add n e x i 1 hi) hc1
      rw [Nat.add_assoc x 1 len, Nat.add_comm 1 len] at hA2 h2
      rw [Nat.add_assoc i 1 len, Nat.add_comm 1 len] at h2
      refine ⟨cur2, c1 + c2, by rw [hA2, hA1, Nat.add_assoc], ?_⟩
      rw [Nat.add_right_comm, h1, h2, hA1, ← List.range'_append_1, List.map_append, List.reverse_append,
        List.append_assoc]

theorem firstEmpty_spec (hs : s.size = n) (j : Nat) (hj : j < n) (hje : s.isEmpty j = true) :
    ∀ fuel i, i ≤ j → j - i < fuel →
      ∃ e0, hashesFirstEmpty s fuel i = .ok e0 ∧ e0 ≤ j ∧ s.isEmpty e0 = true := by
  intro fuel
  induction fuel with
  | zero => exact fun i _ h => absurd h (Nat.not_lt_zero _)
  | succ fuel ih =>
      intro i hij hf
      rw [hashesFirstEmpty, hs, if_neg (Nat.not_le_of_lt (Nat.lt_of_le_of_lt hij hj))]
      by_cases he : s.isEmpty i = true
      · rw [if_pos he]; exact ⟨i, rfl, hij, he⟩
      · rw [if_neg he]
        have hlt : i < j := Nat.lt_of_le_of_ne hij fun h => he (h ▸ hje)
        exact ih (i + 1) hlt (by omega)

/-- **Layer A2 on the linear view**: `get_hashes` terminates and lists the hash of every element
    exactly once -/
theorem getHashes_lin (L : Lin s n e m d r) :
    ∃ l, s.getHashes = .ok l ∧ l.Perm ((List.range m).map (hashF s n e d r)) := by
  have hn0 : 0 < n := by have := L.n2; omega
  -- slot `e` is empty, so the search for the first empty slot succeeds
  have hemp : s.isEmpty (io n e (n - 1)) = true :=
    isEmpty_nocell L (n - 1) (by omega) fun i hi => by have := L.fit i hi; omega
  have hio : io n e (n - 1) < n := Nat.mod_lt _ hn0
  obtain ⟨e0, he0, he0le, he0emp⟩ := firstEmpty_spec L.size (io n e (n - 1)) hio hemp
    (n + 1) 0 (Nat.zero_le _) (by omega)
  have he0n : e0 < n := Nat.lt_of_le_of_lt he0le hio
  obtain ⟨o0, ho0n, ho0⟩ := io_surj n e e0 L.he he0n
  -- nothing is pending at the first empty slot, nor at the two ends of the linear view
  have hclean : Afn d m o0 = Bfn d m o0 := (nocell_step L o0 fun i hi hp => by
    have := isEmpty_cell L i hi
    rw [hp, ho0, he0emp] at this
    cases this).2.2
  have hA0 := A_zero d m
  have hAn := A_full L
  have hBn : Bfn d m n = m := Nat.le_antisymm (B_le_m d m n) (Nat.le_trans (Nat.le_of_eq hAn.symm) (A_le_B L n))
  -- from the first empty slot to the end of the linear view, then from its start to that slot
  have hle := Nat.le_of_lt ho0n
  have hi0 : e0 % n = io n e o0 := by rw [Nat.mod_eq_of_lt he0n, ho0]
  obtain ⟨cur1, c1, hc1, hw1⟩ := hashes_walk L (n - o0) o0 n n e0 o0 0 [] (Nat.add_sub_of_le hle)
    (Nat.le_refl n) (Nat.sub_add_cancel hle).symm hi0 (curOK_clean L o0 0 hclean)
  have hi1 := io_add n e o0 e0 (n - o0) hi0
  rw [Nat.add_sub_of_le hle, io, Nat.add_mod_right] at hi1
  obtain ⟨cur2, c2, hc2, hw2⟩ := hashes_walk L o0 0 o0 o0 (e0 + (n - o0)) 0 cur1
    (((List.range' (Afn d m o0) c1).map (hashF s n e d r)).reverse ++ []) (Nat.zero_add o0) hle rfl hi1
    (curOK_clean L 0 cur1 (hA0.trans (B_zero L).symm))
  rw [hAn, hBn, ← hclean, Nat.sub_self, Nat.sub_self] at hw1
  rw [hA0, B_zero L] at hw2
  rw [hA0, Nat.zero_add] at hc2
  rw [hAn, hc2] at hc1
  have hstart : s.getHashes = hashesLoop s n e0 [] 0 [] := by simp only [getHashes, L.size, he0]
  refine ⟨_, hstart.trans (hw1.trans hw2), ?_⟩
  · simp only [List.append_nil, List.reverse_append, List.reverse_reverse]
    rw [hc2, List.range_eq_range', hc1, ← List.range'_append_1, List.map_append, Nat.zero_add]
    exact List.perm_append_comm

end hashes
end PyProb.QFLin
