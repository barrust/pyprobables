/-
  Lemmas on the export formats, cuckoo family: closed forms of `struct.pack` for the layouts
  extracted from the source (`Generated/Repo.lean`), the export with its per-bucket bytes named,
  bucket parsing.
-/
import PyProb.Lemmas.Codec
import PyProb.Model.Cuckoo

namespace PyProb

theorem cuckooFooter_pack (a b : Int) : Gen.cuckooFooter.pack [a, b] =
    if a < 0 ∨ a > 4294967295 then .error .structError
    else if b < 0 ∨ b > 4294967295 then .error .structError
    else .ok (leBytesInt 4 a ++ leBytesInt 4 b) :=
  pack_eq_packFlat Gen.cuckooFooter rfl _

theorem cuckooFooter_size : Gen.cuckooFooter.size = 8 := by decide

def binBytes (counting : Bool) (bin : CBin) : Bytes :=
  if counting then leBytes 4 bin.1 ++ leBytes 4 bin.2 else leBytes 4 bin.1

def cuckooW (counting : Bool) : Nat := if counting then 8 else 4

/-- a zero fingerprint reads back as an empty slot, and the plain class stores no count (the loader puts 1) -/
def BinOK (counting : Bool) (bin : CBin) : Prop :=
  0 < bin.1 ∧ bin.1 < 2 ^ 32 ∧ bin.2 < 2 ^ 32 ∧ (counting = false → bin.2 = 1)

instance (counting : Bool) (bin : CBin) : Decidable (BinOK counting bin) := by
  unfold BinOK; infer_instance

theorem binBytes_length (counting : Bool) (bin : CBin) : (binBytes counting bin).length = cuckooW counting := by
  unfold binBytes cuckooW; cases counting <;> simp

theorem ofLE_replicate_zero (n : Nat) : ofLE (List.replicate n 0) = 0 := by
  induction n with
  | zero => rfl
  | succ n ih => simp [List.replicate_succ, ofLE, ih]

theorem parseBucket_zeros (counting : Bool) (z : Nat) :
    Cuckoo.parseBucket counting z (List.replicate (z * cuckooW counting) 0) = [] := by
  induction z with
  | zero => rfl
  | succ z ih =>
      have hsplit : List.replicate ((z + 1) * cuckooW counting) 0
          = List.replicate (cuckooW counting) 0 ++ List.replicate (z * cuckooW counting) 0 := by
        rw [List.replicate_append_replicate]; congr 1; rw [Nat.succ_mul]; omega
      simp only [Cuckoo.parseBucket]
      have h4 : List.take 4 (List.replicate ((z + 1) * cuckooW counting) 0) = List.replicate 4 0 := by
        rw [List.take_replicate]; congr 1
        have : 4 ≤ cuckooW counting := by unfold cuckooW; cases counting <;> simp
        rw [Nat.succ_mul]; omega
      rw [h4, ofLE_replicate_zero]
      simp only [Nat.lt_irrefl, if_false]
      have hd : List.drop (if counting = true then 8 else 4) (List.replicate ((z + 1) * cuckooW counting) 0)
          = List.replicate (z * cuckooW counting) 0 := by
        rw [hsplit]; exact List.drop_left' (by simp [cuckooW])
      rw [hd, ih]

theorem parseBucket_bins (counting : Bool) (bins : List CBin) (z : Nat)
    (h : ∀ bin ∈ bins, BinOK counting bin) :
    Cuckoo.parseBucket counting (bins.length + z)
      (bins.flatMap (binBytes counting) ++ List.replicate (z * cuckooW counting) 0) = bins := by
  induction bins with
  | nil => simpa using parseBucket_zeros counting z
  | cons bin bins ih =>
      obtain ⟨h0, h1, h2, h3⟩ := h bin (by simp)
      have ih := ih (fun x hx => h x (List.mem_cons_of_mem _ hx))
      have hlen : bins.length + 1 + z = (bins.length + z) + 1 := by omega
      simp only [List.length_cons, hlen, Cuckoo.parseBucket, List.flatMap_cons, List.append_assoc]
      have hfp : ofLE (List.take 4 (binBytes counting bin ++
          (bins.flatMap (binBytes counting) ++ List.replicate (z * cuckooW counting) 0))) = bin.1 := by
        unfold binBytes
        cases counting <;> simp only [Bool.false_eq_true, if_false, if_true, List.append_assoc]
          <;> rw [List.take_left' (leBytes_length _ _), ofLE_leBytes_of_lt (by simpa using h1)]
      have hdrop : List.drop (if counting = true then 8 else 4) (binBytes counting bin ++
          (bins.flatMap (binBytes counting) ++ List.replicate (z * cuckooW counting) 0))
          = bins.flatMap (binBytes counting) ++ List.replicate (z * cuckooW counting) 0 :=
        List.drop_left' (by rw [binBytes_length]; rfl)
      have hcnt : (if counting = true then ofLE (List.take 4 (List.drop 4 (binBytes counting bin ++
          (bins.flatMap (binBytes counting) ++ List.replicate (z * cuckooW counting) 0)))) else 1) = bin.2 := by
        cases counting
        · simp [h3 rfl]
        · simp only [if_true, binBytes, List.append_assoc]
          rw [List.drop_left' (leBytes_length _ _), List.take_left' (leBytes_length _ _),
            ofLE_leBytes_of_lt (by simpa using h2)]
      rw [hfp, hcnt, hdrop, ih, if_pos h0]

def bucketBytes (counting : Bool) (b : Nat) (bkt : List CBin) : Bytes :=
  bkt.flatMap (binBytes counting) ++ List.replicate ((b - bkt.length) * cuckooW counting) 0

theorem bucketBytes_length (counting : Bool) (b : Nat) (bkt : List CBin) (h : bkt.length ≤ b) :
    (bucketBytes counting b bkt).length = cuckooW counting * b := by
  have : (bkt.flatMap (binBytes counting)).length = bkt.length * cuckooW counting := by
    rw [flatMap_length_const _ _ (binBytes_length counting), Nat.mul_comm]
  simp only [bucketBytes, List.length_append, List.length_replicate, this]
  rw [← Nat.add_mul, Nat.mul_comm]; congr 1; omega

theorem parseBuckets_body (counting : Bool) (b : Nat) (buckets : List (List CBin)) (suf : Bytes)
    (h : ∀ bkt ∈ buckets, bkt.length ≤ b ∧ ∀ bin ∈ bkt, BinOK counting bin) :
    Cuckoo.parseBuckets counting b buckets.length (buckets.flatMap (bucketBytes counting b) ++ suf) = buckets := by
  induction buckets with
  | nil => rfl
  | cons bkt rest ih =>
      obtain ⟨hl, hb⟩ := h bkt (by simp)
      have ih := ih (fun x hx => h x (List.mem_cons_of_mem _ hx))
      simp only [List.length_cons, Cuckoo.parseBuckets, List.flatMap_cons, List.append_assoc]
      have hlen := bucketBytes_length counting b bkt hl
      unfold cuckooW at hlen
      rw [List.take_left' hlen, List.drop_left' hlen, ih]
      congr 1
      have := parseBucket_bins counting bkt (b - bkt.length) hb
      rw [show bkt.length + (b - bkt.length) = b by omega] at this
      exact this

/-- `export` with the per-bucket bytes named.  Holds by `rfl` because `bucketBytes` spells out the
    local `cell`, `width` and the function under `flatMap` in `body` of the model's `exportBytes`: the
    two texts have to be kept in step. -/
theorem Cuckoo.exportBytes_eq (c : Cuckoo) : c.exportBytes =
    if c.buckets.any (fun bkt => bkt.any fun bin => bin.1 ≥ 2 ^ 32 ∨ bin.2 ≥ 2 ^ 32) then .error .overflow
    else
      match Gen.cuckooFooter.pack [c.b, c.maxSwaps] with
      | .ok f => .ok (c.buckets.flatMap (bucketBytes c.counting c.b) ++ f)
      | .error e => .error e := rfl

theorem body_length (counting : Bool) (b : Nat) (buckets : List (List CBin))
    (h : ∀ bkt ∈ buckets, bkt.length ≤ b) :
    (buckets.flatMap (bucketBytes counting b)).length = buckets.length * (cuckooW counting * b) := by
  induction buckets with
  | nil => simp
  | cons bkt rest ih =>
      simp only [List.flatMap_cons, List.length_append, List.length_cons]
      rw [bucketBytes_length _ _ _ (h bkt (by simp)), ih (fun x hx => h x (List.mem_cons_of_mem _ hx)), Nat.succ_mul]
      omega

end PyProb
