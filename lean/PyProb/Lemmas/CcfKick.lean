/-
  C08, counting-cuckoo half, with kicks and automatic expansions (countingcuckoo.py
  `_insert_fingerprint_alt`, `_expand_logic`).  The kick loop, the re-insertion and the expansion conserve
  every weighted sum over the table (`CuckooCore`), and the stored count `countOf` of a fingerprint is such
  a sum (`countOf_eq_tsum`): `ccf_step_any` is `Cuckoo.add_spec` / `Cuckoo.remove_spec` read through that
  bridge.  Core Lean only.
-/
import PyProb.Lemmas.CcfCount
namespace PyProb.Ccf
open PyProb Cuckoo

theorem SameParams.cfg {c c' : Cuckoo} (h : SameParams c c') : SameCfg c c' :=
  ⟨h.1, h.2.2.1, h.2.2.2.1, h.2.2.2.2.1, h.2.2.2.2.2.1, h.2.2.2.2.2.2⟩

theorem SameCfg.trans {a b c : Cuckoo} (h1 : SameCfg a b) (h2 : SameCfg b c) : SameCfg a c :=
  (sameX_iff a c).mp (((sameX_iff a b).mpr h1).trans ((sameX_iff b c).mpr h2))

theorem ccf_step_any {G : Nat → Nat} {c : Cuckoo} (inv : Inv G c) (hr : 0 < c.rate) (oracle : List Nat)
    (op : Op) (he : stepErr G (c, oracle) op = none) :
    Inv G (step G (c, oracle) op).1 ∧ SameCfg c (step G (c, oracle) op).1 ∧
    ∀ fp, countOf (step G (c, oracle) op).1 fp = tally c.fingerprint fp (countOf c fp) op := by
  cases op with
  | add h =>
    have hs := add_spec h oracle inv.tab hr
    rw [show (add G c h oracle).2.1 = none from he] at hs
    obtain ⟨hi, hs, h1, h2⟩ := ccf_of_addPost inv hs
    exact ⟨hi, hs, countOf_ite (· + 1) h1 h2⟩
  | remove h =>
    obtain ⟨hi, hs, h1, h2⟩ := ccf_remove_any (c' := (remove G c h).1) (ret := (remove G c h).2) inv h rfl
    exact ⟨hi, hs.cfg, countOf_ite (· - 1) h1 h2⟩

theorem ccf_run_any {G : Nat → Nat} {c : Cuckoo} (inv : Inv G c) (hr : 0 < c.rate) (oracle : List Nat)
    (ops : List Op) (hok : AllAddsOk G (c, oracle) ops) :
    Inv G (run G c oracle ops).1 ∧ SameCfg c (run G c oracle ops).1 ∧
    ∀ fp, countOf (run G c oracle ops).1 fp = ops.foldl (tally c.fingerprint fp) (countOf c fp) := by
  induction ops generalizing c oracle with
  | nil => exact ⟨inv, (sameX_iff c c).mp (SameX.refl c), fun _ => rfl⟩
  | cons op ops ih =>
    obtain ⟨he, hok'⟩ := hok
    obtain ⟨hi, hs, hc⟩ := ccf_step_any inv hr oracle op he
    obtain ⟨ri, rs, rc⟩ := ih hi (hs.2.2.2.1 ▸ hr) (step G (c, oracle) op).2 hok'
    have hrun : run G c oracle (op :: ops) =
        run G (step G (c, oracle) op).1 (step G (c, oracle) op).2 ops := rfl
    rw [hrun]
    refine ⟨ri, hs.trans rs, fun fp => ?_⟩
    rw [rc fp, funext (fingerprint_congr hs.2.2.2.2.2), hc fp, List.foldl_cons]

section Tests

private def G1 : Nat → Nat := fun fp => fp + 1

/-- 3 one-slot buckets: fingerprints 3 and 6 both want buckets 0/1, fingerprint 4 wants 1/2.  The
    third add finds both its buckets full and succeeds by two evictions (3 moves to bucket 1,
    4 moves to bucket 2), consuming three draws. -/
private def opsK : List Op := [.add 3, .add 4, .add 6, .add 3, .remove 4]

example : ¬ NoKick G1 (Cuckoo.new true 3 1 5 2 false 8, [0, 0, 0, 7]) opsK := by decide +kernel
example : AllAddsOk G1 (Cuckoo.new true 3 1 5 2 false 8, [0, 0, 0, 7]) opsK := by decide +kernel
example : (run G1 (Cuckoo.new true 3 1 5 2 false 8) [0, 0, 0, 7] (opsK.take 3)) =
    (⟨true, 3, 1, 5, 2, false, 8, [[(6, 1)], [(3, 1)], [(4, 1)]], 3, 3⟩, [7]) := by decide +kernel
example : (run G1 (Cuckoo.new true 3 1 5 2 false 8) [0, 0, 0, 7] opsK).1.buckets =
    [[(6, 1)], [(3, 2)], []] := by decide +kernel
example := ccf_run_any (inv_new G1 3 1 5 2 false 8 (by decide)) (by decide) [0, 0, 0, 7] opsK (by decide)

/-- one bucket of one slot: the add of a second fingerprint cannot be placed by kicking and the table doubles -/
example : AllAddsOk G1 (Cuckoo.new true 1 1 2 2 true 8, [0, 0, 0]) [.add 1, .add 1, .add 2] ∧
    (run G1 (Cuckoo.new true 1 1 2 2 true 8) [0, 0, 0] [.add 1, .add 1, .add 2]).1.cap = 2 ∧
    (run G1 (Cuckoo.new true 1 1 2 2 true 8) [0, 0, 0] [.add 1, .add 1, .add 2]).1.buckets =
      [[(2, 1)], [(1, 2)]] := by decide +kernel

/-- without automatic expansion the same add reports CuckooFilterFullError -/
example : ¬ AllAddsOk G1 (Cuckoo.new true 1 1 2 2 false 8, [0, 0, 0]) [.add 1, .add 1, .add 2] := by decide +kernel

end Tests

end PyProb.Ccf
