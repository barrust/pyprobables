/-
  Unconditional facts about the quotient-filter model: which errors the loops can produce,
  preservation of the table shape (quotient, array lengths, auto flag) and of the element counter
  by the write paths.  The file also cuts `_add` and `add_alt` where the later files enter them:
  `addCore` is `_add` after the capacity test (`addQR_eq`), `addTail` is `add_alt` after the
  resize test (`addAlt_succ`).
-/
import PyProb.Model.QF

namespace PyProb.QF

def DivOnly {α : Type} (r : R α) : Prop := ∀ e, r = .error e → e = .diverged

theorem DivOnly.ok {α : Type} (a : α) : DivOnly (.ok a : R α) := fun _ h => nomatch h

theorem DivOnly.diverged {α : Type} : DivOnly (.error .diverged : R α) := fun _ h => by cases h; rfl

theorem DivOnly.ite {α : Type} {c : Prop} [Decidable c] {a b : R α} (ha : DivOnly a) (hb : DivOnly b) :
    DivOnly (if c then a else b) := by
  split
  · exact ha
  · exact hb

theorem DivOnly.pass {α β : Type} {r : R α} {e : Err} (hr : DivOnly r) (he : r = .error e) :
    DivOnly (.error e : R β) := fun _ h => by cases h; exact hr e he

theorem startBack_err (s : QF) (quot fuel j c : Nat) : DivOnly (startBack s quot fuel j c) := by
  induction fuel generalizing j c with
  | zero => exact .diverged
  | succ f ih => exact .ite (ih _ _) (.ok _)

theorem startFwd_err (s : QF) (fuel j c : Nat) : DivOnly (startFwd s fuel j c) := by
  induction fuel generalizing j c with
  | zero => exact .diverged
  | succ f ih => exact .ite (.ite (.ok _) (ih _ _)) (ih _ _)

theorem getStartIndex_err (s : QF) (quot : Nat) : DivOnly (getStartIndex s quot) := by
  refine .ite (.ok _) ?_
  split
  · rename_i he; exact (startBack_err _ _ _ _ _).pass he
  · exact startFwd_err _ _ _ _

theorem containedLoop_err (s : QF) (rr fuel idx st : Nat) : DivOnly (containedLoop s rr fuel idx st) := by
  induction fuel generalizing idx st with
  | zero => exact .diverged
  | succ f ih => exact .ite (.ok _) (.ite (.ok _) (.ite (.ok _) (ih _ _)))

theorem containedAtLoc_err (s : QF) (qq rr : Nat) (e : Err) (h : containedAtLoc s qq rr = .error e) :
    e = .diverged := by
  refine DivOnly.ite (.ok _) ?_ e h
  split
  · rename_i he; exact (getStartIndex_err _ _).pass he
  · exact containedLoop_err _ _ _ _ _

theorem shiftLoop_err (ins fuel : Nat) (s : QF) (next : Nat) : DivOnly (shiftLoop ins fuel s next) := by
  induction fuel generalizing s next with
  | zero => exact .diverged
  | succ f ih => exact .ite (.ok _) (ih _ _)

theorem shiftInsert_err (s : QF) (qq rr orig ins : Nat) (flag : Bool) :
    DivOnly (shiftInsert s qq rr orig ins flag) := by
  refine .ite (.ok _) ?_
  split
  · rename_i he; exact (shiftLoop_err _ _ _ _).pass he
  · exact .ok _

theorem addScan_err (s : QF) (rr fuel idx st : Nat) : DivOnly (addScan s rr fuel idx st) := by
  induction fuel generalizing idx st with
  | zero => exact .diverged
  | succ f ih => exact .ite (ih _ _) (.ok _)

/-- the part of `_add` after the capacity test -/
def addCore (s : QF) (qq rr : Nat) : R QF :=
  if s.isEmpty qq then .ok { s with rem := s.rem.set qq rr, occ := s.occ.set qq true }
  else
    match s.getStartIndex qq with
    | .error e => .error e
    | .ok start =>
        if !bit s.occ qq then s.shiftInsert qq rr start start false
        else
          match addScan s rr s.fuelOf start 0 with
          | .error e => .error e
          | .ok (idx, starts) => s.shiftInsert qq rr start idx (starts != 1)

theorem addQR_eq (s : QF) (qq rr : Nat) :
    addQR s qq rr =
      if s.count ≥ (s.size : Int) - 1 then .error .qfError
      else match addCore s qq rr with
        | .error e => .error e
        | .ok t => .ok { t with count := t.count + 1 } := rfl

theorem addCore_err (s : QF) (qq rr : Nat) (e : Err) (h : addCore s qq rr = .error e) : e = .diverged := by
  refine DivOnly.ite (.ok _) ?_ e h
  split
  · rename_i he; exact (getStartIndex_err _ _).pass he
  · refine .ite (shiftInsert_err _ _ _ _ _ _) ?_
    split
    · rename_i he; exact (addScan_err _ _ _ _ _).pass he
    · exact shiftInsert_err _ _ _ _ _ _

structure SameShape (s t : QF) : Prop where
  q : t.q = s.q
  auto : t.auto = s.auto
  rem : t.rem.length = s.rem.length
  occ : t.occ.length = s.occ.length
  cont : t.cont.length = s.cont.length
  shift : t.shift.length = s.shift.length
  count : t.count = s.count

theorem SameShape.refl (s : QF) : SameShape s s := ⟨rfl, rfl, rfl, rfl, rfl, rfl, rfl⟩

theorem SameShape.trans {s t u : QF} (h₁ : SameShape s t) (h₂ : SameShape t u) : SameShape s u :=
  ⟨h₂.q.trans h₁.q, h₂.auto.trans h₁.auto, h₂.rem.trans h₁.rem, h₂.occ.trans h₁.occ,
   h₂.cont.trans h₁.cont, h₂.shift.trans h₁.shift, h₂.count.trans h₁.count⟩

theorem SameShape.size {s t : QF} (h : SameShape s t) : t.size = s.size := by
  simp [QF.size, h.q]

theorem SameShape.update (s : QF) (rem : List Nat) (occ cont shift : List Bool)
    (h : rem.length = s.rem.length ∧ occ.length = s.occ.length ∧ cont.length = s.cont.length ∧
      shift.length = s.shift.length) :
    SameShape s { s with rem := rem, occ := occ, cont := cont, shift := shift } :=
  ⟨rfl, rfl, h.1, h.2.1, h.2.2.1, h.2.2.2, rfl⟩

def Keeps (s : QF) (r : R QF) : Prop := ∀ t, r = .ok t → SameShape s t

theorem Keeps.ok {s t : QF} (h : SameShape s t) : Keeps s (.ok t) := fun _ h' => by cases h'; exact h

theorem Keeps.error {s : QF} {e : Err} : Keeps s (.error e) := fun _ h => nomatch h

theorem Keeps.ite {s : QF} {c : Prop} [Decidable c] {a b : R QF} (ha : Keeps s a) (hb : Keeps s b) :
    Keeps s (if c then a else b) := by
  split
  · exact ha
  · exact hb

theorem Keeps.trans {s s' : QF} {r : R QF} (h : SameShape s s') (hr : Keeps s' r) : Keeps s r :=
  fun t ht => h.trans (hr t ht)

theorem shiftLoop_keeps (ins fuel : Nat) (s : QF) (next : Nat) : Keeps s (shiftLoop ins fuel s next) := by
  induction fuel generalizing s next with
  | zero => exact .error
  | succ f ih =>
      have H : SameShape s _ := .update s ((s.rem.set next (s.remAt ins)).set ins (s.remAt next)) s.occ
        ((s.cont.set next (bit s.cont ins)).set ins (bit s.cont next)) (s.shift.set next true)
        (by simp only [List.length_set, and_self])
      exact .ite (.ok H) (.trans H (ih _ _))

theorem place_shape (s : QF) (qq rr orig ins : Nat) : SameShape s (s.place qq rr orig ins) :=
  .update s _ _ _ _ (by simp only [List.length_set, and_self])

theorem shiftInsert_keeps (s : QF) (qq rr orig ins : Nat) (flag : Bool) :
    Keeps s (shiftInsert s qq rr orig ins flag) := by
  refine .ite (.ok (place_shape ..)) ?_
  split
  · exact .error
  · rename_i s' hs'
    refine .trans (shiftLoop_keeps _ _ _ _ s' hs') (.ok ((place_shape s' qq rr orig ins).trans ?_))
    split
    · exact .update _ _ _ _ _ (by simp only [List.length_set, and_self])
    · exact .refl _

theorem addCore_shape (s : QF) (qq rr : Nat) (t : QF) (h : addCore s qq rr = .ok t) : SameShape s t := by
  refine Keeps.ite (.ok (.update s _ _ _ _ (by simp only [List.length_set, and_self]))) ?_ t h
  split
  · exact .error
  · refine .ite (shiftInsert_keeps _ _ _ _ _ _) ?_
    split
    · exact .error
    · exact shiftInsert_keeps _ _ _ _ _ _

theorem removeShift_shape (fuel : Nat) (s : QF) (idx next : Nat) (t : QF) (i j : Nat)
    (h : removeShift fuel s idx next = .ok (t, i, j)) : SameShape s t := by
  induction fuel generalizing s idx next with
  | zero => exact nomatch h
  | succ f ih =>
      rw [removeShift] at h
      split at h
      · exact (SameShape.update s _ _ _ _ (by simp only [List.length_set, and_self])).trans (ih _ _ _ h)
      · cases h; exact .refl _

theorem removeRepair_keeps (stop fuel : Nat) (s : QF) (m : Nat) (cur : Option Nat) (queue : List Nat) :
    Keeps s (removeRepair stop fuel s m cur queue) := by
  induction fuel generalizing s m cur queue with
  | zero => exact .error
  | succ f ih =>
      refine .ite (.ok (.refl s)) ?_
      dsimp only
      split
      · exact .error
      · refine .trans ?_ (ih _ _ _ _)
        split
        · exact .update _ _ _ _ _ (by simp only [List.length_set, and_self])
        · exact .refl _

/-- `_remove_element` of a stored element: same shape, counter decremented -/
theorem removeQR_shape_some (s : QF) (qq rr idx : Nat) (t : QF)
    (hc : containedAtLoc s qq rr = .ok (some idx)) (h : removeQR s qq rr = .ok t) :
    SameShape { s with count := s.count - 1 } t := by
  simp only [removeQR, hc] at h
  revert t
  change Keeps _ _
  refine .ite (.ok ?_) ?_
  · split
    · exact .update _ _ _ _ _ (by simp only [List.length_set, and_self])
    · exact .update _ _ _ _ _ (by simp only [List.length_set, and_self])
  · split
    · exact .error
    · split
      · exact .error
      · rename_i hsh
        refine .trans (.trans ?_ (.trans (removeShift_shape _ _ _ _ _ _ _ hsh) ?_))
          (removeRepair_keeps _ _ _ _ _ _)
        · split
          · exact .update _ _ _ _ _ (by simp only [List.length_set, and_self])
          · exact .refl _
        · split
          · exact .update _ _ _ _ _ (by simp only [List.length_set, and_self])
          · exact .update _ _ _ _ _ (by simp only [List.length_set, and_self])

/-- `add_alt` after the auto-resize test: look the hash up, insert it when it is not there -/
def addTail (s : QF) (h : Nat) : R QF :=
  match s.containedAtLoc (s.quotOf h) (s.remOf h) with
  | .error e => .error e
  | .ok (some _) => .ok s
  | .ok none => s.addQR (s.quotOf h) (s.remOf h)

theorem addAlt_succ (b : Nat) (s : QF) (h : Nat) :
    addAlt (b + 1) s h =
      match (if s.auto && s.overLoaded then resize b s none else .ok s) with
      | .error e => .error e
      | .ok s => addTail s h := by
  rw [addAlt]; rfl

theorem addAlt_noresize (b : Nat) (s : QF) (h : Nat) (hno : (s.auto && s.overLoaded) = false) :
    addAlt (b + 1) s h = addTail s h := by
  rw [addAlt_succ, hno]; rfl

end PyProb.QF
