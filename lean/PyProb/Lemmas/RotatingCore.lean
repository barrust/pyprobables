/-
  One step of the rotating Bloom filter model (`Model/Expanding.lean`, structure `Rotating`).
  An effective `addCore` is the automatic rotation (`rotate false`) followed by an insertion into
  the newest sub-filter, and `Rotating.Inv` survives both.  The sliding window is a potential
  argument: for a sub-filter tracked `i` places before the newest (`Holds`), the quantity
  `i·est + (count of the newest)` is kept by a rotation (`window_rotate`) and goes up by one per
  effective insertion (`window_step`); the tracked sub-filter stays in the queue while the quantity is
  at most `Q·est`.
-/
import PyProb.Lemmas.ExpandingCore

namespace PyProb

/-- what the two rotation guards taken from the repository (`Generated/Repo.lean`) compute -/
theorem rotReady_eval (a b : Int) : Gen.rotReadyCmp.evalInt a b = (a == b) := rfl
theorem rotRoom_eval (a b : Int) : Gen.rotRoomCmp.evalInt a b = decide (a < b) := rfl

namespace Rotating
open Expanding (addToLast addToLast_concat addToLast_forall fresh_count fresh_geo)

theorem rotate_eq (r : Rotating) (force : Bool) : ∃ bs, r.rotate force = { r with blooms := bs } := by
  unfold rotate
  cases r.blooms.getLast? with
  | none => exact ⟨r.blooms, rfl⟩
  | some b =>
      dsimp only
      cases force <;> cases Gen.rotReadyCmp.evalInt b.count b.est <;>
        cases Gen.rotRoomCmp.evalInt r.blooms.length r.q <;> exact ⟨_, rfl⟩

theorem rotate_static (r : Rotating) (force : Bool) :
    (r.rotate force).est = r.est ∧ (r.rotate force).fpr32 = r.fpr32 ∧ (r.rotate force).k = r.k ∧
    (r.rotate force).m = r.m ∧ (r.rotate force).added = r.added ∧ (r.rotate force).q = r.q := by
  obtain ⟨bs, h⟩ := rotate_eq r force
  rw [h]
  exact ⟨rfl, rfl, rfl, rfl, rfl, rfl⟩

/-- a rotation happens when forced (`push()`) or when the newest sub-filter is full; it drops the
    oldest sub-filter if the queue is at its limit -/
theorem rotate_blooms (r : Rotating) (force : Bool) (init : List Bloom) (z : Bloom)
    (hb : r.blooms = init ++ [z]) :
    (r.rotate force).blooms =
      if force = true ∨ z.count = (z.est : Int) then
        if (r.blooms.length : Int) < r.q then r.blooms ++ [r.fresh] else r.blooms.drop 1 ++ [r.fresh]
      else r.blooms := by
  unfold rotate
  rw [List.getLast?_eq_some_iff.mpr ⟨init, hb⟩]
  simp only [rotReady_eval, rotRoom_eval]
  -- the cascade `force ∧ room`, `force`, `ready ∧ room`, `ready` of the source asks for `room` under
  -- `force` and again under `ready`, with the same two outcomes: it is `force ∨ ready`, then `room`
  cases force <;> by_cases h1 : z.count = (z.est : Int) <;>
    by_cases h2 : (r.blooms.length : Int) < r.q <;> simp [h1, h2]

theorem rotate_ne_nil (r : Rotating) (force : Bool) (hne : r.blooms ≠ []) : (r.rotate force).blooms ≠ [] := by
  obtain ⟨init, z, hb⟩ := exists_concat r.blooms hne
  rw [rotate_blooms r force init z hb]
  repeat' split
  · exact List.append_ne_nil_of_right_ne_nil _ (List.cons_ne_nil _ _)
  · exact List.append_ne_nil_of_right_ne_nil _ (List.cons_ne_nil _ _)
  · exact hne

theorem rotate_mem (r : Rotating) (force : Bool) :
    ∀ b ∈ (r.rotate force).blooms, b ∈ r.blooms ∨ b = r.fresh := by
  intro b hm
  rcases List.eq_nil_or_concat r.blooms with h | ⟨init, z, h⟩
  · have : r.rotate force = r := by unfold rotate; rw [h]; rfl
    rw [this] at hm
    exact Or.inl hm
  · rw [rotate_blooms r force init z (by simpa using h)] at hm
    split at hm
    · split at hm
      · exact (List.mem_append.mp hm).imp_right List.mem_singleton.mp
      · exact (List.mem_append.mp hm).imp List.mem_of_mem_drop List.mem_singleton.mp
    · exact Or.inl hm

theorem push_static (r : Rotating) :
    r.push.est = r.est ∧ r.push.fpr32 = r.fpr32 ∧ r.push.k = r.k ∧
    r.push.m = r.m ∧ r.push.added = r.added ∧ r.push.q = r.q := rotate_static r true

theorem rotate_forall (P : Bloom → Prop) (r : Rotating) (force : Bool) (hfresh : P r.fresh)
    (h : ∀ b ∈ r.blooms, P b) : ∀ b ∈ (r.rotate force).blooms, P b :=
  fun b hm => (rotate_mem r force b hm).elim (h b) (fun hf => hf ▸ hfresh)

/- `Rotating.addCore` is a model definition of its own, not `Expanding.addCore` with another first
   step, so the step lemmas of `Lemmas/ExpandingCore.lean` are stated again for it; what the two share
   is `addToLast`. -/
theorem addCore_static (r : Rotating) (p : Bool) (hs : List Nat) (f : Bool) :
    (r.addCore p hs f).1.est = r.est ∧ (r.addCore p hs f).1.fpr32 = r.fpr32 ∧
    (r.addCore p hs f).1.k = r.k ∧ (r.addCore p hs f).1.m = r.m ∧
    (r.addCore p hs f).1.added = r.added + 1 ∧ (r.addCore p hs f).1.q = r.q := by
  simp only [addCore]
  split
  · exact rotate_static { r with added := r.added + 1 } false
  · exact ⟨rfl, rfl, rfl, rfl, rfl, rfl⟩

theorem addCore_noeff (r : Rotating) (p : Bool) (hs : List Nat) (f : Bool)
    (h : (f || !p) = false) :
    (r.addCore p hs f).1.blooms = r.blooms ∧ (r.addCore p hs f).2 = none := by
  simp [addCore, h]

theorem addCore_eff (r : Rotating) (p : Bool) (hs : List Nat) (f : Bool) (h : (f || !p) = true) :
    (r.addCore p hs f).1.blooms =
      (addToLast (({ r with added := r.added + 1 } : Rotating).rotate false).blooms hs).1 ∧
    (r.addCore p hs f).2 =
      (addToLast (({ r with added := r.added + 1 } : Rotating).rotate false).blooms hs).2 := by
  constructor <;> simp only [addCore, h, if_true]

theorem addCore_ne_nil (r : Rotating) (p : Bool) (hs : List Nat) (f : Bool) (hne : r.blooms ≠ []) :
    (r.addCore p hs f).1.blooms ≠ [] := by
  cases hf : (f || !p)
  · rw [(addCore_noeff r p hs f hf).1]
    exact hne
  · rw [(addCore_eff r p hs f hf).1]
    exact Expanding.addToLast_ne_nil _ hs (rotate_ne_nil _ false hne)

theorem addCore_forall (P : Bloom → Prop) (r : Rotating) (p : Bool) (hs : List Nat) (f : Bool)
    (hadd : ∀ b, P b → P (b.addAlt hs).1) (hfresh : P r.fresh)
    (h : ∀ b ∈ r.blooms, P b) : ∀ b ∈ (r.addCore p hs f).1.blooms, P b := by
  intro b hb
  cases hf : (f || !p)
  · rw [(addCore_noeff r p hs f hf).1] at hb
    exact h b hb
  · rw [(addCore_eff r p hs f hf).1] at hb
    exact addToLast_forall P P _ hs (fun _ h => h) hadd
      (rotate_forall P { r with added := r.added + 1 } false hfresh h) b hb

/-- the C10 invariant, for queue limit `Q` -/
def Inv (Q : Nat) (r : Rotating) : Prop :=
  1 ≤ r.est ∧ r.q = (Q : Int) ∧ r.blooms ≠ [] ∧ r.blooms.length ≤ Q ∧
  ∀ b ∈ r.blooms, 0 ≤ b.count ∧ b.count ≤ r.est ∧ b.k = r.k ∧ b.est = r.est

theorem Inv.toExpanding {Q : Nat} {r : Rotating} (hi : r.Inv Q) : r.toExpanding.Inv :=
  ⟨hi.1, hi.2.2.1, fun b hb => ⟨(hi.2.2.2.2 b hb).1, (hi.2.2.2.2 b hb).2.1, (hi.2.2.2.2 b hb).2.2.1⟩⟩

theorem inv_new (est fpr32 k m Q : Nat) (h1 : 1 ≤ est) (hq : 1 ≤ Q) :
    (Rotating.new est fpr32 k m Q).Inv Q := by
  refine ⟨h1, rfl, List.cons_ne_nil _ _, hq, fun b hb => ?_⟩
  rw [List.mem_singleton.mp hb]
  exact ⟨Int.le_refl 0, Int.natCast_nonneg est, rfl, rfl⟩

theorem inv_rotate (Q : Nat) (r : Rotating) (force : Bool) (hi : r.Inv Q) : (r.rotate force).Inv Q := by
  obtain ⟨h1, hq, hne, hlen, hall⟩ := hi
  obtain ⟨init, z, hb⟩ := exists_concat r.blooms hne
  obtain ⟨s1, -, s3, -, -, s6⟩ := rotate_static r force
  have hpos : 0 < r.blooms.length := List.length_pos_iff.mpr hne
  have hbl := rotate_blooms r force init z hb
  have hlen' : (r.rotate force).blooms.length ≤ Q := by
    rw [hbl]
    repeat' split
    · rw [List.length_append, List.length_singleton]; omega
    · rw [List.length_append, List.length_drop, List.length_singleton]; omega
    · exact hlen
  refine ⟨by rw [s1]; exact h1, by rw [s6]; exact hq, rotate_ne_nil r force hne, hlen', ?_⟩
  rw [s1, s3]
  exact rotate_forall (fun b => 0 ≤ b.count ∧ b.count ≤ (r.est : Int) ∧ b.k = r.k ∧ b.est = r.est)
    r force ⟨Int.le_refl 0, Int.natCast_nonneg _, rfl, rfl⟩ hall

theorem inv_push (Q : Nat) (r : Rotating) (hi : r.Inv Q) : r.push.Inv Q := inv_rotate Q r true hi

theorem rotate_false_blooms (Q : Nat) (r : Rotating) (hi : r.Inv Q) (init : List Bloom) (z : Bloom)
    (hb : r.blooms = init ++ [z]) :
    (r.rotate false).blooms =
      if z.count = (r.est : Int) then
        if (r.blooms.length : Int) < r.q then r.blooms ++ [r.fresh] else r.blooms.drop 1 ++ [r.fresh]
      else r.blooms := by
  rw [rotate_blooms r false init z hb, (hi.2.2.2.2 z (by rw [hb]; simp)).2.2.2]
  simp only [Bool.false_eq_true, false_or]

theorem rotate_false_last (Q : Nat) (r : Rotating) (hi : r.Inv Q) :
    ∃ init y, (r.rotate false).blooms = init ++ [y] ∧ y.count < (r.est : Int) := by
  obtain ⟨init, z, hb⟩ := exists_concat r.blooms hi.2.2.1
  have hfr : r.fresh.count < (r.est : Int) := Int.lt_of_lt_of_le Int.zero_lt_one (Int.ofNat_le.mpr hi.1)
  have hz := (hi.2.2.2.2 z (by rw [hb]; simp)).2.1
  rw [rotate_false_blooms Q r hi init z hb]
  repeat' split
  · exact ⟨_, r.fresh, rfl, hfr⟩
  · exact ⟨_, r.fresh, rfl, hfr⟩
  · rename_i hc
    exact ⟨init, z, hb, Int.lt_iff_le_and_ne.mpr ⟨hz, hc⟩⟩

theorem inv_addToLast (Q : Nat) (r : Rotating) (init : List Bloom) (y : Bloom) (hs : List Nat)
    (hk : r.k ≤ hs.length) (hi : r.Inv Q) (hb : r.blooms = init ++ [y]) (hy : y.count < (r.est : Int)) :
    ({ r with blooms := (addToLast r.blooms hs).1 } : Rotating).Inv Q ∧ (addToLast r.blooms hs).2 = none := by
  -- counts, `k` and the error are `Expanding.inv_addToLast`; `est` and the length are kept as well
  obtain ⟨⟨h1, hne, hall⟩, herr⟩ := Expanding.inv_addToLast r.toExpanding init y hs hk hi.toExpanding hb hy
  have hest := addToLast_forall (·.est = r.est) _ r.blooms hs (fun _ h => h)
    (fun b h => (Bloom.addAlt_est b hs).trans h) (fun b hb => (hi.2.2.2.2 b hb).2.2.2)
  refine ⟨⟨h1, hi.2.1, hne, ?_, fun b hm => ⟨(hall b hm).1, (hall b hm).2.1, (hall b hm).2.2, hest b hm⟩⟩, herr⟩
  have hlen := hi.2.2.2.1
  rw [hb] at hlen
  show (addToLast r.blooms hs).1.length ≤ Q
  rw [hb, addToLast_concat]
  simpa using hlen

theorem inv_addCore (Q : Nat) (r : Rotating) (p : Bool) (hs : List Nat) (f : Bool)
    (hk : r.k ≤ hs.length) (hi : r.Inv Q) :
    (r.addCore p hs f).1.Inv Q ∧ (r.addCore p hs f).2 = none := by
  cases hf : (f || !p)
  · simp only [addCore, hf, Bool.false_eq_true, if_false]
    exact ⟨hi, trivial⟩
  · have hr := inv_rotate Q { r with added := r.added + 1 } false hi
    obtain ⟨init, y, hb, hy⟩ := rotate_false_last Q { r with added := r.added + 1 } hi
    obtain ⟨s1, -, s3, -, -, -⟩ := rotate_static { r with added := r.added + 1 } false
    have := inv_addToLast Q _ init y hs (by rw [s3]; exact hk) hr hb (by rw [s1]; exact hy)
    simp only [addCore, hf, if_true]
    exact this

theorem pop_single (r : Rotating) (h : r.blooms.length = 1) : r.pop = .error .rotateError := by
  simp [pop, h]

theorem pop_longer (r : Rotating) (h : r.blooms.length ≠ 1) :
    r.pop = .ok { r with blooms := r.blooms.drop 1 } := by
  simp [pop, h]

theorem pop_ok (r r' : Rotating) (hp : r.pop = .ok r') :
    r.blooms.length ≠ 1 ∧ r' = { r with blooms := r.blooms.drop 1 } := by
  by_cases h : r.blooms.length = 1
  · rw [pop_single r h] at hp
    cases hp
  · rw [pop_longer r h] at hp
    cases hp
    exact ⟨h, rfl⟩

theorem inv_pop (Q : Nat) (r r' : Rotating) (hi : r.Inv Q) (hp : r.pop = .ok r') : r'.Inv Q := by
  obtain ⟨h1, hq, hne, hlen, hall⟩ := hi
  have hpos : 0 < r.blooms.length := List.length_pos_iff.mpr hne
  obtain ⟨h, rfl⟩ := pop_ok r r' hp
  refine ⟨h1, hq, ?_, ?_, fun b hb => hall b (List.mem_of_mem_drop hb)⟩
  · exact fun h0 => h (Nat.le_antisymm (List.drop_eq_nil_iff.mp h0) hpos)
  · exact Nat.le_trans (List.length_drop ▸ Nat.sub_le _ 1) hlen

theorem geo_addCore (r : Rotating) (p : Bool) (hs : List Nat) (f : Bool)
    (hg : r.toExpanding.Geo) : (r.addCore p hs f).1.toExpanding.Geo := by
  obtain ⟨-, -, -, s4, -, -⟩ := addCore_static r p hs f
  rw [Expanding.Geo, s4]
  exact ⟨hg.1, addCore_forall (fun b => b.GeoOK r.m) r p hs f
    (fun b h => Bloom.geoOK_addAlt _ b hs h) (fresh_geo r.toExpanding) hg.2⟩

theorem geo_push (r : Rotating) (hg : r.toExpanding.Geo) : r.push.toExpanding.Geo := by
  obtain ⟨-, -, -, s4, -, -⟩ := push_static r
  rw [Expanding.Geo, s4]
  exact ⟨hg.1, rotate_forall (fun b => b.GeoOK r.m) r true (fresh_geo r.toExpanding) hg.2⟩

theorem geo_pop (r r' : Rotating) (hg : r.toExpanding.Geo) (hp : r.pop = .ok r') :
    r'.toExpanding.Geo := by
  obtain ⟨-, rfl⟩ := pop_ok r r' hp
  exact ⟨hg.1, fun b hb => hg.2 b (List.mem_of_mem_drop hb)⟩

theorem geo_new (est fpr32 k m : Nat) (q : Int) (h : 0 < m) :
    (Rotating.new est fpr32 k m q).toExpanding.Geo := Expanding.geo_new est fpr32 k m h

theorem addAlt_eq_addCore (Q : Nat) (r : Rotating) (hs : List Nat) (f : Bool) (hk : r.k ≤ hs.length)
    (hi : r.Inv Q) :
    ∃ p, r.toExpanding.checkAlt hs = .ok p ∧ r.addAlt hs f = r.addCore p hs f := by
  obtain ⟨p, hp⟩ := Expanding.checkGo_total hs r.blooms
    (fun b hb => by rw [(hi.2.2.2.2 b hb).2.2.1]; exact hk)
  refine ⟨p, hp, ?_⟩
  unfold addAlt
  cases f
  · simp only [Expanding.checkAlt, hp]; rfl
  · simp [addCore]

/-- the sub-filter `b0` (possibly with further insertions) sits `i` places before the newest -/
def Holds (b0 : Bloom) (r : Rotating) (i : Nat) : Prop :=
  i < r.blooms.length ∧ ∃ b', r.blooms[r.blooms.length - 1 - i]? = some b' ∧ Bloom.Ext b0 b'

theorem Holds.mem {b0 : Bloom} {r : Rotating} {i : Nat} (h : Holds b0 r i) :
    ∃ b' ∈ r.blooms, Bloom.Ext b0 b' := by
  obtain ⟨_, b', hb, he⟩ := h
  exact ⟨b', List.mem_of_getElem? hb, he⟩

theorem holds_last (r : Rotating) (z : Bloom) (hz : r.blooms.getLast? = some z) : Holds z r 0 := by
  have hne : r.blooms ≠ [] := by intro h0; rw [h0] at hz; cases hz
  refine ⟨List.length_pos_iff.mpr hne, z, ?_, Bloom.Ext.refl _⟩
  rw [List.getLast?_eq_getElem?] at hz
  exact hz

theorem holds_iff (b0 : Bloom) (r : Rotating) (i : Nat) :
    Holds b0 r i ↔ ∃ b', r.blooms.reverse[i]? = some b' ∧ Bloom.Ext b0 b' := by
  constructor
  · rintro ⟨hi, b', hg, he⟩
    exact ⟨b', (List.getElem?_reverse hi).trans hg, he⟩
  · rintro ⟨b', hg, he⟩
    obtain ⟨hi, -⟩ := List.getElem?_eq_some_iff.mp hg
    rw [List.length_reverse] at hi
    exact ⟨hi, b', (List.getElem?_reverse hi).symm.trans hg, he⟩

theorem Holds.congr {b0 : Bloom} {r r' : Rotating} {i : Nat} (h : Holds b0 r i)
    (hb : r'.blooms = r.blooms) : Holds b0 r' i := by
  unfold Holds at h ⊢; rw [hb]; exact h

theorem Holds.append {b0 : Bloom} {r r' : Rotating} {i : Nat} {x : Bloom} (h : Holds b0 r i)
    (hb : r'.blooms = r.blooms ++ [x]) : Holds b0 r' (i + 1) := by
  rw [holds_iff] at h ⊢
  rw [hb, List.reverse_append, List.reverse_singleton, List.singleton_append, List.getElem?_cons_succ]
  exact h

theorem Holds.drop_append {b0 : Bloom} {r r' : Rotating} {i : Nat} {x : Bloom} (h : Holds b0 r i)
    (hb : r'.blooms = r.blooms.drop 1 ++ [x]) (hi : i + 1 < r.blooms.length) : Holds b0 r' (i + 1) := by
  rw [holds_iff] at h ⊢
  rw [hb, List.reverse_append, List.reverse_singleton, List.singleton_append, List.getElem?_cons_succ,
    List.reverse_drop, List.getElem?_take_of_lt (by omega)]
  exact h

theorem Holds.add_last {b0 : Bloom} {r r' : Rotating} {i : Nat} {init : List Bloom} {z : Bloom}
    {hs : List Nat} (h : Holds b0 r i) (hb : r.blooms = init ++ [z])
    (hb' : r'.blooms = init ++ [(z.addAlt hs).1]) : Holds b0 r' i := by
  rw [holds_iff, hb, List.reverse_append, List.reverse_singleton, List.singleton_append] at h
  rw [holds_iff, hb', List.reverse_append, List.reverse_singleton, List.singleton_append]
  cases i with
  | zero =>
      obtain ⟨b', hg, hext⟩ := h
      cases hg
      exact ⟨_, rfl, hext.step hs⟩
  | succ i => exact h

private theorem room_of_pot {i Q : Nat} {est : Int} (h1 : 1 ≤ est)
    (h : (i : Int) * est + est < (Q : Int) * est) : i + 2 ≤ Q := by
  apply Classical.byContradiction
  intro hcon
  have hle : (Q : Int) * est ≤ ((i : Int) + 1) * est :=
    Int.mul_le_mul_of_nonneg_right (by omega) (by omega)
  rw [Int.add_mul, Int.one_mul] at hle
  omega

/-- If the automatic rotation happens, the newest was full, the new newest is empty and the tracked
    sub-filter is one place further back.  Below the bound `Q·est` it is not dropped: that happens
    only to the oldest of a full queue, i.e. when `i = Q − 1` and the newest is full. -/
theorem window_rotate (Q : Nat) (r : Rotating) (b0 z : Bloom) (i : Nat) (hi : r.Inv Q)
    (hh : Holds b0 r i) (hz : r.blooms.getLast? = some z)
    (hpot : (i : Int) * r.est + z.count < (Q : Int) * r.est) :
    ∃ i' init y, Holds b0 (r.rotate false) i' ∧ (r.rotate false).blooms = init ++ [y] ∧
      y.count < (r.est : Int) ∧ y.k = r.k ∧ (i' : Int) * r.est + y.count = (i : Int) * r.est + z.count := by
  obtain ⟨init, hb⟩ := List.getLast?_eq_some_iff.mp hz
  have hbl := rotate_false_blooms Q r hi init z hb
  obtain ⟨h1, hq, hne, hlen, hall⟩ := hi
  obtain ⟨-, hzle, hzk, -⟩ := hall z (by rw [hb]; simp)
  by_cases hc : z.count = (r.est : Int)
  · rw [if_pos hc] at hbl
    rw [hc] at hpot ⊢
    have hi2 := room_of_pot (by omega) hpot
    have hpot' : ((i + 1 : Nat) : Int) * r.est + r.fresh.count = (i : Int) * r.est + r.est := by
      rw [fresh_count, Int.natCast_add, Int.add_mul]; omega
    have hfr : r.fresh.count < (r.est : Int) := by rw [fresh_count]; omega
    by_cases hroom : (r.blooms.length : Int) < r.q
    · rw [if_pos hroom] at hbl
      exact ⟨i + 1, _, r.fresh, hh.append hbl, hbl, hfr, rfl, hpot'⟩
    · rw [if_neg hroom] at hbl
      exact ⟨i + 1, _, r.fresh, hh.drop_append hbl (by omega), hbl, hfr, rfl, hpot'⟩
  · rw [if_neg hc] at hbl
    exact ⟨i, init, z, hh.congr hbl, hbl.trans hb, by omega, hzk, rfl⟩

theorem window_step (Q : Nat) (r : Rotating) (b0 z : Bloom) (i : Nat)
    (p : Bool) (hs : List Nat) (f : Bool) (hk : r.k ≤ hs.length) (hi : r.Inv Q)
    (hh : Holds b0 r i) (hz : r.blooms.getLast? = some z)
    (hpot : ((if (f || !p) = true then 1 else 0 : Nat) : Int) + (i : Int) * r.est + z.count
      ≤ (Q : Int) * r.est) :
    ∃ i' z', Holds b0 (r.addCore p hs f).1 i' ∧ (r.addCore p hs f).1.blooms.getLast? = some z' ∧
      (i' : Int) * r.est + z'.count =
        (i : Int) * r.est + z.count + ((if (f || !p) = true then 1 else 0 : Nat) : Int) := by
  cases hf : (f || !p)
  · have hbl := (addCore_noeff r p hs f hf).1
    exact ⟨i, z, hh.congr hbl, hbl ▸ hz, (Int.add_zero _).symm⟩
  rw [hf, if_pos rfl, Int.natCast_one] at hpot
  have hlt : (i : Int) * r.est + z.count < (Q : Int) * r.est := by omega
  obtain ⟨i', init, y, hh', hb', hy, hyk, he⟩ :=
    window_rotate Q { r with added := r.added + 1 } b0 z i hi hh hz hlt
  have hbl : (r.addCore p hs f).1.blooms = init ++ [(y.addAlt hs).1] := by
    rw [(addCore_eff r p hs f hf).1, hb', addToLast_concat]
  refine ⟨i', (y.addAlt hs).1, hh'.add_last hb' hbl, by rw [hbl, List.getLast?_concat], ?_⟩
  have he : (i' : Int) * r.est + y.count = (i : Int) * r.est + z.count := he
  rw [Bloom.addAlt_count_of_le y hs (by rw [hyk]; exact hk), if_pos rfl, Int.natCast_one]
  omega

theorem addCore_eff_last (Q : Nat) (r : Rotating) (p : Bool) (hs : List Nat) (f : Bool)
    (hk : r.k ≤ hs.length) (hi : r.Inv Q) (hg : r.toExpanding.Geo) (hf : (f || !p) = true) :
    ∃ z, (r.addCore p hs f).1.blooms.getLast? = some z ∧ z.checkAlt hs = .ok true ∧ z.GeoOK r.m := by
  obtain ⟨init, y, hb, -⟩ := rotate_false_last Q { r with added := r.added + 1 } hi
  obtain ⟨hyk, hyg⟩ := rotate_forall (fun b => b.k = r.k ∧ b.GeoOK r.m) { r with added := r.added + 1 } false
    ⟨rfl, fresh_geo r.toExpanding⟩ (fun b hb => ⟨(hi.2.2.2.2 b hb).2.2.1, hg.2 b hb⟩) y (by rw [hb]; simp)
  exact ⟨(y.addAlt hs).1, by rw [(addCore_eff r p hs f hf).1, hb, addToLast_concat, List.getLast?_concat],
    Bloom.checkAlt_addAlt_self y hs (hyg.wf hg.1) (by rw [hyk]; exact hk), Bloom.geoOK_addAlt _ _ _ hyg⟩

end Rotating
end PyProb
