/-
  The well-formedness conditions of the export formats are preserved by the update operations,
  Bloom family: counting-Bloom cells stay within uint32, array lengths never change, the
  sub-filters of expanding / rotating filters stay uniform.
-/
import PyProb.Lemmas.RotatingCore
import PyProb.Lemmas.Saturation
import PyProb.Lemmas.FormatsBloom

namespace PyProb

/-- `Saturation.CellsOK` with the value of `Gen.uint32Max` written out (the two unfold to the same
    proposition, so the lemmas of the one apply to the other as they stand) -/
def CellsOK (cells : List Int) : Prop := ∀ x ∈ cells, 0 ≤ x ∧ x ≤ 4294967295

theorem CellsOK_set {cells : List Int} (h : CellsOK cells) (k : Nat) (v : Int) (hv : 0 ≤ v ∧ v ≤ 4294967295) :
    CellsOK (cells.set k v) := Saturation.CellsOK.set h k v hv.1 hv.2

theorem CellsOK_getD {cells : List Int} (h : CellsOK cells) (k : Nat) :
    0 ≤ cells.getD k 0 ∧ cells.getD k 0 ≤ 4294967295 := Saturation.CellsOK.getD h k

theorem cbf_addLoop_ok (n : Int) (cells : List Int) (pairs : List (Nat × Int)) (acc : List Int)
    (h : CellsOK cells) :
    CellsOK (CBF.addLoop n cells pairs acc).1 ∧ (CBF.addLoop n cells pairs acc).1.length = cells.length := by
  induction pairs generalizing cells acc with
  | nil => exact ⟨h, rfl⟩
  | cons kv rest ih =>
      obtain ⟨k, v⟩ := kv
      -- only the ORDER of the library's limit and the cell's storage range matters here, not its value
      have hmax : (Gen.uint32Max : Int) ≤ 4294967295 := by decide
      have hmax0 : (0 : Int) ≤ Gen.uint32Max := by decide
      simp only [CBF.addLoop]
      by_cases h1 : Gen.cbfAddClampCmp.evalInt v Gen.uint32Max = true
      · rw [if_pos h1]
        have := ih (cells.set k Gen.uint32Max) (Gen.uint32Max :: acc) (CellsOK_set h k _ (by omega))
        simpa using this
      · rw [if_neg h1]
        generalize hnv : (if cells.getD k 0 + n > Gen.uint32Max then Gen.uint32Max else cells.getD k 0 + n) = nv
        have hle : nv ≤ 4294967295 := by rw [← hnv]; split <;> omega
        by_cases h2 : nv < 0
        · rw [if_pos h2]; exact ⟨h, rfl⟩
        · rw [if_neg h2]
          have := ih (cells.set k nv) (v :: acc) (CellsOK_set h k _ (by omega))
          simpa using this

theorem cbf_addAlt_ok (c : CBF) (hs : List Nat) (n : Int) (h : CellsOK c.cells) :
    CellsOK (c.addAlt hs n).1.cells ∧ (c.addAlt hs n).1.cells.length = c.cells.length ∧
      (c.addAlt hs n).1.m = c.m := by
  unfold CBF.addAlt
  cases c.indices hs with
  | error e => exact ⟨h, rfl, rfl⟩
  | ok idx =>
      simp only
      have := cbf_addLoop_ok n c.cells (idx.zip (idx.map fun k => c.cells.getD k 0 + n)) [] h
      generalize CBF.addLoop n c.cells (idx.zip (idx.map fun k => c.cells.getD k 0 + n)) [] = r at this
      obtain ⟨cells, vals, err⟩ := r
      cases err <;> exact ⟨this.1, this.2, rfl⟩

theorem cbf_removeLoop_ok (r : Int) (hr : 0 ≤ r) (cells : List Int) (ks : List Nat) (h : CellsOK cells) :
    CellsOK (CBF.removeLoop r cells ks).1 ∧ (CBF.removeLoop r cells ks).1.length = cells.length :=
  ⟨Saturation.cbf_removeLoop_inv CellsOK r
      (fun cs k hc _ hge => CellsOK_set hc k _ ⟨hge, by have := (CellsOK_getD hc k).2; omega⟩) ks cells h,
    Saturation.cbf_removeLoop_length r ks cells⟩

theorem cbf_removeAlt_ok (c : CBF) (hs : List Nat) (n : Int) (hn : 0 ≤ n) (h : CellsOK c.cells) :
    CellsOK (c.removeAlt hs n).1.cells ∧ (c.removeAlt hs n).1.cells.length = c.cells.length ∧
      (c.removeAlt hs n).1.m = c.m := by
  rcases Saturation.cbf_removeAlt_cases c hs n with e | ⟨r, hr, hc, hm, -⟩
  · rw [e]
    exact ⟨h, rfl, rfl⟩
  · obtain ⟨h1, h2⟩ := cbf_removeLoop_ok r (hr hn h) c.cells (Counters.touched c hs) h
    rw [hc]
    exact ⟨h1, h2, hm⟩

theorem SubOK_addAlt {est fpr32 k m : Nat} {b : Bloom} (hs : List Nat) (h : SubOK est fpr32 k m b) :
    SubOK est fpr32 k m (b.addAlt hs).1 := by
  obtain ⟨h1, h2, h3, h4, h5⟩ := h
  unfold Bloom.addAlt
  simp only
  split <;> exact ⟨h1, h2, h3, h4, by simp only [foldl_setBitB_length]; exact h5⟩

theorem SubOK_new (est fpr32 k m : Nat) : SubOK est fpr32 k m (Bloom.new est fpr32 k m) :=
  ⟨rfl, rfl, rfl, rfl, by simp [Bloom.new]⟩

theorem expanding_addCore_ok (e : Expanding) (p : Bool) (hs : List Nat) (f : Bool)
    (h : ∀ b ∈ e.blooms, SubOK e.est e.fpr32 e.k e.m b) (hne : e.blooms ≠ []) :
    let e' := (e.addCore p hs f).1
    (∀ b ∈ e'.blooms, SubOK e'.est e'.fpr32 e'.k e'.m b) ∧ e'.blooms ≠ [] := by
  obtain ⟨s1, s2, s3, s4, -⟩ := Expanding.addCore_static e p hs f
  simp only [s1, s2, s3, s4]
  exact ⟨Expanding.addCore_forall₂ _ _ e p hs f (fun _ hb => hb) (fun _ hb => SubOK_addAlt hs hb)
    (SubOK_new _ _ _ _) h, Expanding.addCore_ne_nil e p hs f hne⟩

theorem expanding_addAlt_ok (e : Expanding) (hs : List Nat) (f : Bool)
    (h : ∀ b ∈ e.blooms, SubOK e.est e.fpr32 e.k e.m b) (hne : e.blooms ≠ []) :
    let e' := (e.addAlt hs f).1
    (∀ b ∈ e'.blooms, SubOK e'.est e'.fpr32 e'.k e'.m b) ∧ e'.blooms ≠ [] := by
  unfold Expanding.addAlt
  split
  · exact expanding_addCore_ok e true hs true h hne
  · split
    · exact ⟨h, hne⟩
    · exact expanding_addCore_ok e _ hs false h hne

theorem rotating_addCore_ok (r : Rotating) (p : Bool) (hs : List Nat) (f : Bool)
    (h : ∀ b ∈ r.blooms, SubOK r.est r.fpr32 r.k r.m b) (hne : r.blooms ≠ []) :
    let r' := (r.addCore p hs f).1
    (∀ b ∈ r'.blooms, SubOK r'.est r'.fpr32 r'.k r'.m b) ∧ r'.blooms ≠ [] ∧ r'.q = r.q := by
  obtain ⟨s1, s2, s3, s4, -, s6⟩ := Rotating.addCore_static r p hs f
  simp only [s1, s2, s3, s4]
  exact ⟨Rotating.addCore_forall _ r p hs f (fun _ hb => SubOK_addAlt hs hb) (SubOK_new _ _ _ _) h,
    Rotating.addCore_ne_nil r p hs f hne, s6⟩

theorem rotating_addAlt_ok (r : Rotating) (hs : List Nat) (f : Bool)
    (h : ∀ b ∈ r.blooms, SubOK r.est r.fpr32 r.k r.m b) (hne : r.blooms ≠ []) :
    let r' := (r.addAlt hs f).1
    (∀ b ∈ r'.blooms, SubOK r'.est r'.fpr32 r'.k r'.m b) ∧ r'.blooms ≠ [] ∧ r'.q = r.q := by
  unfold Rotating.addAlt
  split
  · exact rotating_addCore_ok r true hs true h hne
  · split
    · exact ⟨h, hne, rfl⟩
    · exact rotating_addCore_ok r _ hs false h hne

end PyProb
