/-
  The `ℝ` instance of `RealLike` (PyProb/Model/Sizing.lean) used for the C07 theorems, plus the
  unfolding lemmas that turn the generic sizing formulas into ordinary real-number expressions.

  `realLikeWith narrow` is the whole family of real instances, one for every candidate
  float32-narrowing function `narrow : ℝ → ℝ`; the registered instance is `realLikeWith id`.
  `bloomBits`, `bloomHashes`, `cmsWidth`, `cmsDepth`, `cuckooFpBits`, … do not use `narrow32`, so
  they are definitionally the same in every member of the family; only `bloomParams` does.
-/
import PyProb.Model.Sizing
import Mathlib.Analysis.SpecialFunctions.Log.Basic
import Mathlib.Analysis.SpecialFunctions.Log.Base
import Mathlib.Analysis.SpecialFunctions.Pow.Real
import Mathlib.Algebra.Order.Floor.Ring

namespace PyProb

open Classical

/-- Python `round(x)` on a real: nearest integer, ties to even. -/
noncomputable def roundHalfEven (x : ℝ) : Int :=
  let f : Int := ⌊x⌋
  if x - f < 1 / 2 then f else if x - f > 1 / 2 then f + 1 else if f % 2 = 0 then f else f + 1

@[reducible] noncomputable def realLikeWith (narrow : ℝ → ℝ) : RealLike ℝ where
  ofInt := fun i => (i : ℝ)
  const := fun _ num den => (num : ℝ) / (den : ℝ)
  add := fun a b => a + b
  sub := fun a b => a - b
  mul := fun a b => a * b
  div := fun a b => a / b
  neg := fun a => -a
  log := Real.log
  exp := Real.exp
  log2 := Real.logb 2
  pow := fun x y => x ^ y
  ceilInt := fun x => ⌈x⌉
  truncInt := fun x => if x < 0 then ⌈x⌉ else ⌊x⌋
  roundInt := roundHalfEven
  narrow32 := narrow
  lt := fun a b => decide (a < b)
  le := fun a b => decide (a ≤ b)

noncomputable instance instRealLikeReal : RealLike ℝ := realLikeWith id

/-- the code's literal `0.4804530139182` (exact value of the double) -/
noncomputable def c1 : ℝ := (Gen.bloomLn2SqNum : ℝ) / (Gen.bloomLn2SqDen : ℝ)
/-- the code's literal `0.6931471805599453` (exact value of the double) -/
noncomputable def c2 : ℝ := (Gen.bloomLn2Num : ℝ) / (Gen.bloomLn2Den : ℝ)

theorem c1_eq : c1 = 8655072057804149 / 18014398509481984 := by
  simp [c1, Gen.bloomLn2SqNum, Gen.bloomLn2SqDen]

theorem c2_eq : c2 = 6243314768165359 / 9007199254740992 := by
  simp [c2, Gen.bloomLn2Num, Gen.bloomLn2Den]

theorem cms_c2_eq : (Gen.cmsLn2Num : ℝ) / (Gen.cmsLn2Den : ℝ) = c2 := by
  simp [c2, Gen.bloomLn2Num, Gen.bloomLn2Den, Gen.cmsLn2Num, Gen.cmsLn2Den]

theorem c1_bounds : 48 / 100 ≤ c1 ∧ c1 ≤ 481 / 1000 := by
  rw [c1_eq]; constructor <;> norm_num

theorem c2_bounds : 693 / 1000 ≤ c2 ∧ c2 ≤ 6932 / 10000 := by
  rw [c2_eq]; constructor <;> norm_num

theorem c1_pos : 0 < c1 := lt_of_lt_of_le (by norm_num) c1_bounds.1
theorem c2_pos : 0 < c2 := lt_of_lt_of_le (by norm_num) c2_bounds.1

theorem roundHalfEven_cases (x : ℝ) :
    (roundHalfEven x = ⌊x⌋ ∧ x - ⌊x⌋ ≤ 1 / 2) ∨ (roundHalfEven x = ⌊x⌋ + 1 ∧ 1 / 2 ≤ x - ⌊x⌋) := by
  unfold roundHalfEven
  simp only
  split_ifs with ha hb hc
  · exact .inl ⟨rfl, ha.le⟩
  · exact .inr ⟨rfl, hb.le⟩
  · exact .inl ⟨rfl, not_lt.mp hb⟩
  · exact .inr ⟨rfl, not_lt.mp ha⟩

theorem abs_roundHalfEven_sub_le (x : ℝ) : |(roundHalfEven x : ℝ) - x| ≤ 1 / 2 := by
  have h1 : (⌊x⌋ : ℝ) ≤ x := Int.floor_le x
  rcases roundHalfEven_cases x with ⟨h, hr⟩ | ⟨h, hr⟩
  · rw [h, abs_sub_comm, abs_of_nonneg (sub_nonneg.mpr h1)]
    exact hr
  · have h2 : x < (⌊x⌋ : ℝ) + 1 := Int.lt_floor_add_one x
    rw [h, Int.cast_add, Int.cast_one, abs_of_nonneg (sub_nonneg.mpr h2.le)]
    linarith only [hr]

theorem roundHalfEven_eq_of_lt_half (f : Int) (x : ℝ) (h1 : (f : ℝ) ≤ x) (h2 : x < f + 1 / 2) :
    roundHalfEven x = f := by
  have hf : ⌊x⌋ = f :=
    Int.floor_eq_iff.mpr ⟨h1, h2.trans (add_lt_add_right one_half_lt_one _)⟩
  rcases roundHalfEven_cases x with ⟨h, _⟩ | ⟨_, hr⟩
  · rw [h, hf]
  · rw [hf] at hr
    exact absurd h2 (le_sub_iff_add_le'.mp hr).not_gt

theorem roundHalfEven_nonneg {x : ℝ} (hx : 0 ≤ x) : 0 ≤ roundHalfEven x := by
  have hf : 0 ≤ ⌊x⌋ := Int.floor_nonneg.mpr hx
  rcases roundHalfEven_cases x with ⟨h, _⟩ | ⟨h, _⟩
  · rw [h]; exact hf
  · rw [h]; exact Int.add_nonneg hf Int.one_nonneg

theorem roundHalfEven_nonpos {x : ℝ} (hx : x ≤ 0) : roundHalfEven x ≤ 0 := by
  have h := (abs_le.mp (abs_roundHalfEven_sub_le x)).2
  have : (roundHalfEven x : ℝ) < 1 := by linarith only [h, hx]
  exact Int.lt_add_one_iff.mp (by exact_mod_cast this)

theorem ceil_div_spec {x y : ℝ} (hx : 0 < x) (hy : 0 < y) :
    0 < ⌈x / y⌉ ∧ x ≤ (⌈x / y⌉ : ℝ) * y :=
  ⟨Int.ceil_pos.mpr (div_pos hx hy), (div_le_iff₀ hy).mp (Int.le_ceil _)⟩

theorem toNat_cast_real {z : Int} (hz : 0 ≤ z) : ((z.toNat : Nat) : ℝ) = (z : ℝ) := by
  rw [← Int.cast_natCast, Int.toNat_of_nonneg hz]

section unfold
variable (nr : ℝ → ℝ)

@[simp] theorem rl_ofInt (i : Int) : @RealLike.ofInt ℝ (realLikeWith nr) i = (i : ℝ) := rfl
@[simp] theorem rl_const (b : UInt64) (num den : Nat) :
    @RealLike.const ℝ (realLikeWith nr) b num den = (num : ℝ) / (den : ℝ) := rfl
@[simp] theorem rl_add (a b : ℝ) : @RealLike.add ℝ (realLikeWith nr) a b = a + b := rfl
@[simp] theorem rl_sub (a b : ℝ) : @RealLike.sub ℝ (realLikeWith nr) a b = a - b := rfl
@[simp] theorem rl_mul (a b : ℝ) : @RealLike.mul ℝ (realLikeWith nr) a b = a * b := rfl
@[simp] theorem rl_div (a b : ℝ) : @RealLike.div ℝ (realLikeWith nr) a b = a / b := rfl
@[simp] theorem rl_neg (a : ℝ) : @RealLike.neg ℝ (realLikeWith nr) a = -a := rfl
@[simp] theorem rl_log (a : ℝ) : @RealLike.log ℝ (realLikeWith nr) a = Real.log a := rfl
@[simp] theorem rl_exp (a : ℝ) : @RealLike.exp ℝ (realLikeWith nr) a = Real.exp a := rfl
@[simp] theorem rl_log2 (a : ℝ) : @RealLike.log2 ℝ (realLikeWith nr) a = Real.logb 2 a := rfl
@[simp] theorem rl_pow (a b : ℝ) : @RealLike.pow ℝ (realLikeWith nr) a b = a ^ b := rfl
@[simp] theorem rl_ceilInt (a : ℝ) : @RealLike.ceilInt ℝ (realLikeWith nr) a = ⌈a⌉ := rfl
@[simp] theorem rl_truncInt (a : ℝ) :
    @RealLike.truncInt ℝ (realLikeWith nr) a = if a < 0 then ⌈a⌉ else ⌊a⌋ := rfl
@[simp] theorem rl_roundInt (a : ℝ) :
    @RealLike.roundInt ℝ (realLikeWith nr) a = roundHalfEven a := rfl
@[simp] theorem rl_narrow32 (a : ℝ) : @RealLike.narrow32 ℝ (realLikeWith nr) a = nr a := rfl
@[simp] theorem rl_lt (a b : ℝ) : @RealLike.lt ℝ (realLikeWith nr) a b = decide (a < b) := rfl
@[simp] theorem rl_le (a b : ℝ) : @RealLike.le ℝ (realLikeWith nr) a b = decide (a ≤ b) := rfl

theorem ofNat_real (n : Nat) : @RealLike.ofNat ℝ (realLikeWith nr) n = (n : ℝ) := by
  simp [RealLike.ofNat]

theorem bloomBits_real (n : Nat) (t : ℝ) :
    @bloomBits ℝ (realLikeWith nr) n t = ⌈(-(n : ℝ) * Real.log t) / c1⌉ := by
  simp [bloomBits, bloomLn2Sq, RealLike.ofNat, c1]

theorem bloomHashes_real (n : Nat) (m : Int) :
    @bloomHashes ℝ (realLikeWith nr) n m = roundHalfEven (c2 * (m : ℝ) / (n : ℝ)) := by
  simp [bloomHashes, bloomLn2, RealLike.ofNat, c2]

theorem cmsWidth_real (e : ℝ) : @cmsWidth ℝ (realLikeWith nr) e = ⌈(2 : ℝ) / e⌉ := by
  simp [cmsWidth]

theorem cmsDepth_real (c : ℝ) :
    @cmsDepth ℝ (realLikeWith nr) c = ⌈(-Real.log (1 - c)) / c2⌉ := by
  simp [cmsDepth, cmsLn2, cms_c2_eq]

theorem cuckooFpBits_real (e : ℝ) (b : Nat) :
    @cuckooFpBits ℝ (realLikeWith nr) e b
      = ⌈Real.logb 2 (1 / e) + Real.logb 2 (b : ℝ) + 1⌉ := by
  simp [cuckooFpBits, RealLike.ofNat]

theorem cuckooErrorRate_real (f b : Nat) :
    @cuckooErrorRate ℝ (realLikeWith nr) f b
      = 1 / (2 : ℝ) ^ ((f : ℝ) - (Real.logb 2 (b : ℝ) + 1)) := by
  simp [cuckooErrorRate, RealLike.ofNat]

theorem currentFpr_real (m k : Nat) (n : Int) :
    @currentFpr ℝ (realLikeWith nr) m k n
      = (1 - Real.exp ((((k : Int) * (-1) * n : Int) : ℝ) / (m : ℝ))) ^ (k : ℝ) := by
  simp [currentFpr, RealLike.ofNat]

theorem bloomParams_real (n : Int) (p : ℝ) :
    @bloomParams ℝ (realLikeWith nr) n p =
      if n ≤ 0 then .error .initError
      else if ¬ (0 ≤ p ∧ p < 1) then .error .initError
      else if ¬ (0 < nr p) then .error .valueError
      else if bloomHashes (α := ℝ) n.toNat (bloomBits (α := ℝ) n.toNat (nr p)) = 0 then
        .error .initError
      else .ok (nr p,
                (bloomHashes (α := ℝ) n.toNat (bloomBits (α := ℝ) n.toNat (nr p))).toNat,
                (bloomBits (α := ℝ) n.toNat (nr p)).toNat) := by
  simp only [bloomParams, rl_le, rl_lt, rl_ofInt, rl_narrow32, Int.cast_zero, Int.cast_one,
    Bool.not_eq_true', Bool.and_eq_false_iff, decide_eq_false_iff_not, beq_iff_eq, not_and_or]
  -- bits and hashes are the same function whatever the narrowing
  rfl

end unfold

end PyProb
