/-
  The well-formedness conditions of the export formats are preserved by the update operations,
  count-min sketch family: bins stay within int32, array lengths never change.
-/
import PyProb.Lemmas.FormatsCms

namespace PyProb

def BinsOK (bins : List Int) : Prop := ∀ x ∈ bins, -2147483648 ≤ x ∧ x ≤ 2147483647

theorem BinsOK_iff {bins : List Int} : BinsOK bins ↔ ∀ x ∈ bins, -2147483648 ≤ x ∧ x ≤ 2147483647 := Iff.rfl

theorem BinsOK_getD {bins : List Int} (h : BinsOK bins) (k : Nat) :
    -2147483648 ≤ bins.getD k 0 ∧ bins.getD k 0 ≤ 2147483647 :=
  getD_of_forall_mem h (by decide) k

theorem BinsOK_set {bins : List Int} (h : BinsOK bins) (k : Nat) (v : Int) (hv : -2147483648 ≤ v ∧ v ≤ 2147483647) :
    BinsOK (bins.set k v) := by
  intro x hx
  rcases List.mem_or_eq_of_mem_set hx with hx | rfl
  · exact h x hx
  · exact hv

/-- only the ORDER of the library's limits and the cell's storage range matters below, not their values -/
theorem int32_limits : (-2147483648 : Int) ≤ Gen.int32Min ∧ Gen.int32Min ≤ 2147483647 ∧
    (-2147483648 : Int) ≤ Gen.int32Max ∧ Gen.int32Max ≤ 2147483647 := by decide

theorem cms_addLoop_ok (bins : List Int) (pairs : List (Nat × Int)) (acc : List Int) (h : BinsOK bins) :
    BinsOK (CMS.addLoop bins pairs acc).1 ∧ (CMS.addLoop bins pairs acc).1.length = bins.length := by
  induction pairs generalizing bins acc with
  | nil => exact ⟨h, rfl⟩
  | cons kv rest ih =>
      obtain ⟨k, v⟩ := kv
      obtain ⟨hmin, hmin0, hmax0, hmax⟩ := int32_limits
      simp only [CMS.addLoop, Gen.cmsAddClampCmp, Cmp.evalInt, decide_eq_true_eq]
      split
      · have := ih (bins.set k Gen.int32Max) (Gen.int32Max :: acc) (BinsOK_set h k _ (by omega))
        simpa using this
      · split
        · exact ⟨h, rfl⟩
        · have := ih (bins.set k v) (v :: acc) (BinsOK_set h k _ (by omega))
          simpa using this

theorem cms_removeLoop_ok (bins : List Int) (pairs : List (Nat × Int)) (acc : List Int) (h : BinsOK bins) :
    BinsOK (CMS.removeLoop bins pairs acc).1 ∧ (CMS.removeLoop bins pairs acc).1.length = bins.length := by
  induction pairs generalizing bins acc with
  | nil => exact ⟨h, rfl⟩
  | cons kv rest ih =>
      obtain ⟨k, v⟩ := kv
      obtain ⟨hmin, hmin0, hmax0, hmax⟩ := int32_limits
      simp only [CMS.removeLoop, Gen.cmsRemoveKeepCmp, Cmp.evalInt, decide_eq_true_eq]
      split
      · split
        · exact ⟨h, rfl⟩
        · have := ih (bins.set k v) (v :: acc) (BinsOK_set h k _ (by omega))
          simpa using this
      · have := ih (bins.set k Gen.int32Min) (Gen.int32Min :: acc) (BinsOK_set h k _ (by omega))
        simpa using this

theorem cms_addAlt_ok (c : CMS) (hs : List Nat) (n : Int) (h : BinsOK c.bins) :
    BinsOK (c.addAlt hs n).1.bins ∧ (c.addAlt hs n).1.bins.length = c.bins.length ∧
      (c.addAlt hs n).1.w = c.w ∧ (c.addAlt hs n).1.d = c.d := by
  unfold CMS.addAlt
  simp only
  split
  · exact ⟨h, rfl, rfl, rfl⟩
  · have := cms_addLoop_ok c.bins ((c.binIdx hs).zip ((c.binIdx hs).map fun x => c.bins.getD x 0 + n)) [] h
    generalize CMS.addLoop c.bins ((c.binIdx hs).zip ((c.binIdx hs).map fun x => c.bins.getD x 0 + n)) [] = r at this
    obtain ⟨bins, vals, err⟩ := r
    cases err <;> exact ⟨this.1, this.2, rfl, rfl⟩

theorem cms_removeAlt_ok (c : CMS) (hs : List Nat) (n : Int) (h : BinsOK c.bins) :
    BinsOK (c.removeAlt hs n).1.bins ∧ (c.removeAlt hs n).1.bins.length = c.bins.length ∧
      (c.removeAlt hs n).1.w = c.w ∧ (c.removeAlt hs n).1.d = c.d := by
  unfold CMS.removeAlt
  simp only
  split
  · exact ⟨h, rfl, rfl, rfl⟩
  · have := cms_removeLoop_ok c.bins ((c.binIdx hs).zip ((c.binIdx hs).map fun x => c.bins.getD x 0 - n)) [] h
    generalize CMS.removeLoop c.bins ((c.binIdx hs).zip ((c.binIdx hs).map fun x => c.bins.getD x 0 - n)) [] = r at this
    obtain ⟨bins, vals, err⟩ := r
    cases err <;> exact ⟨this.1, this.2, rfl, rfl⟩

end PyProb
