/-
  `_shift_insert` on an arbitrary table, slot by slot (no canonical-layout hypothesis): when the
  slots at distances `P, …, P + k - 1` are in use and the slot at distance `P + k` is empty, the
  loop moves their contents one slot to the right and the new element is stored at distance `P`
  (`Desc`).  Distances are counted from slot `e + 1` (`QFLin.io`), and nothing wraps around.
-/
import PyProb.Lemmas.QFExt
import PyProb.Lemmas.QFBasic

namespace PyProb.QFLin
open PyProb PyProb.QF

structure Holds (n e : Nat) (t : QF) (y : Nat) (s : QF) (x : Nat) : Prop where
  cont : bit t.cont (io n e y) = bit s.cont (io n e x)
  rem : t.remAt (io n e y) = s.remAt (io n e x)

theorem Holds.trans {n e : Nat} {t u s : QF} {y z x : Nat} (h₁ : Holds n e t y u z)
    (h₂ : Holds n e u z s x) : Holds n e t y s x :=
  ⟨h₁.cont.trans h₂.cont, h₁.rem.trans h₂.rem⟩

/-- the loop body: the contents of `ins` and `next` are exchanged, `next` becomes shifted -/
def step1 (s : QF) (ins next : Nat) : QF :=
  { s with
    cont := (s.cont.set next (bit s.cont ins)).set ins (bit s.cont next)
    shift := s.shift.set next true
    rem := (s.rem.set next (s.remAt ins)).set ins (s.remAt next) }

theorem shiftLoop_succ (ins fuel : Nat) (s : QF) (next : Nat) :
    shiftLoop ins (fuel + 1) s next =
      if s.isEmpty next = true then .ok (step1 s ins next)
      else shiftLoop ins fuel (step1 s ins next) ((step1 s ins next).nxt next) := rfl

section step
variable (s : QF) (n e P N : Nat)

theorem step1_ins (hn : 0 < n) (hlc : s.cont.length = n) (hlr : s.rem.length = n) :
    Holds n e (step1 s (io n e P) (io n e N)) P s N :=
  ⟨getD_set_eq (by rw [List.length_set, hlc]; exact io_lt n e P hn),
   getD_set_eq (by rw [List.length_set, hlr]; exact io_lt n e P hn)⟩

theorem step1_next (hn : 0 < n) (hlc : s.cont.length = n) (hlr : s.rem.length = n)
    (hPN : io n e P ≠ io n e N) : Holds n e (step1 s (io n e P) (io n e N)) N s P :=
  ⟨(getD_set_ne hPN).trans (getD_set_eq (by rw [hlc]; exact io_lt n e N hn)),
   (getD_set_ne hPN).trans (getD_set_eq (by rw [hlr]; exact io_lt n e N hn))⟩

theorem step1_shift_next (hn : 0 < n) (hls : s.shift.length = n) :
    bit (step1 s (io n e P) (io n e N)).shift (io n e N) = true :=
  getD_set_eq (by rw [hls]; exact io_lt n e N hn)

/-- away from the distances `P` and `N` the loop body changes nothing -/
theorem step1_away (hP : P < n) (hN : N < n) (y : Nat) (hy : y < n) (hyP : y ≠ P) (hyN : y ≠ N) :
    Holds n e (step1 s (io n e P) (io n e N)) y s y ∧
      bit (step1 s (io n e P) (io n e N)).shift (io n e y) = bit s.shift (io n e y) ∧
      (step1 s (io n e P) (io n e N)).isEmpty (io n e y) = s.isEmpty (io n e y) := by
  have h1 : io n e P ≠ io n e y := io_ne n e P y hP hy (Ne.symm hyP)
  have h2 : io n e N ≠ io n e y := io_ne n e N y hN hy (Ne.symm hyN)
  have hc : bit (step1 s (io n e P) (io n e N)).cont (io n e y) = bit s.cont (io n e y) :=
    (getD_set_ne h1).trans (getD_set_ne h2)
  have hs : bit (step1 s (io n e P) (io n e N)).shift (io n e y) = bit s.shift (io n e y) :=
    getD_set_ne h2
  refine ⟨⟨hc, (getD_set_ne h1).trans (getD_set_ne h2)⟩, hs, ?_⟩
  simp only [isEmpty, hc, hs]
  rfl

end step

/-- the shift loop started at distance `N` with the insertion slot at distance `P`, the first empty
    slot being at distance `E`: the contents of `N, …, E - 1` move one slot to the right, the
    content of `P` goes to `N` and the content of `E` goes to `P` -/
theorem shiftLoop_spec (n e P E : Nat) (hn : 0 < n) (hE : E < n) : ∀ (k : Nat) (s : QF) (N fuel : Nat),
    s.size = n → s.rem.length = n → s.cont.length = n → s.shift.length = n →
    P < N → N + k = E → k < fuel →
    (∀ y, N ≤ y → y < E → s.isEmpty (io n e y) = false) →
    s.isEmpty (io n e E) = true →
    ∃ t, shiftLoop (io n e P) fuel s (io n e N) = .ok t ∧ t.occ = s.occ ∧
      Holds n e t P s E ∧ Holds n e t N s P ∧
      (∀ y, N ≤ y → y < E → Holds n e t (y + 1) s y) ∧
      (∀ y, N ≤ y → y ≤ E → bit t.shift (io n e y) = true) ∧
      (∀ y, y < n → y ≠ P → (y < N ∨ E < y) →
        Holds n e t y s y ∧ bit t.shift (io n e y) = bit s.shift (io n e y)) := by
  intro k
  induction k with
  | zero =>
      intro s N fuel _ hlr hlc hls hPN hNE hfu _ hemp
      cases fuel with
      | zero => exact absurd hfu (Nat.not_lt_zero _)
      | succ fuel =>
      have hNE' : N = E := hNE
      subst hNE'
      have hPN' : io n e P ≠ io n e N := io_ne n e P N (Nat.lt_trans hPN hE) hE (Nat.ne_of_lt hPN)
      rw [shiftLoop_succ, if_pos hemp]
      refine ⟨_, rfl, rfl, step1_ins s n e P N hn hlc hlr, step1_next s n e P N hn hlc hlr hPN', ?_, ?_, ?_⟩
      · intro y h1 h2
        exact absurd h2 (Nat.not_lt.2 h1)
      · intro y h1 h2
        have : y = N := Nat.le_antisymm h2 h1
        subst this
        exact step1_shift_next s n e P y hn hls
      · intro y hy hyP hyN
        obtain ⟨h1, h2, _⟩ := step1_away s n e P N (Nat.lt_trans hPN hE) hE y hy hyP
          (hyN.elim Nat.ne_of_lt Nat.ne_of_gt)
        exact ⟨h1, h2⟩
  | succ k ih =>
      intro s N fuel hsz hlr hlc hls hPN hNE hfu hne hemp
      cases fuel with
      | zero => exact absurd hfu (Nat.not_lt_zero _)
      | succ fuel =>
      obtain ⟨hNE', hNE''⟩ : N + 1 + k = E ∧ N < E := by omega
      have hNn : N < n := Nat.lt_trans hNE'' hE
      have hPn : P < n := Nat.lt_trans hPN hNn
      have hPN' : io n e P ≠ io n e N := io_ne n e P N hPn hNn (Nat.ne_of_lt hPN)
      have hoff := step1_away s n e P N hPn hNn
      have hoffE := hoff E hE (Nat.ne_of_gt (Nat.lt_trans hPN hNE'')) (Nat.ne_of_gt hNE'')
      rw [shiftLoop_succ, if_neg (by rw [hne N (Nat.le_refl _) hNE'']; exact Bool.false_ne_true),
        nxt_io _ n e N (show (step1 s (io n e P) (io n e N)).size = n from hsz)]
      obtain ⟨t, ht, tocc, tP, tN, tmv, tsh, toth⟩ :=
        ih (step1 s (io n e P) (io n e N)) (N + 1) fuel hsz
          (by simp only [step1, List.length_set]; exact hlr)
          (by simp only [step1, List.length_set]; exact hlc)
          (by simp only [step1, List.length_set]; exact hls)
          (Nat.lt_succ_of_lt hPN) hNE' (Nat.lt_of_succ_lt_succ hfu)
          (by intro y h1 h2
              obtain ⟨h3, h4, h5⟩ : y ≠ P ∧ y ≠ N ∧ N ≤ y := by omega
              exact (hoff y (Nat.lt_trans h2 hE) h3 h4).2.2.trans (hne y h5 h2))
          (hoffE.2.2.trans hemp)
      refine ⟨t, ht, tocc, tP.trans hoffE.1, ?_, ?_, ?_, ?_⟩
      · exact (toth N hNn (Nat.ne_of_gt hPN) (Or.inl (Nat.lt_succ_self N))).1.trans
          (step1_next s n e P N hn hlc hlr hPN')
      · intro y h1 h2
        by_cases hy : y = N
        · subst hy
          exact tN.trans (step1_ins s n e P y hn hlc hlr)
        · obtain ⟨h3, h4⟩ : y ≠ P ∧ N + 1 ≤ y := by omega
          exact (tmv y h4 h2).trans (hoff y (Nat.lt_trans h2 hE) h3 hy).1
      · intro y h1 h2
        by_cases hy : y = N
        · subst hy
          rw [(toth y hNn (Nat.ne_of_gt hPN) (Or.inl (Nat.lt_succ_self y))).2]
          exact step1_shift_next s n e P y hn hls
        · exact tsh y (Nat.lt_of_le_of_ne h1 (Ne.symm hy)) h2
      · intro y hy hyP hyN
        obtain ⟨h1, h2⟩ : y ≠ N ∧ (y < N + 1 ∨ E < y) := by omega
        obtain ⟨h3, h4, _⟩ := hoff y hy hyP h1
        obtain ⟨h5, h6⟩ := toth y hy hyP h2
        exact ⟨h5.trans h3, h6.trans h4⟩

/-- the table `t` is the table `s` with a new element of home distance `D` and remainder `rr` stored
    at distance `P`, the old contents of `P, …, P + k - 1` moved one slot to the right; `nc` is the
    continuation bit of the new element and `fl` says whether the element behind it is forced to be
    a continuation -/
structure Desc (t s : QF) (n e P k D rr : Nat) (nc fl : Bool) : Prop where
  occ_home : bit t.occ (io n e D) = true
  occ : ∀ y, y < n → y ≠ D → bit t.occ (io n e y) = bit s.occ (io n e y)
  cont : bit t.cont (io n e P) = nc
  shift : bit t.shift (io n e P) = decide (P ≠ D)
  rem : t.remAt (io n e P) = rr
  cont_next : 1 ≤ k → bit t.cont (io n e (P + 1)) = (fl || bit s.cont (io n e P))
  cont_moved : ∀ y, P < y → y < P + k → bit t.cont (io n e (y + 1)) = bit s.cont (io n e y)
  shift_moved : ∀ y, P ≤ y → y < P + k → bit t.shift (io n e (y + 1)) = true
  rem_moved : ∀ y, P ≤ y → y < P + k → t.remAt (io n e (y + 1)) = s.remAt (io n e y)
  other : ∀ y, y < n → (y < P ∨ P + k < y) →
    Holds n e t y s y ∧ bit t.shift (io n e y) = bit s.shift (io n e y)

/-- `place` alone: nothing is moved -/
theorem place_desc (s : QF) (n e P D rr orig : Nat) (fl : Bool) (hn : 0 < n)
    (hlr : s.rem.length = n) (hlo : s.occ.length = n) (hlc : s.cont.length = n) (hls : s.shift.length = n)
    (hP : P < n) (hD : D < n) :
    Desc (s.place (io n e D) rr orig (io n e P)) s n e P 0 D rr (io n e P != orig) fl := by
  have hioP : io n e P < n := io_lt n e P hn
  refine ⟨getD_set_eq (by rw [hlo]; exact io_lt n e D hn),
    fun y hy h => getD_set_ne (io_ne n e D y hD hy (Ne.symm h)),
    getD_set_eq (by rw [hlc]; exact hioP), ?_,
    getD_set_eq (by rw [hlr]; exact hioP),
    fun h => absurd h (Nat.not_succ_le_zero 0),
    fun y h1 h2 => absurd h2 (Nat.not_lt.2 (Nat.le_of_lt h1)),
    fun y h1 h2 => absurd h2 (Nat.not_lt.2 h1), fun y h1 h2 => absurd h2 (Nat.not_lt.2 h1), ?_⟩
  · refine (getD_set_eq (by rw [hls]; exact hioP)).trans ?_
    by_cases h : P = D
    · subst h
      simp
    · simp [h, io_ne n e P D hP hD h]
  · intro y hy h
    have hne := io_ne n e P y hP hy (Ne.symm (h.elim Nat.ne_of_lt Nat.ne_of_gt))
    exact ⟨⟨getD_set_ne hne, getD_set_ne hne⟩,
      getD_set_ne hne⟩

/-- the last statement of `_shift_insert`: the slot behind the new element becomes a continuation -/
theorem Desc.setFlag {t s : QF} {n e P k D rr : Nat} {nc : Bool} (h : Desc t s n e P k D rr nc false)
    (hlc : t.cont.length = n) (hk : 1 ≤ k) (hPk : P + k < n) :
    Desc { t with cont := t.cont.set (io n e (P + 1)) true } s n e P k D rr nc true := by
  have hP1 : P + 1 < n := by omega
  have hne : ∀ y, y < n → y ≠ P + 1 →
      bit (t.cont.set (io n e (P + 1)) true) (io n e y) = bit t.cont (io n e y) :=
    fun y hy h1 => getD_set_ne (io_ne n e (P + 1) y hP1 hy (Ne.symm h1))
  refine ⟨h.occ_home, h.occ,
    (hne P (Nat.lt_of_succ_lt hP1) (Nat.ne_of_lt (Nat.lt_succ_self P))).trans h.cont, h.shift, h.rem,
    ?_, ?_, h.shift_moved, h.rem_moved, ?_⟩
  · intro _
    exact getD_set_eq (by rw [hlc]; exact io_lt n e (P + 1) (Nat.zero_lt_of_lt hP1))
  · intro y h1 h2
    obtain ⟨h3, h4⟩ : y + 1 < n ∧ y + 1 ≠ P + 1 := by omega
    exact (hne (y + 1) h3 h4).trans (h.cont_moved y h1 h2)
  · intro y hy hy'
    obtain ⟨h1, h2⟩ := h.other y hy hy'
    have h3 : y ≠ P + 1 := by omega
    exact ⟨⟨(hne y hy h3).trans h1.cont, h1.rem⟩, h2⟩

/-- `_shift_insert` at distance `P` when `P, …, P + k - 1` are in use and `P + k` is empty -/
theorem shiftInsert_desc (s : QF) (n e P k D rr orig : Nat) (flag : Bool) (hn : 0 < n)
    (hsz : s.size = n) (hlr : s.rem.length = n) (hlo : s.occ.length = n) (hlc : s.cont.length = n)
    (hls : s.shift.length = n) (hPk : P + k < n) (hD : D < n)
    (hne : ∀ y, P ≤ y → y < P + k → s.isEmpty (io n e y) = false)
    (hemp : s.isEmpty (io n e (P + k)) = true) :
    ∃ t, shiftInsert s (io n e D) rr orig (io n e P) flag = .ok t ∧
      Desc t s n e P k D rr (io n e P != orig) flag := by
  have hP : P < n := Nat.lt_of_le_of_lt (Nat.le_add_right P k) hPk
  cases k with
  | zero =>
      have hemp' : s.isEmpty (io n e P) = true := hemp
      exact ⟨s.place (io n e D) rr orig (io n e P), by simp only [shiftInsert, hemp', if_true],
        place_desc s n e P D rr orig flag hn hlr hlo hlc hls hP hD⟩
  | succ k =>
      obtain ⟨t, ht, tocc, _, tN, tmv, tsh, toth⟩ :=
        shiftLoop_spec n e P (P + (k + 1)) hn hPk k s (P + 1) s.fuelOf hsz hlr hlc hls
          (Nat.lt_succ_self P) (Nat.add_right_comm P 1 k) (by simp only [fuelOf, hsz]; omega)
          (fun y h1 h2 => hne y (Nat.le_of_succ_le h1) h2) hemp
      have hsh := shiftLoop_keeps _ _ _ _ _ ht
      have tlc : t.cont.length = n := hsh.cont.trans hlc
      -- the table after the loop and `place`
      have hp := place_desc t n e P D rr orig false hn (hsh.rem.trans hlr) (hsh.occ.trans hlo) tlc
        (hsh.shift.trans hls) hP hD
      have hpl : ∀ y, y < n → y ≠ P → Holds n e (t.place (io n e D) rr orig (io n e P)) y t y ∧
          bit (t.place (io n e D) rr orig (io n e P)).shift (io n e y) = bit t.shift (io n e y) :=
        fun y hy h => hp.other y hy (Nat.lt_or_gt_of_ne h)
      have hmv : ∀ y, P ≤ y → y < P + (k + 1) → y + 1 < n ∧ y + 1 ≠ P := by
        intro y h1 h2
        omega
      have key : Desc (t.place (io n e D) rr orig (io n e P)) s n e P (k + 1) D rr
          (io n e P != orig) false := by
        refine ⟨hp.occ_home, fun y hy h => (hp.occ y hy h).trans (by rw [tocc]), hp.cont, hp.shift,
          hp.rem, ?_, ?_, ?_, ?_, ?_⟩
        · intro h
          obtain ⟨h1, h2⟩ := hmv P (Nat.le_refl P) (Nat.lt_add_of_pos_right h)
          rw [Bool.false_or]
          exact ((hpl (P + 1) h1 h2).1.trans tN).cont
        · intro y h1 h2
          obtain ⟨h3, h4⟩ := hmv y (Nat.le_of_lt h1) h2
          exact ((hpl (y + 1) h3 h4).1.trans (tmv y h1 h2)).cont
        · intro y h1 h2
          obtain ⟨h3, h4⟩ := hmv y h1 h2
          rw [(hpl (y + 1) h3 h4).2]
          exact tsh (y + 1) (Nat.succ_le_succ h1) h2
        · intro y h1 h2
          obtain ⟨h3, h4⟩ := hmv y h1 h2
          refine ((hpl (y + 1) h3 h4).1.trans ?_).rem
          by_cases hy : y = P
          · subst hy
            exact tN
          · exact tmv y (Nat.lt_of_le_of_ne h1 (Ne.symm hy)) h2
        · intro y hy h
          obtain ⟨h0, h0'⟩ : y ≠ P ∧ (y < P + 1 ∨ P + (k + 1) < y) := by omega
          obtain ⟨h1, h2⟩ := hpl y hy h0
          obtain ⟨h3, h4⟩ := toth y hy h0 h0'
          exact ⟨h1.trans h3, h2.trans h4⟩
      have hnx : s.nxt (io n e P) = io n e (P + 1) := nxt_io s n e P hsz
      have hnx' : (t.place (io n e D) rr orig (io n e P)).nxt (io n e P) = io n e (P + 1) :=
        nxt_io _ n e P (hsh.size.trans hsz)
      have hneP : s.isEmpty (io n e P) = false := hne P (Nat.le_refl _) (Nat.lt_add_of_pos_right (Nat.succ_pos k))
      simp only [shiftInsert, hneP, Bool.false_eq_true, if_false, hnx, ht, hnx']
      refine ⟨_, rfl, ?_⟩
      cases flag with
      | false => exact key
      | true =>
          exact key.setFlag (by simp only [place, List.length_set]; exact tlc) (Nat.le_add_left 1 k) hPk

end PyProb.QFLin
