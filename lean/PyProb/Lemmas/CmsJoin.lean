/-
  Histories of `add_alt` calls on a count-min sketch (`Model/CMS.lean`) and the exact, unclamped
  figures they stand for: `cmsTot w j xs`, what the history `xs` adds to bin `j`, and `cmsAmt xs`,
  what it adds to the total.  C12 states in these terms when nothing is clamped.
-/
import PyProb.Lemmas.CmsCore

namespace PyProb

/-- `binIdx` depends on the width only: `c.binIdx hs` unfolds to `cmsIdx c.w hs` -/
def cmsIdx (w : Nat) (hs : List Nat) : List Nat :=
  (List.range hs.length).zipWith (fun i v => v % w + i * w) hs

def cmsHit (idx : List Nat) (n : Int) (j : Nat) : Int := if j ∈ idx then n else 0

def CMS.runAdds (c : CMS) (xs : List (List Nat × Int)) : CMS :=
  xs.foldl (fun c p => (c.addAlt p.1 p.2).1) c

def cmsTot (w j : Nat) : List (List Nat × Int) → Int
  | [] => 0
  | p :: xs => cmsHit (cmsIdx w p.1) p.2 j + cmsTot w j xs

def cmsAmt : List (List Nat × Int) → Int
  | [] => 0
  | p :: xs => p.2 + cmsAmt xs

theorem cmsTot_append (w j : Nat) (xs ys : List (List Nat × Int)) :
    cmsTot w j (xs ++ ys) = cmsTot w j xs + cmsTot w j ys := by
  induction xs with
  | nil => simp [cmsTot]
  | cons p xs ih => simp only [List.cons_append, cmsTot, ih]; omega

theorem cmsAmt_append (xs ys : List (List Nat × Int)) : cmsAmt (xs ++ ys) = cmsAmt xs + cmsAmt ys := by
  induction xs with
  | nil => simp [cmsAmt]
  | cons p xs ih => simp only [List.cons_append, cmsAmt, ih]; omega

theorem cmsHit_bounds (idx : List Nat) (n : Int) (j : Nat) (hn : 0 ≤ n) : 0 ≤ cmsHit idx n j ∧ cmsHit idx n j ≤ n := by
  unfold cmsHit; split <;> omega

theorem cmsTot_bounds (w j : Nat) (xs : List (List Nat × Int)) (hn : ∀ p ∈ xs, 0 ≤ p.2) :
    0 ≤ cmsTot w j xs ∧ cmsTot w j xs ≤ cmsAmt xs := by
  induction xs with
  | nil => simp [cmsTot, cmsAmt]
  | cons p xs ih =>
      have := ih (fun q hq => hn q (by simp [hq]))
      have h2 := cmsHit_bounds (cmsIdx w p.1) p.2 j (hn p (by simp))
      simp only [cmsTot, cmsAmt]; omega

theorem cmsAmt_nonneg (xs : List (List Nat × Int)) (hn : ∀ p ∈ xs, 0 ≤ p.2) : 0 ≤ cmsAmt xs :=
  Int.le_trans (cmsTot_bounds 0 0 xs hn).1 (cmsTot_bounds 0 0 xs hn).2

end PyProb
