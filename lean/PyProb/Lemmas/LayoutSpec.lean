/-
  Bridges between the model's codecs (`Model/Base.lean`, `Model/Bitarray.lean`) and the
  independently written layout specification (`Spec/Layout.lean`).

  One module per data-structure family (plus a family-independent one); this module gathers them.
-/
import PyProb.Lemmas.LayoutSpecCommon
import PyProb.Lemmas.LayoutSpecBloom
import PyProb.Lemmas.LayoutSpecCms
import PyProb.Lemmas.LayoutSpecCuckoo
