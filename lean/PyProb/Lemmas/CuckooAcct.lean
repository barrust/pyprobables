/-
  `Acct` = the counter invariant `CountInv` (`_inserted_elements`, `__unique_elements`) together with
  "fingerprint 0 is not stored".  Needed by the export round trip (C05): the loader recomputes both
  counters from the table and takes a zero fingerprint for an empty slot.  The second part is kept
  because every operation leaves the bins of other fingerprints alone and `fingerprint` never returns 0.
-/
import PyProb.Lemmas.CuckooOps

namespace PyProb.Cuckoo
open PyProb

def uInc (c : Cuckoo) : Int := if c.counting then 1 else 0

structure Acct (c : Cuckoo) : Prop where
  fpPos : tsum (isFp 0) c = 0
  count : c.count = ((tsum (·.2) c : Nat) : Int)
  unique : c.unique = uInc c * ((tsum (fun _ => 1) c : Nat) : Int)

theorem acct_iff (c : Cuckoo) : Acct c ↔ tsum (isFp 0) c = 0 ∧ CountInv c := by
  constructor
  · rintro ⟨h0, h1, h2⟩
    refine ⟨h0, h1, fun hc => ?_, fun hc => ?_⟩
    · rw [h2]; simp [uInc, hc]
    · rw [h2]; simp [uInc, hc]
  · rintro ⟨h0, h1, h2, h3⟩
    refine ⟨h0, h1, ?_⟩
    cases hc : c.counting with
    | true => rw [h2 hc]; simp [uInc, hc]
    | false => rw [h3 hc]; simp [uInc, hc]

theorem fingerprint_pos (c : Cuckoo) (h : Nat) : 0 < c.fingerprint h := by
  unfold fingerprint
  simp only
  split
  · decide
  · rename_i hne
    have : h % 2 ^ c.fpBits ≠ 0 := by simpa using hne
    omega

theorem isFp_zero_off (c : Cuckoo) (h : Nat) (b : CBin) (hb : b.1 = c.fingerprint h) : isFp 0 b = 0 :=
  if_neg (by have := fingerprint_pos c h; omega)

theorem acct_new (counting : Bool) (cap b maxSwaps rate : Nat) (auto : Bool) (fpBits : Nat) :
    Acct (Cuckoo.new counting cap b maxSwaps rate auto fpBits) :=
  (acct_iff _).mpr ⟨tsum_empty_table _ _ cap rfl, CountInv_new counting cap b maxSwaps rate auto fpBits⟩

theorem acct_add {G : Nat → Nat} {c : Cuckoo} (h : Nat) (o : List Nat) (hw : WF G c) (ha : Acct c) :
    Acct (add G c h o).1 := by
  obtain ⟨h0, hc⟩ := (acct_iff c).mp ha
  refine (acct_iff _).mpr ⟨?_, add_countInv h o hw hc⟩
  rcases add_spec h o hw.toTab hw.rate_pos with ⟨_, _, _, _, hrest, _⟩ | ⟨_, hsame⟩
  · rw [hrest _ (isFp_zero_off c h), h0]
  · rw [hsame, h0]

theorem acct_remove {G : Nat → Nat} {c : Cuckoo} (h : Nat) (hw : WF G c) (ha : Acct c) :
    Acct (remove G c h).1 := by
  obtain ⟨h0, hc⟩ := (acct_iff c).mp ha
  refine (acct_iff _).mpr ⟨?_, remove_countInv h hw hc⟩
  rcases remove_spec h hw.toTab with ⟨_, _, _, _, hrest, _⟩ | ⟨_, hsame, _⟩
  · rw [hrest _ (isFp_zero_off c h), h0]
  · rw [hsame, h0]

theorem acct_expand {G : Nat → Nat} {c : Cuckoo} (o : List Nat) (hw : WF G c) (ha : Acct c) :
    Acct (expandLogic G c none o).1 := by
  obtain ⟨h0, hc⟩ := (acct_iff c).mp ha
  refine (acct_iff _).mpr ⟨?_, expandLogic_countInv none o hw.ts hw.rate_pos hc⟩
  rcases expand_spec o hw.toTab hw.rate_pos with ⟨_, _, _, _, hall⟩ | ⟨_, hsame⟩
  · rw [hall, h0]
  · rw [hsame, h0]

end PyProb.Cuckoo
