/-
  Cross-property corollary (counting cuckoo filter): exact counts survive export + load.
  `C08_ccf_exact_with_kicks` and the export round trip of C05 are combined: a state reached by a history
  from `new` satisfies the table invariant of C15 (`ccf_run_reachable`) and `Cuckoo.Acct`, hence `CuckooWF`,
  hence `load template (export c)` gives back all that the format stores; the rest comes from the
  template.  `check` reads only `fpBits`, `cap` and the table, so for the counts to stay exact the template
  has to carry the same `fpBits` and be a COUNTING filter (`counting` decides the cell width the loader
  parses); with the same `rate` and `auto` as well the loaded state is EQUAL to the exported one.
-/
import PyProb.Properties.C05_cuckoo
import PyProb.Properties.C08

namespace PyProb.Corollaries
open PyProb PyProb.Cuckoo
open PyProb.Ccf (outstanding AllAddsOk)

theorem ccf_run_reachable (G : Nat → Nat) (ops : List Ccf.Op) (c : Cuckoo) (oracle : List Nat) :
    ∃ ops', (Ccf.run G c oracle ops).1 = C15.run G c ops' := by
  induction ops generalizing c oracle with
  | nil => exact ⟨[], rfl⟩
  | cons op ops ih =>
    obtain ⟨ops', e⟩ := ih (Ccf.step G (c, oracle) op).1 (Ccf.step G (c, oracle) op).2
    cases op with
    | add h => exact ⟨(.add h, oracle) :: ops', e⟩
    | remove h => exact ⟨(.remove h, oracle) :: ops', e⟩

theorem ccf_run_wf (G : Nat → Nat) (cap b maxSwaps rate : Nat) (auto : Bool) (fpBits : Nat)
    (hcap : 0 < cap) (hb : 0 < b) (hrate : 0 < rate) (oracle : List Nat) (ops : List Ccf.Op) :
    C05.CuckooWF (Ccf.run G (Cuckoo.new true cap b maxSwaps rate auto fpBits) oracle ops).1 := by
  obtain ⟨ops', e⟩ := ccf_run_reachable G ops (Cuckoo.new true cap b maxSwaps rate auto fpBits) oracle
  have h0 := C15.C15_init G true cap b maxSwaps rate auto fpBits hcap hb hrate
  rw [e]
  exact C05.C05_cuckoo_wf_of_inv G _ (C15.C15_run G _ ops' h0)
    (C05.C05_cuckoo_acct_run G _ ops' h0 (acct_new true cap b maxSwaps rate auto fpBits))

private theorem loaded_inv (G : Nat → Nat) (template c : Cuckoo) (inv : Ccf.Inv G c)
    (hcount : template.counting = true) :
    Ccf.Inv G { template with cap := c.cap, b := c.b, maxSwaps := c.maxSwaps, buckets := c.buckets,
                              count := c.count, unique := c.unique } := by
  obtain ⟨_, h2, h3, h4, h5, h6⟩ := inv
  exact ⟨hcount, h2, h3, h4, h5, h6⟩

/-- **Exact counts survive export + load.**  `c`: the state of a `CountingCuckooFilter` after any history
    of add / remove in which no call raised (evictions and automatic expansions allowed).  Loading its
    export into ANY counting template with the same fingerprint width succeeds, gives back the table, the
    capacity, the bucket size, the swap limit and both element counters, the invariant holds again, and
    `check` of every key equals the outstanding additions of the keys sharing its fingerprint. -/
theorem ccf_reload_exact (G : Nat → Nat) (cap b maxSwaps rate : Nat) (auto : Bool) (fpBits : Nat)
    (hcap : 0 < cap) (hb : 0 < b) (hrate : 0 < rate) (oracle : List Nat) (ops : List Ccf.Op)
    (hok : AllAddsOk G (Cuckoo.new true cap b maxSwaps rate auto fpBits, oracle) ops)
    (template : Cuckoo) (hcount : template.counting = true) (hfp : template.fpBits = fpBits)
    (bytes : Bytes)
    (hexp : (Ccf.run G (Cuckoo.new true cap b maxSwaps rate auto fpBits) oracle ops).1.exportBytes
      = .ok bytes) :
    let c := (Ccf.run G (Cuckoo.new true cap b maxSwaps rate auto fpBits) oracle ops).1
    ∃ c', Cuckoo.load template bytes = .ok c' ∧
      c'.buckets = c.buckets ∧ c'.cap = c.cap ∧ c'.b = b ∧ c'.maxSwaps = maxSwaps ∧
      c'.count = c.count ∧ c'.unique = c.unique ∧
      c'.counting = true ∧ c'.fpBits = fpBits ∧ c'.rate = template.rate ∧ c'.auto = template.auto ∧
      Ccf.Inv G c' ∧
      (∀ h, check G c' h = check G c h) ∧
      (∀ h, check G c' h =
        outstanding (Cuckoo.new true cap b maxSwaps rate auto fpBits).fingerprint ops
          ((Cuckoo.new true cap b maxSwaps rate auto fpBits).fingerprint h)) ∧
      (template.rate = rate → template.auto = auto → c' = c) := by
  intro c
  obtain ⟨ri, rs, rc⟩ := C08.C08_ccf_exact_any G cap b maxSwaps rate auto fpBits hcap hrate oracle ops hok
  have wf : C05.CuckooWF c := ccf_run_wf G cap b maxSwaps rate auto fpBits hcap hb hrate oracle ops
  obtain ⟨s1, s2, s3, s4, s5, s6⟩ := rs
  change c.counting = true at s1
  change c.b = b at s2
  change c.maxSwaps = maxSwaps at s3
  change c.rate = rate at s4
  change c.auto = auto at s5
  change c.fpBits = fpBits at s6
  change Ccf.Inv G c at ri
  change ∀ h, check G c h = _ at rc
  have hload := C05.C05_cuckoo_roundtrip template c bytes wf (hcount.trans s1.symm) hexp
  have inv' := loaded_inv G template c ri hcount
  refine ⟨_, hload, rfl, rfl, s2, s3, rfl, rfl, hcount, hfp, rfl, rfl, inv', ?_, ?_, ?_⟩
  · intro h
    exact check_congr G h (hfp.trans s6.symm) rfl rfl
  · intro h
    rw [← rc h]
    exact check_congr G h (hfp.trans s6.symm) rfl rfl
  · intro hr hau
    exact Same.eq_of_table ⟨hcount.trans s1.symm, rfl, rfl, rfl, hr.trans s4.symm, hau.trans s5.symm,
      hfp.trans s6.symm⟩ rfl rfl rfl

/-- **… and stay exact afterwards.**  A history `ops₁`, then export + load into a counting template
    with the same fingerprint width (its `rate ≥ 1` and `auto` may differ from the original filter's:
    they are not stored), then a further history `ops₂`, no call raising: `check` of every key equals the
    outstanding additions over `ops₁ ++ ops₂`. -/
theorem ccf_reload_history (G : Nat → Nat) (cap b maxSwaps rate : Nat) (auto : Bool) (fpBits : Nat)
    (hcap : 0 < cap) (hb : 0 < b) (hrate : 0 < rate) (oracle₁ : List Nat) (ops₁ : List Ccf.Op)
    (hok₁ : AllAddsOk G (Cuckoo.new true cap b maxSwaps rate auto fpBits, oracle₁) ops₁)
    (template : Cuckoo) (hcount : template.counting = true) (hfp : template.fpBits = fpBits)
    (htr : 0 < template.rate) (bytes : Bytes)
    (hexp : (Ccf.run G (Cuckoo.new true cap b maxSwaps rate auto fpBits) oracle₁ ops₁).1.exportBytes
      = .ok bytes)
    (c' : Cuckoo) (hload : Cuckoo.load template bytes = .ok c')
    (oracle₂ : List Nat) (ops₂ : List Ccf.Op) (hok₂ : AllAddsOk G (c', oracle₂) ops₂) (h : Nat) :
    check G (Ccf.run G c' oracle₂ ops₂).1 h =
      outstanding (Cuckoo.new true cap b maxSwaps rate auto fpBits).fingerprint (ops₁ ++ ops₂)
        ((Cuckoo.new true cap b maxSwaps rate auto fpBits).fingerprint h) := by
  obtain ⟨c'', hl, hbk, _, _, _, _, _, _, hfp', hrate', _, inv', _, _, _⟩ :=
    ccf_reload_exact G cap b maxSwaps rate auto fpBits hcap hb hrate oracle₁ ops₁ hok₁ template hcount
      hfp bytes hexp
  rw [hload] at hl
  injection hl with hl
  subst hl
  obtain ⟨ri₁, rs₁, rc₁⟩ := Ccf.ccf_run_any (Ccf.inv_new G cap b maxSwaps rate auto fpBits hcap) hrate
    oracle₁ ops₁ hok₁
  obtain ⟨ri₂, rs₂, rc₂⟩ := Ccf.ccf_run_any inv' (by rw [hrate']; exact htr) oracle₂ ops₂ hok₂
  have hfpfun : c'.fingerprint = (Cuckoo.new true cap b maxSwaps rate auto fpBits).fingerprint :=
    funext (fingerprint_congr (c := Cuckoo.new true cap b maxSwaps rate auto fpBits) hfp')
  have hcnt : ∀ fp, Ccf.countOf c' fp =
      Ccf.countOf (Ccf.run G (Cuckoo.new true cap b maxSwaps rate auto fpBits) oracle₁ ops₁).1 fp := by
    intro fp; simp only [Ccf.countOf, hbk]
  rw [Ccf.ccf_check ri₂, fingerprint_congr rs₂.2.2.2.2.2, rc₂, hcnt, rc₁, Ccf.countOf_new, hfpfun]
  simp only [outstanding, List.foldl_append]

/-- the history of `C08.exKick` (a real eviction chain), exported and reloaded into a template with
    a different capacity, bucket size, rate and auto flag, then continued -/
example :
    let c := (Ccf.run C08.exG (Cuckoo.new true 3 1 5 2 false 8) [0, 0, 0, 7] C08.exKick).1
    let t := Cuckoo.new true 99 4 500 3 true 8
    ∃ bytes c', c.exportBytes = .ok bytes ∧ Cuckoo.load t bytes = .ok c' ∧
      check C08.exG c' 3 = 2 ∧ check C08.exG c' 4 = 0 ∧ check C08.exG c' 6 = 1 ∧
      AllAddsOk C08.exG (c', []) [.add 3, .remove 6] ∧
      check C08.exG (Ccf.run C08.exG c' [] [.add 3, .remove 6]).1 3 = 3 := by
  refine ⟨_, _, rfl, rfl, ?_⟩
  decide

end PyProb.Corollaries
