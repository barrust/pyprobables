/-
  `_remove_element` on a table in the linear view: removing element `j` from a table `s` that is
  the linear view of a sequence gives the table `t` that is the linear view of the sequence
  without `j` (`removeQR_lin`).
-/
import PyProb.Lemmas.QFWriteRemoveLoops
import PyProb.Lemmas.QFWriteRemoveRepair
import PyProb.Lemmas.QFWriteRemoveTarget

namespace PyProb.QFRem
open PyProb PyProb.QF PyProb.QFLin PyProb.Spec

/-- "clean out the last element" -/
def clearAt (v : QF) (z : Nat) : QF :=
  { v with rem := v.rem.set z 0, occ := v.occ.set z false, cont := v.cont.set z false,
           shift := v.shift.set z false }

/-- … and clear the occupied bit of the quotient when its run has become empty -/
def finish (v : QF) (z qq : Nat) (o : Bool) : QF :=
  if o then { clearAt v z with occ := (clearAt v z).occ.set qq false } else clearAt v z

/-- the "edge case for first move" -/
def firstMove (s : QF) (idx : Nat) : QF × Nat × Nat :=
  if s.isRunOrClusterStart idx && bit s.cont (s.nxt idx) then
    (moveLeft s idx (s.nxt idx) false, s.nxt idx, s.nxt (s.nxt idx))
  else (s, idx, s.nxt idx)

/-- `_remove_element` after the look-up and the decrement of the counter -/
def removeTail (s : QF) (qq idx : Nat) : R QF :=
  if s.isEmpty (s.nxt idx) || s.isClusterStart (s.nxt idx) then
    .ok (finish s idx qq (s.isRunOrClusterStart idx && !bit s.cont (s.nxt idx)))
  else
    match removeMinIdx s s.fuelOf idx with
    | .error e => .error e
    | .ok minIdx =>
        match removeShift s.fuelOf (firstMove s idx).1 (firstMove s idx).2.1 (firstMove s idx).2.2 with
        | .error e => .error e
        | .ok (v, idx', next') =>
            removeRepair next' (finish v idx' qq (s.isRunOrClusterStart idx && !bit s.cont (s.nxt idx))).fuelOf
              (finish v idx' qq (s.isRunOrClusterStart idx && !bit s.cont (s.nxt idx))) minIdx none []

/-- `_remove_element` after a successful look-up is `removeTail`.  The `simp only` unfolds the
    pieces (`firstMove`, `moveLeft`, `finish`, `clearAt`), which repeat the `let`s in the body of
    `removeQR` in the model; what is left holds by `rfl`.  If either text changes, this is the lemma
    that breaks. -/
theorem removeQR_some (s : QF) (qq rr idx : Nat) (hc : s.containedAtLoc qq rr = .ok (some idx)) :
    s.removeQR qq rr = removeTail { s with count := s.count - 1 } qq idx := by
  simp only [removeQR, hc, removeTail, firstMove, moveLeft, finish, clearAt]
  rfl

theorem finish_q (v : QF) (z qq : Nat) (o : Bool) : (finish v z qq o).q = v.q := by
  cases o <;> rfl
theorem finish_auto (v : QF) (z qq : Nat) (o : Bool) : (finish v z qq o).auto = v.auto := by
  cases o <;> rfl
theorem finish_count (v : QF) (z qq : Nat) (o : Bool) : (finish v z qq o).count = v.count := by
  cases o <;> rfl
theorem finish_rem (v : QF) (z qq : Nat) (o : Bool) : (finish v z qq o).rem = v.rem.set z 0 := by
  cases o <;> rfl
theorem finish_cont (v : QF) (z qq : Nat) (o : Bool) : (finish v z qq o).cont = v.cont.set z false := by
  cases o <;> rfl
theorem finish_shift (v : QF) (z qq : Nat) (o : Bool) : (finish v z qq o).shift = v.shift.set z false := by
  cases o <;> rfl
theorem finish_occ (v : QF) (z qq : Nat) (o : Bool) :
    (finish v z qq o).occ = if o then (v.occ.set z false).set qq false else v.occ.set z false := by
  cases o <;> rfl

section asm
variable {s t : QF} {n e m : Nat} {d r : Nat → Nat} {j a b : Nat}

theorem Ctx.nxtP (C : Ctx s n e m d r j a b) : s.nxt (io n e (posF d j)) = io n e (posF d j + 1) :=
  nxt_io s n e _ C.L.size

theorem Ctx.orig (C : Ctx s n e m d r j a b) :
    (s.isRunOrClusterStart (io n e (posF d j)) && !bit s.cont (io n e (posF d j + 1))) = only d m j := by
  rw [isRunOrClusterStart_cell C.L j C.hj, cont_behind C.L j C.hj]; rfl

theorem Ctx.fm (C : Ctx s n e m d r j a b) :
    (s.isRunOrClusterStart (io n e (posF d j)) && bit s.cont (io n e (posF d j + 1))) =
      (!contF d j && (decide (j + 1 < m) && contF d (j + 1))) := by
  rw [isRunOrClusterStart_cell C.L j C.hj, cont_behind C.L j C.hj]

theorem Ctx.branch (C : Ctx s n e m d r j a b) :
    (s.isEmpty (io n e (posF d j + 1)) || s.isClusterStart (io n e (posF d j + 1))) = decide (j = b) := by
  by_cases h : j = b
  · subst h
    rw [C.after, decide_eq_true rfl]
  · have h1 := p_mono d a j C.haj
    have h2 := p_lt d j b (Nat.lt_of_le_of_ne C.hjb h)
    obtain ⟨e1, e2⟩ := C.inside_slot (posF d j + 1) (by omega) h2
    rw [e1, e2, decide_eq_false h]
    rfl

theorem finish_lengths (v : QF) (z qq : Nat) (o : Bool) (n : Nat) (l1 : v.rem.length = n)
    (l2 : v.occ.length = n) (l3 : v.cont.length = n) (l4 : v.shift.length = n) :
    (finish v z qq o).rem.length = n ∧ (finish v z qq o).occ.length = n ∧
      (finish v z qq o).cont.length = n ∧ (finish v z qq o).shift.length = n := by
  rw [finish_rem, finish_cont, finish_shift, finish_occ]
  cases o <;> simp [l1, l2, l3, l4]

/-- the table after `finish` agrees with the target, except for shifted bits in `[P, Z)` -/
theorem finish_pre (C : Ctx s n e m d r j a b) (T : LinX t n e (m - 1) (del j d) (del j r))
    (hq : t.q = s.q) (hauto : t.auto = s.auto) (hcount : t.count = s.count)
    (v : QF) (V : VRel s v n e (posF d j) (posF d b) (contF d j && contF d (j + 1))) :
    Pre (finish v (io n e (posF d b)) (io n e (d j)) (only d m j)) t n e (posF d j) (posF d b) := by
  have hZ : posF d b < n := by have := C.fitb; omega
  have hdj : d j < n := by have := p_ge_d d j; have := pos_lt C.L j C.hj; omega
  have locc : v.occ.length = n := by rw [V.occ]; exact C.X.locc
  obtain ⟨k1, k2, k3, k4⟩ := finish_lengths v (io n e (posF d b)) (io n e (d j)) (only d m j) n
    V.lrem locc V.lcont V.lshift
  have hoccu : ∀ y, y < n →
      bit (if only d m j = true then (v.occ.set (io n e (posF d b)) false).set (io n e (d j)) false
        else v.occ.set (io n e (posF d b)) false) (io n e y) =
      (if posF d b = y then false else (bit s.occ (io n e y) && !(decide (y = d j) && only d m j))) := by
    intro y hy
    cases ho : only d m j
    · simp only [Bool.false_eq_true, if_false, Bool.and_false, Bool.not_false, Bool.and_true]
      rw [bit_set_io v.occ n e _ y false locc hZ hy, V.occ]
    · simp only [if_true, Bool.and_true]
      rw [bit_set_io _ n e _ y false (by simp [locc]) hdj hy, bit_set_io v.occ n e _ y false locc hZ hy, V.occ]
      by_cases h1 : d j = y
      · subst h1; simp
      · have : ¬ y = d j := fun h => h1 h.symm
        simp [h1, this]
  -- the four arrays, slot by slot
  have key : ∀ y, y < n →
      (finish v (io n e (posF d b)) (io n e (d j)) (only d m j)).remAt (io n e y) = t.remAt (io n e y) ∧
      bit (finish v (io n e (posF d b)) (io n e (d j)) (only d m j)).occ (io n e y) = bit t.occ (io n e y) ∧
      bit (finish v (io n e (posF d b)) (io n e (d j)) (only d m j)).cont (io n e y) = bit t.cont (io n e y) ∧
      (bit (finish v (io n e (posF d b)) (io n e (d j)) (only d m j)).shift (io n e y) = bit t.shift (io n e y) ∨
        (posF d j ≤ y ∧ y < posF d b ∧
          bit (finish v (io n e (posF d b)) (io n e (d j)) (only d m j)).shift (io n e y) = true)) := by
    intro y hy
    simp only [remAt, finish_rem, finish_cont, finish_shift, finish_occ]
    rw [getD_set_io v.rem n e _ y 0 0 V.lrem hZ hy, bit_set_io v.cont n e _ y false V.lcont hZ hy,
      bit_set_io v.shift n e _ y false V.lshift hZ hy, hoccu y hy]
    by_cases hyZ : posF d b = y
    · -- the last slot of the old cluster
      subst hyZ
      obtain ⟨e1, e2, e3, e4⟩ := t_end C T
      simp only [if_true, remAt] at *
      rw [e1, e2, e3, e4]
      exact ⟨rfl, rfl, rfl, Or.inl rfl⟩
    · simp only [if_neg hyZ]
      have hocc := t_occ C T y hy
      have f1 := V.rem y hy
      have f2 := V.cont y hy
      have f3 := V.shift y hy
      by_cases hmid : posF d j ≤ y ∧ y < posF d b
      · obtain ⟨e1, e2, e3⟩ := t_mid C T y hmid.1 hmid.2
        rw [if_pos hmid] at f1 f2 f3
        simp only [remAt] at f1 e1
        refine ⟨by rw [f1, e1], hocc.symm, ?_, Or.inr ⟨hmid.1, hmid.2, by rw [f3, e3]⟩⟩
        rw [f2, e2]
      · obtain ⟨e1, e2, e3⟩ := t_out C T y hy (by omega)
        rw [if_neg hmid] at f1 f2 f3
        simp only [remAt] at f1 e1
        exact ⟨by rw [f1, e1], hocc.symm, by rw [f2, e2], Or.inl (by rw [f3, e3])⟩
  exact ⟨by rw [finish_q, V.q, hq], by rw [finish_auto, V.auto, hauto], by rw [finish_count, V.count, hcount],
    k1, k2, k3, k4, fun y hy => (key y hy).1, fun y hy => (key y hy).2.1, fun y hy => (key y hy).2.2.1,
    fun y hy => (key y hy).2.2.2⟩

/-- **case (a)**: element `j` is the last element of its cluster -/
theorem removeTail_last (C : Ctx s n e m d r j a b) (T : LinX t n e (m - 1) (del j d) (del j r))
    (hjb : j = b) (hq : t.q = s.q) (hauto : t.auto = s.auto) (hcount : t.count = s.count) :
    removeTail s (io n e (d j)) (io n e (posF d j)) = .ok t := by
  subst hjb
  have hbr := C.branch
  rw [decide_eq_true rfl] at hbr
  simp only [removeTail, C.nxtP, hbr, if_true, C.orig]
  exact congrArg _ ((finish_pre C T hq hauto hcount s
    (VRel.refl s n e (posF d j) _ C.X.lrem C.X.lcont C.X.lshift)).done C.L.he T.lrem T.locc T.lcont T.lshift)

theorem bool_plain : ∀ cj cn : Bool, (!cj && cn) = false → (cj && cn) = cn := by decide
theorem bool_first : ∀ cj cn : Bool, (!cj && cn) = true → (cj && cn) = false := by decide

/-- the left shift, with or without the "edge case for first move" -/
theorem shift_any (C : Ctx s n e m d r j a b) (hjb : j < b) :
    ∃ v, removeShift s.fuelOf (firstMove s (io n e (posF d j))).1 (firstMove s (io n e (posF d j))).2.1
        (firstMove s (io n e (posF d j))).2.2 = .ok (v, io n e (posF d b), io n e (posF d b + 1)) ∧
      VRel s v n e (posF d j) (posF d b) (contF d j && contF d (j + 1)) := by
  have hPa : posF d a ≤ posF d j := by have := p_mono d a j C.haj; omega
  have hPZ : posF d j < posF d b := p_lt d j b hjb
  have hZn : posF d b + 1 < n := C.fitb
  have hfuel : posF d b - posF d j < s.fuelOf := by simp only [fuelOf, C.L.size]; omega
  have hin : ∀ y, posF d j < y → y ≤ posF d b →
      (s.isEmpty (io n e y) || s.isClusterStart (io n e y)) = false := by
    intro y h1 h2
    obtain ⟨e1, e2⟩ := C.inside_slot y (by omega) h2
    rw [e1, e2]; rfl
  have hfm := C.fm
  have hnext := cont_behind C.L j C.hj
  rw [show decide (j + 1 < m) = true from decide_eq_true (by have := C.hbm; omega), Bool.true_and] at hfm hnext
  cases hcn : (!contF d j && contF d (j + 1))
  · rw [hcn] at hfm
    simp only [firstMove, C.nxtP, hfm, Bool.false_eq_true, if_false]
    rw [bool_plain _ _ hcn, ← hnext]
    exact removeShift_plain C.L.size C.X.lrem C.X.lcont C.X.lshift (Nat.le_of_lt hPZ) hZn _ hfuel hin C.after
  · rw [hcn] at hfm
    simp only [firstMove, C.nxtP, hfm, if_true, nxt_io s n e (posF d j + 1) C.L.size]
    rw [bool_first _ _ hcn]
    exact removeShift_first C.L.size C.X.lrem C.X.lcont C.X.lshift hPZ hZn _ hfuel hin C.after

theorem Ctx.minIdx (C : Ctx s n e m d r j a b) :
    removeMinIdx s s.fuelOf (io n e (posF d j)) = .ok (io n e (posF d a)) := by
  have hfit := C.fitb
  have h1 := p_mono d a j C.haj
  have h2 := p_mono d j b C.hjb
  have := removeMinIdx_walk s n e C.L.size (by omega) (posF d a)
    (by rw [isClusterStart_cell C.L a (by have := C.haj; have := C.hj; omega)]; exact decide_eq_true C.home)
    (posF d j - posF d a) s.fuelOf
    (fun y h3 h4 => (C.inside_slot y h3 (by omega)).2)
    (by simp only [fuelOf, C.L.size]; omega)
  rwa [show posF d a + (posF d j - posF d a) = posF d j by omega] at this

/-- **case (b)**: element `j` is followed by elements of its cluster -/
theorem removeTail_inner (C : Ctx s n e m d r j a b) (T : LinX t n e (m - 1) (del j d) (del j r))
    (hjb : j < b) (hq : t.q = s.q) (hauto : t.auto = s.auto) (hcount : t.count = s.count) :
    removeTail s (io n e (d j)) (io n e (posF d j)) = .ok t := by
  have hbr := C.branch
  rw [decide_eq_false (Nat.ne_of_lt hjb)] at hbr
  obtain ⟨v, hv, V⟩ := shift_any C hjb
  simp only [removeTail, C.nxtP, hbr, Bool.false_eq_true, if_false, C.minIdx, hv, C.orig]
  have hab : a ≤ b := Nat.le_trans C.haj C.hjb
  have cb := C.contig b hab (Nat.le_refl _)
  have hPa : posF d a ≤ posF d j := by have := p_mono d a j C.haj; omega
  exact repair_spec T _ (posF d a) (b - a) (posF d b) a cb.symm
    ((finish_pre C T hq hauto hcount v V).widen (posF d a) hPa)
    (new_cluster C hjb) (new_nocell_Z C) C.fitb (new_B C T hjb)

theorem removeTail_lin (X : LinX s n e m d r) (j : Nat) (hj : j < m)
    (T : LinX t n e (m - 1) (del j d) (del j r))
    (hq : t.q = s.q) (hauto : t.auto = s.auto) (hcount : t.count = s.count) :
    removeTail s (io n e (d j)) (io n e (posF d j)) = .ok t := by
  obtain ⟨a, b, C⟩ := ctx_exists X j hj
  by_cases hjb : j = b
  · exact removeTail_last C T hjb hq hauto hcount
  · exact removeTail_inner C T (by have := C.hjb; omega) hq hauto hcount

/-- **`_remove_element` on the linear view**: removing a stored element gives the table of the
    sequence without it, with the counter decremented -/
theorem removeQR_lin (X : LinX s n e m d r) (j : Nat) (hj : j < m)
    (T : LinX t n e (m - 1) (del j d) (del j r))
    (hq : t.q = s.q) (hauto : t.auto = s.auto) (hcount : t.count = s.count - 1) :
    s.removeQR (io n e (d j)) (r j) = .ok t := by
  rw [removeQR_some s _ _ _ (contained_find X.lin j hj)]
  exact removeTail_lin (linX_count X _) j hj T hq hauto hcount

end asm
end PyProb.QFRem
