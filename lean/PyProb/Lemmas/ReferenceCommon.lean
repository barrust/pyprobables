/-
  Lemmas relating the model's operations under the default hashing strategy to the documented
  hashing rule and the reference reader / writer of `Spec/Layout.lean`: the part that does not
  depend on any data-structure family (the hashing rule, reading cells back, minimum of a list).
-/
import PyProb.Lemmas.LayoutSpecCommon
import PyProb.Properties.C18

namespace PyProb

theorem defaultFnv_spec (key : Key) (k : Nat) :
    defaultFnv key k = (List.range k).map (Spec.hashI key.units) := by
  rw [C18.C18_default_is_published_fnv]
  rfl

theorem ofLE_slice_succ (file : Bytes) (off n : Nat) :
    ofLE ((file.drop off).take (n + 1)) = Spec.at' file off + 256 * ofLE ((file.drop (off + 1)).take n) := by
  have hat : Spec.at' file off = (file.drop off).headD 0 := by
    simp [Spec.at', List.getD_eq_getElem?_getD, List.head?_drop]
  have hd : file.drop (off + 1) = (file.drop off).tail := by simp [List.tail_drop]
  rw [hat, hd]
  cases file.drop off with
  | nil => simp [ofLE]
  | cons x xs => rfl

theorem rdU32_eq_ofLE (file : Bytes) (off : Nat) : Spec.rdU32 file off = ofLE ((file.drop off).take 4) := by
  simp only [Spec.rdU32, ofLE_slice_succ, List.take_zero, ofLE, Nat.add_assoc, Nat.reduceAdd]
  omega

theorem rdU64_eq_ofLE (file : Bytes) (off : Nat) : Spec.rdU64 file off = ofLE ((file.drop off).take 8) := by
  simp only [Spec.rdU64, Spec.rdU32, ofLE_slice_succ, List.take_zero, ofLE, Nat.add_assoc, Nat.reduceAdd]
  omega

theorem rdI32_of_slice {file bs : Bytes} {off : Nat} (h : (file.drop off).take 4 = bs) (hl : bs.length = 4) :
    Spec.rdI32 file off = ofLEInt bs := by
  simp only [Spec.rdI32, ofLEInt, rdU32_eq_ofLE, h, hl, Nat.reducePow]
  split <;> split <;> omega

theorem rdI64_of_slice {file bs : Bytes} {off : Nat} (h : (file.drop off).take 8 = bs) (hl : bs.length = 8) :
    Spec.rdI64 file off = ofLEInt bs := by
  simp only [Spec.rdI64, ofLEInt, rdU64_eq_ofLE, h, hl, Nat.reducePow]
  split <;> split <;> omega

theorem rdU32_cells (cells : List Nat) (suf : Bytes) (p : Nat) (hp : p < cells.length)
    (h : ∀ x ∈ cells, x < 2 ^ 32) :
    Spec.rdU32 (cells.flatMap Spec.u32le ++ suf) (4 * p) = cells.getD p 0 := by
  rw [rdU32_eq_ofLE, flatMap_slice Spec.u32le 4 (fun _ => rfl) cells suf p hp, ← leBytes4_eq,
    ofLE_leBytes_of_lt (h _ (List.getElem_mem hp)), List.getD_eq_getElem?_getD, List.getElem?_eq_getElem hp]
  rfl

theorem rdI32_cells (cells : List Int) (suf : Bytes) (p : Nat) (hp : p < cells.length)
    (h : ∀ x ∈ cells, -2147483648 ≤ x ∧ x ≤ 2147483647) :
    Spec.rdI32 (cells.flatMap Spec.i32le ++ suf) (4 * p) = cells.getD p 0 := by
  have hc := h cells[p] (List.getElem_mem hp)
  rw [rdI32_of_slice (flatMap_slice Spec.i32le 4 (fun _ => rfl) cells suf p hp) rfl, ← leBytesInt4_int hc.1 hc.2,
    ofLEInt_leBytesInt_4 hc.1 hc.2, List.getD_eq_getElem?_getD, List.getElem?_eq_getElem hp]
  rfl

end PyProb
