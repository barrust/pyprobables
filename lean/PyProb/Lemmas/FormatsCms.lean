/-
  Lemmas on the export formats, count-min sketch family: closed forms of `struct.pack` for the
  layouts extracted from the source (`Generated/Repo.lean`), the export as payload plus packed
  footer.
-/
import PyProb.Lemmas.Codec
import PyProb.Model.CMS

namespace PyProb

theorem cmsFooter_pack (a b c : Int) : Gen.cmsFooter.pack [a, b, c] =
    if a < 0 ∨ a > 4294967295 then .error .structError
    else if b < 0 ∨ b > 4294967295 then .error .structError
    else if c < -9223372036854775808 ∨ c > 9223372036854775807 then .error .structError
    else .ok (leBytesInt 4 a ++ leBytesInt 4 b ++ leBytesInt 8 c) :=
  pack_eq_packFlat Gen.cmsFooter rfl _

theorem cmsFooter_size : Gen.cmsFooter.size = 16 := by decide
theorem cmsCell_size : Gen.cmsCell.size = 4 := by decide

theorem CMS.exportBytes_eq (c : CMS) :
    c.exportBytes = (Gen.cmsFooter.pack [c.w, c.d, c.total]).map (cellsBytes .i32 c.bins ++ ·) := by
  unfold CMS.exportBytes
  cases Gen.cmsFooter.pack [c.w, c.d, c.total] <;> rfl

theorem cms_lastN_append {α} (a b : List α) (n : Nat) (h : b.length = n) : CMS.lastN n (a ++ b) = b := by
  unfold CMS.lastN; exact drop_length_sub_append a b n h

end PyProb
