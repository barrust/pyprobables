/-
  The "linear view" of a canonical quotient-filter table and the correctness of the READ paths on
  it (Layer A).  A table `s` with `n` slots is read from slot `e + 1` round to slot `e` (`io n e x`
  is the slot at distance `x`, `Spec.off n e` the distance of a slot); it stores `m` elements,
  element `i` having home distance `d i`, remainder `r i` and position `posF d i`.
  `Lin s n e m d r` says what the four arrays of `s` hold at every slot: the three bit arrays
  everywhere, the remainders at the positions.  The lengths of the arrays and the remainders away
  from the positions it leaves open (`QFRem.LinX` in `QFExt.lean` adds them).  From it we prove that
  `_get_start_index`, `_contained_at_loc` terminate and are correct (`getStartIndex_lin`,
  `containedAtLoc_slot`).  No wrap-around happens in this view because slot `e` (distance `n - 1`)
  is empty.

  Everything about the canonical tables `Spec.layout q auto S` goes through this view.  The read
  paths: `layout` is a table in the view from its `Spec.emptySlot` (`QFLayoutLin.lean`, the
  placement fitting by `QFFits.lean`), and `QFReadLayout.lean` reads the results off.  Both write
  paths (`QF.add_layout`, `QF.remove_layout`) take the same four steps.  Take the empty slot `e` of
  the LARGER of the two sets; it also stays empty in the table of the smaller one.  Both canonical
  tables are in the linear view from `e` (`Spec.layout_pair`: `layout_linX` for the larger set,
  `layout_lin_at` for the smaller).  On the view the operation turns the one element sequence into
  the other (`QFLin.view_add`, `QFRem.removeQR_lin`; `QFSeq.lean` has the sequences).  Its result
  is the canonical table of the other set because a view determines the table: `view_add` returns
  a table in the view of the longer sequence and `lin_ext` identifies the two; `removeQR_lin` is
  given the table in the view of the shorter sequence and compares slot by slot (`qf_ext_io`).
-/
import PyProb.Lemmas.Lists
import PyProb.Spec.QF

namespace PyProb.QFLin
open PyProb PyProb.QF

def io (n e x : Nat) : Nat := (e + 1 + x) % n

/-- the position (distance) of element `i`: its home, or directly behind its predecessor -/
def posF (d : Nat → Nat) : Nat → Nat
  | 0 => d 0
  | i + 1 => max (posF d i + 1) (d (i + 1))

structure Lin (s : QF) (n e m : Nat) (d r : Nat → Nat) : Prop where
  n2 : 2 ≤ n
  size : s.size = n
  he : e < n
  sorted : ∀ i, i + 1 < m → d i < d (i + 1) ∨ (d i = d (i + 1) ∧ r i < r (i + 1))
  fit : ∀ i, i < m → posF d i + 2 ≤ n
  cont : ∀ i, i < m → bit s.cont (io n e (posF d i)) = (decide (i ≠ 0) && decide (d i = d (i - 1)))
  shift : ∀ i, i < m → bit s.shift (io n e (posF d i)) = decide (posF d i ≠ d i)
  rem : ∀ i, i < m → s.remAt (io n e (posF d i)) = r i
  nocell : ∀ x, x < n → (∀ i, i < m → posF d i ≠ x) →
    bit s.cont (io n e x) = false ∧ bit s.shift (io n e x) = false
  occ : ∀ x, x < n → (bit s.occ (io n e x) = true ↔ ∃ i, i < m ∧ d i = x)

/-! The fields `sorted`, `fit` and `cont` of `Lin` are the following three notions written out. -/

def SeqSorted (m : Nat) (d r : Nat → Nat) : Prop :=
  ∀ i, i + 1 < m → d i < d (i + 1) ∨ (d i = d (i + 1) ∧ r i < r (i + 1))

/-- every position leaves the last slot free -/
def SeqFits (n m : Nat) (d : Nat → Nat) : Prop := ∀ i, i < m → posF d i + 2 ≤ n

def contF (d : Nat → Nat) (i : Nat) : Bool := decide (i ≠ 0) && decide (d i = d (i - 1))

section
variable {s : QF} {n e m : Nat} {d r : Nat → Nat}

theorem Lin.seqSorted (L : Lin s n e m d r) : SeqSorted m d r := L.sorted

theorem Lin.seqFits (L : Lin s n e m d r) : SeqFits n m d := L.fit

theorem cont_cell (L : Lin s n e m d r) (i : Nat) (hi : i < m) :
    bit s.cont (io n e (posF d i)) = contF d i := L.cont i hi

end

theorem contF_zero (d : Nat → Nat) : contF d 0 = false := rfl

theorem contF_succ (d : Nat → Nat) (i : Nat) : contF d (i + 1) = decide (d (i + 1) = d i) := by
  simp [contF]

theorem contF_iff (d : Nat → Nat) (i : Nat) : contF d i = true ↔ i ≠ 0 ∧ d i = d (i - 1) := by
  simp only [contF, Bool.and_eq_true, decide_eq_true_eq]

theorem nxt_io (s : QF) (n e x : Nat) (hs : s.size = n) : s.nxt (io n e x) = io n e (x + 1) := by
  simp only [nxt, io, hs]
  rw [Nat.mod_add_mod, Nat.add_assoc]

theorem prv_io (s : QF) (n e x : Nat) (hs : s.size = n) (hn : 0 < n) (hx : 1 ≤ x) :
    s.prv (io n e x) = io n e (x - 1) := by
  have h : e + 1 + x + (n - 1) = e + 1 + (x - 1) + n := by omega
  rw [prv, io, io, hs, Nat.add_sub_assoc hn, Nat.mod_add_mod, h, Nat.add_mod_right]

theorem add_mod_inj (n c x y : Nat) (hxy : x ≤ y) (hy : y < n) (h : (c + x) % n = (c + y) % n) : x = y := by
  have h0 := Nat.sub_mod_eq_zero_of_mod_eq h.symm
  rw [Nat.add_sub_add_left, Nat.mod_eq_of_lt (Nat.lt_of_le_of_lt (Nat.sub_le y x) hy)] at h0
  omega

theorem io_inj (n e x y : Nat) (hx : x < n) (hy : y < n) (h : io n e x = io n e y) : x = y := by
  rcases Nat.le_total x y with hxy | hyx
  · exact add_mod_inj n (e + 1) x y hxy hy h
  · exact (add_mod_inj n (e + 1) y x hyx hx h.symm).symm

theorem io_ne (n e x y : Nat) (hx : x < n) (hy : y < n) (h : x ≠ y) : io n e x ≠ io n e y :=
  fun hh => h (io_inj n e x y hx hy hh)

theorem io_lt (n e x : Nat) (hn : 0 < n) : io n e x < n := Nat.mod_lt _ hn

section off
open PyProb.Spec (off)

theorem io_off (n e a : Nat) (he : e < n) (ha : a < n) : io n e (off n e a) = a := by
  rw [io, off, Nat.add_mod_mod, Nat.add_sub_cancel' (Nat.le_trans he (Nat.le_add_left n a)),
    Nat.add_mod_right, Nat.mod_eq_of_lt ha]

theorem off_lt_n (n e a : Nat) (hn : 0 < n) : off n e a < n := Nat.mod_lt _ hn

theorem io_surj (n e j : Nat) (he : e < n) (hj : j < n) : ∃ y, y < n ∧ io n e y = j :=
  ⟨off n e j, off_lt_n n e j (Nat.zero_lt_of_lt he), io_off n e j he hj⟩

theorem off_io (n e x : Nat) (he : e < n) (hx : x < n) : off n e (io n e x) = x :=
  io_inj n e _ _ (Nat.mod_lt _ (Nat.zero_lt_of_lt he)) hx
    (io_off n e _ he (Nat.mod_lt _ (Nat.zero_lt_of_lt he)))

theorem off_inj (n e a b : Nat) (he : e < n) (ha : a < n) (hb : b < n) (h : off n e a = off n e b) : a = b := by
  rw [← io_off n e a he ha, ← io_off n e b he hb, h]

theorem off_gt (n e a : Nat) (h1 : e < a) (h2 : a < n) : off n e a + (e + 1) = a := by
  rw [off, Nat.sub_add_comm h1, Nat.add_mod_right,
    Nat.mod_eq_of_lt (Nat.lt_of_le_of_lt (Nat.sub_le _ _) h2), Nat.sub_add_cancel h1]

theorem off_le (n e a : Nat) (h1 : a ≤ e) (h2 : e < n) : off n e a + (e + 1) = a + n := by
  have h3 : e + 1 ≤ a + n := Nat.le_trans h2 (Nat.le_add_left n a)
  have h4 : a + n < e + 1 + n := Nat.add_lt_add_right (Nat.lt_succ_of_le h1) n
  rw [off, Nat.mod_eq_of_lt (Nat.sub_lt_left_of_lt_add h3 h4), Nat.sub_add_cancel h3]

theorem off_lt_pred (n e a : Nat) (he : e < n) (ha : a < n) (hne : a ≠ e) : off n e a + 1 < n := by
  rcases Nat.lt_or_gt_of_ne hne with h | h
  · have := off_le n e a (Nat.le_of_lt h) he; omega
  · have := off_gt n e a h ha; omega

theorem io_add_n (n e x : Nat) : io n e (x + n) = io n e x := by
  simp only [io]
  rw [← Nat.add_assoc, Nat.add_mod_right]

theorem io_cut_back (n e c y : Nat) : io n (io n e c) y = io n e (y + (c + 1)) := by
  simp only [io]
  rw [Nat.add_assoc ((e + 1 + c) % n), Nat.mod_add_mod]
  congr 1
  omega

theorem io_cut_front (n e c x : Nat) (hc : c < n) : io n (io n e c) (x + (n - 1 - c)) = io n e x := by
  rw [io_cut_back, ← io_add_n n e x]
  congr 1
  omega

theorem off_cut (n e0 c q : Nat) (he0 : e0 < n) (hc : c < n) (hq : q < n) :
    (c < off n e0 q → off n e0 q = off n (io n e0 c) q + (c + 1)) ∧
    (off n e0 q < c → off n (io n e0 c) q = off n e0 q + (n - 1 - c)) := by
  have hn : 0 < n := by omega
  have he : io n e0 c < n := io_lt n e0 c hn
  have ho : off n e0 q < n := off_lt_n n e0 q hn
  have hio : io n e0 (off n e0 q) = q := io_off n e0 q he0 hq
  constructor
  · intro h
    have h1 : io n (io n e0 c) (off n e0 q - (c + 1)) = q := by
      rw [io_cut_back, Nat.sub_add_cancel h, hio]
    have h2 := off_io n (io n e0 c) (off n e0 q - (c + 1)) he (by omega)
    rw [h1] at h2
    omega
  · intro h
    have h1 : io n (io n e0 c) (off n e0 q + (n - 1 - c)) = q := by
      rw [io_cut_front n e0 c _ hc, hio]
    have h2 := off_io n (io n e0 c) (off n e0 q + (n - 1 - c)) he (by omega)
    rw [h1] at h2
    exact h2

end off

theorem getD_set_io {α : Type} (l : List α) (n e X y : Nat) (v dflt : α) (hl : l.length = n)
    (hX : X < n) (hy : y < n) :
    (l.set (io n e X) v).getD (io n e y) dflt = if X = y then v else l.getD (io n e y) dflt := by
  by_cases h : X = y
  · subst h
    rw [if_pos rfl]
    exact getD_set_eq (by rw [hl]; exact io_lt n e X (Nat.zero_lt_of_lt hX))
  · rw [if_neg h]
    exact getD_set_ne (io_ne n e X y hX hy h)

theorem bit_set_io (l : List Bool) (n e X y : Nat) (v : Bool) (hl : l.length = n)
    (hX : X < n) (hy : y < n) :
    bit (l.set (io n e X) v) (io n e y) = if X = y then v else bit l (io n e y) :=
  getD_set_io l n e X y v false hl hX hy

theorem list_ext_io {α : Type} (l1 l2 : List α) (dflt : α) (n e : Nat) (he : e < n)
    (h1 : l1.length = n) (h2 : l2.length = n)
    (h : ∀ y, y < n → l1.getD (io n e y) dflt = l2.getD (io n e y) dflt) : l1 = l2 := by
  apply List.ext_getElem (by omega)
  intro a ha1 ha2
  have h3 := h (Spec.off n e a) (off_lt_n n e a (by omega))
  rw [io_off n e a he (by omega)] at h3
  simpa [List.getD_eq_getElem?_getD, ha1, ha2] using h3

theorem qf_ext_io (s t : QF) (n e : Nat) (he : e < n) (hq : s.q = t.q) (ha : s.auto = t.auto)
    (hc : s.count = t.count)
    (l1 : s.rem.length = n) (l2 : s.occ.length = n) (l3 : s.cont.length = n) (l4 : s.shift.length = n)
    (k1 : t.rem.length = n) (k2 : t.occ.length = n) (k3 : t.cont.length = n) (k4 : t.shift.length = n)
    (h : ∀ y, y < n → s.remAt (io n e y) = t.remAt (io n e y) ∧ bit s.occ (io n e y) = bit t.occ (io n e y) ∧
      bit s.cont (io n e y) = bit t.cont (io n e y) ∧ bit s.shift (io n e y) = bit t.shift (io n e y)) :
    s = t := by
  cases s; cases t
  simp only [remAt, bit] at *
  subst hq ha hc
  have e1 := list_ext_io _ _ 0 n e he l1 k1 (fun y hy => (h y hy).1)
  have e2 := list_ext_io _ _ false n e he l2 k2 (fun y hy => (h y hy).2.1)
  have e3 := list_ext_io _ _ false n e he l3 k3 (fun y hy => (h y hy).2.2.1)
  have e4 := list_ext_io _ _ false n e he l4 k4 (fun y hy => (h y hy).2.2.2)
  subst e1 e2 e3 e4
  rfl

theorem p_ge_d (d : Nat → Nat) (i : Nat) : d i ≤ posF d i := by
  cases i with
  | zero => simp [posF]
  | succ i => simp only [posF]; omega

theorem p_step (d : Nat → Nat) (i : Nat) : posF d i + 1 ≤ posF d (i + 1) := by
  simp only [posF]; omega

theorem p_mono (d : Nat → Nat) (i k : Nat) (h : i ≤ k) : posF d i + (k - i) ≤ posF d k := by
  obtain ⟨t, rfl⟩ := Nat.exists_eq_add_of_le h
  rw [Nat.add_sub_cancel_left]
  clear h
  induction t with
  | zero => exact Nat.le_refl _
  | succ t ih => exact Nat.le_trans (Nat.add_le_add_right ih 1) (p_step d (i + t))

theorem p_lt (d : Nat → Nat) (i k : Nat) (h : i < k) : posF d i < posF d k := by
  have := p_mono d i k (by omega); omega

theorem p_lt_iff (d : Nat → Nat) (i k : Nat) : posF d i < posF d k ↔ i < k :=
  ⟨fun h => Nat.lt_of_not_le fun hle =>
      Nat.not_le_of_lt h (Nat.le_trans (Nat.le_add_right _ _) (p_mono d k i hle)), p_lt d i k⟩

theorem p_inj (d : Nat → Nat) (i k : Nat) (h : posF d i = posF d k) : i = k := by
  rcases Nat.lt_trichotomy i k with h1 | h1 | h1
  · exact absurd h (Nat.ne_of_lt (p_lt d i k h1))
  · exact h1
  · exact absurd h.symm (Nat.ne_of_lt (p_lt d k i h1))

theorem p_shifted (d : Nat → Nat) (i : Nat) (h : posF d (i + 1) ≠ d (i + 1)) :
    posF d (i + 1) = posF d i + 1 := by
  simp only [posF] at *; omega

theorem posF_congr (d d' : Nat → Nat) (i : Nat) (h : ∀ k, k ≤ i → d k = d' k) : posF d i = posF d' i := by
  induction i with
  | zero => simp only [posF]; exact h 0 (Nat.le_refl _)
  | succ i ih =>
      simp only [posF]
      rw [ih (fun k hk => h k (by omega)), h (i + 1) (Nat.le_refl _)]

section lin
variable {s : QF} {n e m : Nat} {d r : Nat → Nat}

theorem d_mono (L : Lin s n e m d r) (i k : Nat) (h : i ≤ k) (hk : k < m) : d i ≤ d k := by
  obtain ⟨t, rfl⟩ := Nat.exists_eq_add_of_le h
  clear h
  induction t with
  | zero => exact Nat.le_refl _
  | succ t ih =>
      show d i ≤ d (i + t + 1)
      have := ih (by omega)
      have := L.sorted (i + t) hk
      omega

/-- every element belongs to a cluster: a block of consecutive positions that starts with an
    element at home and in which every other element is shifted -/
theorem cluster (d : Nat → Nat) (i : Nat) :
    ∃ a, a ≤ i ∧ posF d a = d a ∧ ∀ k, a < k → k ≤ i → posF d k ≠ d k := by
  induction i with
  | zero => exact ⟨0, Nat.le_refl _, rfl, fun k h1 h2 => absurd h1 (Nat.not_lt_of_le h2)⟩
  | succ i ih =>
      by_cases h : posF d (i + 1) = d (i + 1)
      · exact ⟨i + 1, Nat.le_refl _, h, fun k h1 h2 => absurd h1 (Nat.not_lt_of_le h2)⟩
      · obtain ⟨a, ha, hpa, hk⟩ := ih
        refine ⟨a, Nat.le_succ_of_le ha, hpa, fun k h1 h2 => ?_⟩
        rcases Nat.eq_or_lt_of_le h2 with rfl | h3
        · exact h
        · exact hk k h1 (Nat.le_of_lt_succ h3)

theorem contig (d : Nat → Nat) (a i : Nat) (h : ∀ k, a < k → k ≤ i → posF d k ≠ d k) (k : Nat)
    (hak : a ≤ k) (hki : k ≤ i) : posF d k = posF d a + (k - a) := by
  obtain ⟨t, rfl⟩ := Nat.exists_eq_add_of_le hak
  rw [Nat.add_sub_cancel_left]
  clear hak
  induction t with
  | zero => rfl
  | succ t ih =>
      exact (p_shifted d (a + t) (h (a + t + 1) (by omega) hki)).trans (congrArg (· + 1) (ih (by omega)))

end lin

theorem exists_first (P : Nat → Prop) (i : Nat) (h : P i) : ∃ f, f ≤ i ∧ P f ∧ ∀ k, k < f → ¬ P k := by
  induction i using Nat.strongRecOn with
  | _ i ih =>
      by_cases hex : ∃ k, k < i ∧ P k
      · obtain ⟨k, hk, hpk⟩ := hex
        obtain ⟨f, hf, hpf, hmin⟩ := ih k hk hpk
        exact ⟨f, by omega, hpf, hmin⟩
      · exact ⟨i, Nat.le_refl _, h, fun k hk hp => hex ⟨k, hk, hp⟩⟩

theorem exists_last (P : Nat → Prop) (m i : Nat) (him : i < m) (h : P i) :
    ∃ g, i ≤ g ∧ g < m ∧ P g ∧ ∀ k, g < k → k < m → ¬ P k := by
  induction m with
  | zero => omega
  | succ m ih =>
      by_cases hm : P m
      · exact ⟨m, by omega, by omega, hm, fun k h1 h2 => by omega⟩
      · have hne : i ≠ m := fun h' => hm (h' ▸ h)
        obtain ⟨g, h1, h2, h3, h4⟩ := ih (by omega)
        refine ⟨g, h1, by omega, h3, fun k hk1 hk2 hk => ?_⟩
        have hne' : k ≠ m := fun h' => hm (h' ▸ hk)
        exact h4 k hk1 (by omega) hk

def cntP (P : Nat → Bool) (lo len : Nat) : Nat := (List.range' lo len).countP P

theorem cntP_zero (P : Nat → Bool) (lo : Nat) : cntP P lo 0 = 0 := rfl

theorem cntP_succ_bot (P : Nat → Bool) (lo len : Nat) :
    cntP P lo (len + 1) = (if P lo then 1 else 0) + cntP P (lo + 1) len := by
  simp only [cntP, List.range'_succ, List.countP_cons]; omega

theorem cntP_succ_top (P : Nat → Bool) (lo len : Nat) :
    cntP P lo (len + 1) = cntP P lo len + (if P (lo + len) then 1 else 0) := by
  simp only [cntP, List.range'_concat, List.countP_append, List.countP_cons, List.countP_nil]
  simp

theorem cntP_one (P : Nat → Bool) (lo : Nat) : cntP P lo 1 = if P lo then 1 else 0 := by
  rw [cntP_succ_bot, cntP_zero]
  rfl

theorem cntP_add (P : Nat → Bool) (lo a b : Nat) : cntP P lo (a + b) = cntP P lo a + cntP P (lo + a) b := by
  induction b with
  | zero => simp [cntP_zero]
  | succ b ih =>
      rw [← Nat.add_assoc, cntP_succ_top, cntP_succ_top, ih]
      simp only [Nat.add_assoc]

theorem cntP_split (P : Nat → Bool) (lo mid hi : Nat) (h1 : lo ≤ mid) (h2 : mid ≤ hi) :
    cntP P lo (hi - lo + 1) = cntP P lo (mid - lo + 1) + cntP P (mid + 1) (hi - mid) := by
  obtain ⟨a, rfl⟩ := Nat.exists_eq_add_of_le h1
  obtain ⟨b, rfl⟩ := Nat.exists_eq_add_of_le h2
  rw [Nat.add_sub_cancel_left (lo + a) b, Nat.add_assoc lo a b, Nat.add_sub_cancel_left, Nat.add_sub_cancel_left,
    Nat.add_right_comm a b 1, cntP_add, Nat.add_assoc lo a 1]

theorem cntP_congr (P Q : Nat → Bool) (lo len : Nat) (h : ∀ j, lo ≤ j → j < lo + len → P j = Q j) :
    cntP P lo len = cntP Q lo len := by
  induction len with
  | zero => rfl
  | succ len ih =>
      rw [cntP_succ_top, cntP_succ_top, ih (fun j h1 h2 => h j h1 (by omega)),
        h (lo + len) (by omega) (by omega)]

theorem cntP_false (P : Nat → Bool) (lo len : Nat) (h : ∀ j, lo ≤ j → j < lo + len → P j = false) :
    cntP P lo len = 0 :=
  (cntP_congr P (fun _ => false) lo len h).trans (congrFun List.countP_false _)

theorem cntP_le (P : Nat → Bool) (lo len : Nat) : cntP P lo len ≤ len := by
  have h := List.countP_le_length (p := P) (l := List.range' lo len)
  rw [List.length_range'] at h
  exact h

theorem cntP_thr (P : Nat → Bool) (m : Nat) (hmono : ∀ i k, i ≤ k → k < m → P k = true → P i = true)
    (i : Nat) : i < cntP P 0 m ↔ i < m ∧ P i = true := by
  induction m generalizing i with
  | zero => exact ⟨fun h => absurd h (Nat.not_lt_zero i), fun h => absurd h.1 (Nat.not_lt_zero i)⟩
  | succ m ih =>
      have ih := ih fun i k h1 h2 => hmono i k h1 (Nat.lt_succ_of_lt h2)
      rw [cntP_succ_top, Nat.zero_add]
      cases hPm : P m
      · rw [if_neg Bool.false_ne_true, Nat.add_zero, ih]
        refine ⟨fun h => ⟨Nat.lt_succ_of_lt h.1, h.2⟩, fun h => ⟨?_, h.2⟩⟩
        have him : i ≠ m := fun him => Bool.false_ne_true (hPm.symm.trans (him ▸ h.2))
        omega
      · -- everything below `m` counts
        have hfull : cntP P 0 m = m :=
          Nat.le_antisymm (cntP_le P 0 m) (Nat.le_of_not_lt fun h => Nat.lt_irrefl _
            ((ih _).2 ⟨h, hmono _ m (Nat.le_of_lt h) (Nat.lt_succ_self m) hPm⟩))
        rw [hfull, if_pos rfl]
        exact ⟨fun h => ⟨h, hmono i m (Nat.le_of_lt_succ h) (Nat.lt_succ_self m) hPm⟩, fun h => h.1⟩

theorem thr_le {a b : Nat} {P Q : Nat → Prop} (ha : ∀ i, i < a ↔ P i) (hb : ∀ i, i < b ↔ Q i)
    (h : ∀ i, P i → Q i) : a ≤ b :=
  Nat.le_of_not_lt fun hlt => Nat.lt_irrefl b ((hb b).2 (h b ((ha b).1 hlt)))

theorem thr_eq {a b : Nat} {P Q : Nat → Prop} (ha : ∀ i, i < a ↔ P i) (hb : ∀ i, i < b ↔ Q i)
    (h : ∀ i, P i ↔ Q i) : a = b :=
  Nat.le_antisymm (thr_le ha hb fun i => (h i).1) (thr_le hb ha fun i => (h i).2)

section lin2
variable {s : QF} {n e m : Nat} {d r : Nat → Nat}

theorem contF_of_first (d : Nat → Nat) (f : Nat) (h : ∀ k, k < f → d k ≠ d f) : contF d f = false := by
  cases f with
  | zero => rfl
  | succ f =>
      rw [contF_succ, decide_eq_false_iff_not]
      exact fun heq => h f (Nat.lt_succ_self f) heq.symm

/-- a continuation is not at home: it sits behind its predecessor, which has the same home -/
theorem shifted_of_contF (d : Nat → Nat) (i : Nat) (h : contF d i = true) : posF d i ≠ d i := by
  cases i with
  | zero => exact absurd h Bool.false_ne_true
  | succ i =>
      rw [contF_succ, decide_eq_true_eq] at h
      have := p_ge_d d i
      have := p_step d i
      omega

theorem contF_home (d : Nat → Nat) (i : Nat) (h : posF d i = d i) : contF d i = false :=
  Bool.eq_false_iff.2 fun hc => shifted_of_contF d i hc h

theorem p_next (d : Nat → Nat) (m g : Nat) :
    (g + 1 < m ∧ posF d (g + 1) = posF d g + 1) ∨
      ((∀ i, i < m → posF d i ≠ posF d g + 1) ∧ (g + 1 < m → posF d (g + 1) = d (g + 1))) := by
  by_cases h : g + 1 < m ∧ posF d (g + 1) = posF d g + 1
  · exact Or.inl h
  · refine Or.inr ⟨fun i hi heq => ?_, fun h1 => Classical.byContradiction fun hne => h ⟨h1, p_shifted d g hne⟩⟩
    rcases Nat.lt_or_ge g i with hgi | hig
    · have := p_mono d (g + 1) i hgi
      have := p_step d g
      exact h ⟨by omega, by omega⟩
    · have := p_mono d i g hig
      omega

theorem pos_lt (L : Lin s n e m d r) (i : Nat) (hi : i < m) : posF d i < n :=
  Nat.lt_of_lt_of_le (Nat.lt_add_of_pos_right Nat.zero_lt_two) (L.fit i hi)

theorem home_lt (L : Lin s n e m d r) (i : Nat) (hi : i < m) : d i < n :=
  Nat.lt_of_le_of_lt (p_ge_d d i) (pos_lt L i hi)

theorem occ_home (L : Lin s n e m d r) (i : Nat) (hi : i < m) : bit s.occ (io n e (d i)) = true :=
  (L.occ _ (home_lt L i hi)).2 ⟨i, hi, rfl⟩

theorem isEmpty_home (L : Lin s n e m d r) (i : Nat) (hi : i < m) : s.isEmpty (io n e (d i)) = false := by
  rw [isEmpty, occ_home L i hi]
  rfl

theorem lt_fuelOf (L : Lin s n e m d r) (k : Nat) (h : k < n) : k < s.fuelOf := by
  rw [fuelOf, L.size]
  omega

theorem pos_between (L : Lin s n e m d r) (x : Nat) :
    ∀ i, i < m → d i ≤ x → x ≤ posF d i → ∃ k, k ≤ i ∧ posF d k = x := by
  intro i
  induction i with
  | zero => exact fun _ h1 h2 => ⟨0, Nat.le_refl 0, Nat.le_antisymm h1 h2⟩
  | succ i ih =>
      intro hi h1 h2
      by_cases hx : posF d (i + 1) = x
      · exact ⟨i + 1, Nat.le_refl _, hx⟩
      · have hs := p_shifted d i (by omega)
        have := L.sorted i hi
        obtain ⟨k, hk, hpk⟩ := ih (by omega) (by omega) (by omega)
        exact ⟨k, Nat.le_succ_of_le hk, hpk⟩

theorem pos_of_home (L : Lin s n e m d r) (f : Nat) (hf : f < m) :
    ∃ k, k ≤ f ∧ posF d k = d f :=
  pos_between L (d f) f hf (Nat.le_refl _) (p_ge_d d f)

theorem occ_or_shift_cell (L : Lin s n e m d r) (i : Nat) (hi : i < m) :
    (bit s.occ (io n e (posF d i)) || bit s.shift (io n e (posF d i))) = true := by
  by_cases h : posF d i = d i
  · rw [h, occ_home L i hi, Bool.true_or]
  · rw [L.shift i hi, decide_eq_true h, Bool.or_true]

theorem isEmpty_cell (L : Lin s n e m d r) (i : Nat) (hi : i < m) :
    s.isEmpty (io n e (posF d i)) = false := by
  by_cases h : posF d i = d i
  · rw [h]
    exact isEmpty_home L i hi
  · rw [isEmpty, L.shift i hi, decide_eq_true h, Bool.not_true, Bool.and_false]

theorem isRunStart_cell (L : Lin s n e m d r) (i : Nat) (hi : i < m) :
    s.isRunStart (io n e (posF d i)) = !contF d i := by
  rw [isRunStart, cont_cell L i hi, occ_or_shift_cell L i hi, Bool.and_true]

theorem isEmpty_nocell (L : Lin s n e m d r) (x : Nat) (hx : x < n)
    (h : ∀ i, i < m → posF d i ≠ x) : s.isEmpty (io n e x) = true := by
  obtain ⟨h1, h2⟩ := L.nocell x hx h
  have h3 : bit s.occ (io n e x) = false := by
    apply Bool.eq_false_iff.2
    intro ho
    obtain ⟨f, hf, hdf⟩ := (L.occ x hx).1 ho
    obtain ⟨k, hk, hpk⟩ := pos_of_home L f hf
    exact h k (by omega) (hpk.trans hdf)
  rw [isEmpty, h1, h2, h3]
  rfl

theorem cont_behind (L : Lin s n e m d r) (i : Nat) (hi : i < m) :
    bit s.cont (io n e (posF d i + 1)) = (decide (i + 1 < m) && contF d (i + 1)) := by
  rcases p_next d m i with h | h
  · rw [← h.2, cont_cell L (i + 1) h.1, decide_eq_true h.1, Bool.true_and]
  · rw [(L.nocell _ (L.fit i hi) h.1).1]
    by_cases h1 : i + 1 < m
    · rw [contF_home d _ (h.2 h1), Bool.and_false]
    · rw [decide_eq_false h1, Bool.false_and]

/-! ### `_get_start_index`: back to the start of the cluster counting occupied homes, forward again
  counting run starts -/

theorem startBack_succ (q fuel j c : Nat) :
    startBack s q (fuel + 1) j c =
      if bit s.shift j = true then
        startBack s q fuel (s.prv j) (c + if (j == q || bit s.occ j) = true then 1 else 0)
      else .ok (j, c + if (j == q || bit s.occ j) = true then 1 else 0) := by
  rw [startBack]
  cases bit s.shift j <;> cases (j == q || bit s.occ j) <;> rfl

/-- the first loop: from distance `c + k` down to the first unshifted slot `c` -/
theorem startBack_walk (hs : s.size = n) (hn : 0 < n) (qq c : Nat)
    (hc : bit s.shift (io n e c) = false) :
    ∀ k j acc fuel, j = c + k →
      (∀ j', c < j' → j' ≤ j → bit s.shift (io n e j') = true) → k < fuel →
      startBack s qq fuel (io n e j) acc =
        .ok (io n e c, acc + cntP (fun j' => io n e j' == qq || bit s.occ (io n e j')) c (k + 1)) := by
  intro k
  induction k with
  | zero =>
      intro j acc fuel hj _ hf
      obtain ⟨fuel, rfl⟩ := Nat.exists_eq_add_one_of_ne_zero (Nat.ne_zero_of_lt hf)
      rw [hj, Nat.add_zero c, startBack_succ, hc, cntP_one]
      rfl
  | succ k ih =>
      intro j acc fuel hj hsh hf
      obtain ⟨fuel, rfl⟩ := Nat.exists_eq_add_one_of_ne_zero (Nat.ne_zero_of_lt hf)
      rw [startBack_succ, if_pos (hsh j (by omega) (Nat.le_refl j)),
        prv_io s n e j hs hn (by omega),
        ih (j - 1) _ fuel (by omega) (fun j' h1 h2 => hsh j' h1 (by omega)) (by omega),
        cntP_succ_top _ c (k + 1), ← hj, Nat.add_assoc, Nat.add_comm (cntP _ c (k + 1))]

/-- the first loop, started at a distance `x` inside the cluster of the elements `a, …, i`: it walks
    back to the position of `a` -/
theorem startBack_cluster (L : Lin s n e m d r) (a i x qq : Nat) (ha : a ≤ i) (hi : i < m)
    (hpa : posF d a = d a) (hk : ∀ k, a < k → k ≤ i → posF d k ≠ d k)
    (hx1 : posF d a ≤ x) (hx2 : x ≤ posF d i) :
    startBack s qq s.fuelOf (io n e x) 0 = .ok (io n e (posF d a),
      cntP (fun y => io n e y == qq || bit s.occ (io n e y)) (posF d a) (x - posF d a + 1)) := by
  have hc := contig d a i hk
  have hpi := hc i ha (Nat.le_refl _)
  have hfit := pos_lt L i hi
  have hsh_a : bit s.shift (io n e (posF d a)) = false := by
    rw [L.shift a (Nat.lt_of_le_of_lt ha hi)]
    exact decide_eq_false fun h => h hpa
  -- the slots behind `a` hold the shifted elements `a + 1, …` of the cluster
  have hsh : ∀ y, posF d a < y → y ≤ x → bit s.shift (io n e y) = true := by
    intro y h1 h2
    obtain ⟨u, rfl⟩ := Nat.exists_eq_add_of_lt h1
    have hu : a + u + 1 ≤ i := by omega
    have hy : posF d (a + u + 1) = posF d a + u + 1 := by
      rw [hc _ (by omega) hu]
      omega
    rw [← hy, L.shift _ (Nat.lt_of_le_of_lt hu hi)]
    exact decide_eq_true (hk _ (by omega) hu)
  rw [startBack_walk L.size (Nat.zero_lt_of_lt hfit) qq (posF d a) hsh_a (x - posF d a) x 0 s.fuelOf
    (Nat.add_sub_of_le hx1).symm hsh (lt_fuelOf L _ (by omega)), Nat.zero_add]

/-- the first loop also counts the slot of the quotient itself, which is occupied anyway -/
theorem cntP_occ_home (L : Lin s n e m d r) (f : Nat) (hf : f < m) (lo len : Nat) (h : lo + len ≤ n) :
    cntP (fun j => io n e j == io n e (d f) || bit s.occ (io n e j)) lo len =
      cntP (fun j => bit s.occ (io n e j)) lo len := by
  apply cntP_congr
  intro j _ h2
  by_cases hj : j = d f
  · rw [hj, occ_home L f hf, Bool.or_true]
  · rw [beq_false_of_ne fun h' => hj (io_inj n e j (d f) (by omega) (home_lt L f hf) h'), Bool.false_or]

theorem occ_gap (L : Lin s n e m d r) (i : Nat) (hi : i + 1 < m) (j : Nat) (h1 : d i < j)
    (h2 : j < d (i + 1)) : bit s.occ (io n e j) = false := by
  apply Bool.eq_false_iff.2
  intro ho
  obtain ⟨k, hk, rfl⟩ := (L.occ j (Nat.lt_trans h2 (home_lt L (i + 1) hi))).1 ho
  rcases Nat.lt_or_ge i k with hik | hki
  · exact Nat.lt_irrefl _ (Nat.lt_of_lt_of_le h2 (d_mono L (i + 1) k hik hk))
  · exact Nat.lt_irrefl _ (Nat.lt_of_le_of_lt (d_mono L k i hki (by omega)) h1)

theorem cntP_occ_step (L : Lin s n e m d r) (i : Nat) (hi : i + 1 < m) :
    cntP (fun j => bit s.occ (io n e j)) (d i + 1) (d (i + 1) - d i) =
      if (!contF d (i + 1)) = true then 1 else 0 := by
  rw [contF_succ]
  rcases L.sorted i hi with hlt | ⟨heq, _⟩
  · obtain ⟨g, hg⟩ := Nat.exists_eq_add_of_lt hlt
    have hlen : d (i + 1) - d i = g + 1 := by omega
    have htop : d i + 1 + g = d (i + 1) := by omega
    rw [hlen, cntP_succ_top, cntP_false _ _ _ fun j h1 h2 => occ_gap L i hi j (by omega) (by omega),
      htop, occ_home L (i + 1) hi, decide_eq_false (by omega)]
    rfl
  · rw [← heq, Nat.sub_self, cntP_zero, decide_eq_true rfl]
    rfl

/-- the number of occupied homes between two homes is the number of run starts between the two
    elements -/
theorem count_runs (L : Lin s n e m d r) (a : Nat) (ha : contF d a = false) :
    ∀ t, a + t < m →
      cntP (fun j => bit s.occ (io n e j)) (d a) (d (a + t) - d a + 1) =
        cntP (fun k => !contF d k) a (t + 1) := by
  intro t
  induction t with
  | zero =>
      intro hm
      rw [Nat.add_zero a, Nat.sub_self, cntP_one, cntP_one, occ_home L a hm, ha]
      rfl
  | succ t ih =>
      intro hm
      rw [← Nat.add_assoc] at hm ⊢
      have h1 : d a ≤ d (a + t) := d_mono L a (a + t) (Nat.le_add_right a t) (by omega)
      have h2 : d (a + t) ≤ d (a + t + 1) := d_mono L (a + t) (a + t + 1) (Nat.le_succ _) hm
      rw [cntP_succ_top _ a (t + 1), ← ih (by omega), cntP_split _ _ _ _ h1 h2,
        cntP_occ_step L (a + t) hm, ← Nat.add_assoc]

/-- one iteration of the second loop at element `k`, with `c` further run starts to go -/
theorem startFwd_cell (L : Lin s n e m d r) (k : Nat) (hk : k < m) (fuel c : Nat) (hc : 1 ≤ c) :
    startFwd s (fuel + 1) (io n e (posF d k)) ((if (!contF d k) = true then 1 else 0) + c) =
      startFwd s fuel (io n e (posF d k + 1)) c := by
  have hcb : bit s.cont (io n e (posF d k)) = contF d k := L.cont k hk
  have hne : (1 + c == 1) = false := beq_false_of_ne (by omega)
  rw [startFwd, hcb, nxt_io s n e _ L.size]
  cases contF d k
  · simp only [Bool.not_false, if_true, hne, Bool.false_eq_true, if_false, Nat.add_sub_cancel_left]
  · simp only [Bool.not_true, Bool.false_eq_true, if_false, Nat.zero_add]

/-- the second loop over the contiguous elements `k, …, j - 1` of the cluster that starts with
    element `a`, with one more run start to go than there are among them: it stops behind element
    `j - 1`, at a slot that is not a continuation -/
theorem startFwd_walk (L : Lin s n e m d r) (a j : Nat) (hj : j ≤ m)
    (hcontig : ∀ k, a ≤ k → k < j → posF d k = posF d a + (k - a))
    (hend : bit s.cont (io n e (posF d a + (j - a))) = false) :
    ∀ t k fuel, j = k + t → a ≤ k → t < fuel →
      startFwd s fuel (io n e (posF d a + (k - a))) (cntP (fun k => !contF d k) k t + 1) =
        .ok (io n e (posF d a + (j - a))) := by
  intro t
  induction t with
  | zero =>
      intro k fuel hk _ hfu
      obtain ⟨fuel, rfl⟩ := Nat.exists_eq_add_one_of_ne_zero (Nat.ne_zero_of_lt hfu)
      obtain rfl : j = k := hk
      rw [cntP_zero, startFwd, hend]
      rfl
  | succ t ih =>
      intro k fuel hk hak hfu
      obtain ⟨fuel, rfl⟩ := Nat.exists_eq_add_one_of_ne_zero (Nat.ne_zero_of_lt hfu)
      have hpk := hcontig k hak (by omega)
      have hnext : posF d k + 1 = posF d a + (k + 1 - a) := by omega
      rw [cntP_succ_bot, Nat.add_assoc, ← hpk, startFwd_cell L k (by omega) fuel _ (Nat.le_add_left 1 _), hnext]
      exact ih (k + 1) fuel (by omega) (Nat.le_succ_of_le hak) (Nat.lt_of_succ_lt_succ hfu)

/-- `_get_start_index` of an occupied quotient is the position of its first element -/
theorem getStartIndex_lin (L : Lin s n e m d r) (f : Nat) (hf : f < m)
    (hfirst : ∀ k, k < f → d k ≠ d f) :
    s.getStartIndex (io n e (d f)) = .ok (io n e (posF d f)) := by
  -- `a` is the first element of the cluster of `f`
  obtain ⟨a, ha, hpa, hk⟩ := cluster d f
  have hc := contig d a f hk
  have hpf := hc f ha (Nat.le_refl f)
  have hda : d a ≤ d f := d_mono L a f ha hf
  have hdf : d f < n := home_lt L f hf
  have hcf := contF_of_first d f hfirst
  rw [getStartIndex, if_neg (by rw [isEmpty_home L _ hf]; exact Bool.false_ne_true),
    startBack_cluster L a f (d f) (io n e (d f)) ha hf hpa hk (hpa ▸ hda) (p_ge_d d f)]
  -- the first loop has counted the occupied homes from `d a` to `d f`, and `d f` once more; they are
  -- as many as the run starts among `a, …, f` (`count_runs`), of which `f` is the last
  show startFwd s s.fuelOf (io n e (posF d a)) (cntP _ (posF d a) (d f - posF d a + 1)) = _
  rw [hpa, cntP_occ_home L _ hf _ _ (by omega), ← Nat.add_sub_of_le ha,
    count_runs L a (contF_home d a hpa) (f - a) (by omega), cntP_succ_top, Nat.add_sub_of_le ha, hcf, hpf, ← hpa]
  have hw := startFwd_walk L a f (Nat.le_of_lt hf) (fun k h1 h2 => hc k h1 (Nat.le_of_lt h2))
    (by rw [← hpf, cont_cell L f hf, hcf]) (f - a) a s.fuelOf (Nat.add_sub_of_le ha).symm (Nat.le_refl a)
    (lt_fuelOf L _ (by have := pos_lt L f hf; omega))
  rw [Nat.sub_self, Nat.add_zero] at hw
  exact hw

/-! ### `_contained_at_loc`: the run of the quotient, scanned in increasing order of remainders -/

theorem run_of_home (L : Lin s n e m d r) (D i0 : Nat) (hi0 : i0 < m) (hdi0 : d i0 = D) :
    ∃ f g, f ≤ g ∧ g < m ∧ (∀ k, f ≤ k → k ≤ g → d k = D) ∧ (∀ k, k < f → d k ≠ D) ∧
      (∀ k, g < k → k < m → d k ≠ D) := by
  obtain ⟨f, hfi, hdf, hfmin⟩ := exists_first (fun k => d k = D) i0 hdi0
  obtain ⟨g, hig, hgm, hdg, hgmax⟩ := exists_last (fun k => d k = D) m i0 hi0 hdi0
  refine ⟨f, g, Nat.le_trans hfi hig, hgm, fun k h1 h2 => ?_, hfmin, hgmax⟩
  exact Nat.le_antisymm (hdg ▸ d_mono L k g h2 hgm) (hdf ▸ d_mono L f k h1 (Nat.lt_of_le_of_lt h2 hgm))

theorem r_lt_in_run (L : Lin s n e m d r) (f g D : Nat) (hg : g < m)
    (hgrp : ∀ k, f ≤ k → k ≤ g → d k = D) (k k' : Nat) (h1 : f ≤ k) (h2 : k < k') (h3 : k' ≤ g) :
    r k < r k' := by
  have step : ∀ i, f ≤ i → i + 1 ≤ g → r i < r (i + 1) := fun i hi1 hi2 => by
    rcases L.sorted i (Nat.lt_of_le_of_lt hi2 hg) with h | h
    · exact absurd ((hgrp i hi1 (Nat.le_of_succ_le hi2)).trans (hgrp (i + 1) (Nat.le_succ_of_le hi1) hi2).symm)
        (Nat.ne_of_lt h)
    · exact h.2
  obtain ⟨t, rfl⟩ := Nat.exists_eq_add_of_lt h2
  induction t with
  | zero => exact step k h1 h3
  | succ t ih =>
      exact Nat.lt_trans (ih (Nat.lt_succ_of_le (Nat.le_add_right k t)) (Nat.le_of_succ_le h3))
        (step (k + t + 1) (Nat.le_trans h1 (Nat.le_add_right k (t + 1))) h3)

theorem elem_inj (L : Lin s n e m d r) (i j : Nat) (hi : i < m) (hj : j < m) (hd : d i = d j)
    (hr : r i = r j) : i = j := by
  have key : ∀ i j, i < j → j < m → d i = d j → r i ≠ r j := fun i j hij hj hd =>
    Nat.ne_of_lt (r_lt_in_run L i j (d i) hj
      (fun k h1 h2 => Nat.le_antisymm (Nat.le_trans (d_mono L k j h2 hj) (Nat.le_of_eq hd.symm))
        (d_mono L i k h1 (Nat.lt_of_le_of_lt h2 hj))) i j (Nat.le_refl i) hij (Nat.le_refl j))
  rcases Nat.lt_trichotomy i j with h | h | h
  · exact absurd hr (key i j h hj hd)
  · exact h
  · exact absurd hr.symm (key j i h hi hd.symm)

/-- one iteration of the look-up loop at element `k`; `starts` is still 0 iff `k` starts the run -/
theorem containedLoop_at (L : Lin s n e m d r) (k : Nat) (hk : k < m) (rr fuel : Nat) :
    containedLoop s rr (fuel + 1) (io n e (posF d k)) (if contF d k = true then 1 else 0) =
      if rr < r k then .ok none
      else if r k = rr then .ok (some (io n e (posF d k)))
      else containedLoop s rr fuel (io n e (posF d k + 1)) 1 := by
  have hcb : bit s.cont (io n e (posF d k)) = contF d k := L.cont k hk
  rw [containedLoop, isEmpty_cell L k hk, hcb, L.rem k hk, nxt_io s n e _ L.size]
  cases contF d k <;> simp

/-- the slot behind the last element `g` of a run is empty or starts the next run: the look-up ends -/
theorem containedLoop_behind (L : Lin s n e m d r) (g : Nat) (hg : g < m)
    (hlast : g + 1 < m → contF d (g + 1) = false) (rr fuel : Nat) (hf : fuel ≠ 0) :
    containedLoop s rr fuel (io n e (posF d g + 1)) 1 = .ok none := by
  obtain ⟨fuel, rfl⟩ := Nat.exists_eq_add_one_of_ne_zero hf
  rw [containedLoop]
  rcases p_next d m g with ⟨hm, hp⟩ | ⟨hno, _⟩
  · rw [← hp, isEmpty_cell L (g + 1) hm, (L.cont (g + 1) hm).trans (hlast hm)]
    rfl
  · have := L.fit g hg
    rw [if_pos (isEmpty_nocell L _ (by omega) hno)]

/-- the look-up loop on the run `f, …, g` of the quotient, from element `k` on: the run is sorted by
    remainder, so the loop stops at the element looked up, or at the first larger remainder, or behind
    the run -/
theorem containedLoop_run (L : Lin s n e m d r) (f g D : Nat) (hg : g < m)
    (hgrp : ∀ k, f ≤ k → k ≤ g → d k = D) (hlast : g + 1 < m → d (g + 1) ≠ D) (rr : Nat) :
    ∀ fuel k, f ≤ k → k ≤ g → g - k + 1 < fuel →
      (containedLoop s rr fuel (io n e (posF d k)) (if contF d k = true then 1 else 0) = .ok none ∧
          ∀ k', k ≤ k' → k' ≤ g → r k' ≠ rr) ∨
        ∃ k', k ≤ k' ∧ k' ≤ g ∧ r k' = rr ∧
          containedLoop s rr fuel (io n e (posF d k)) (if contF d k = true then 1 else 0) =
            .ok (some (io n e (posF d k'))) := by
  intro fuel
  induction fuel with
  | zero => exact fun k _ _ h => absurd h (Nat.not_lt_zero _)
  | succ fuel ih =>
      intro k hfk hkg hfu
      rw [containedLoop_at L k (Nat.lt_of_le_of_lt hkg hg)]
      -- behind `k` the remainders are larger than `r k`
      have hlt : ∀ k', k ≤ k' → k' ≤ g → r k' ≤ r k → k' = k := fun k' h1 h2 h3 =>
        Nat.le_antisymm (Nat.le_of_not_lt fun h4 =>
          Nat.not_lt_of_le h3 (r_lt_in_run L f g D hg hgrp k k' hfk h4 h2)) h1
      rcases Nat.lt_trichotomy rr (r k) with h | h | h
      · refine Or.inl ⟨if_pos h, fun k' h1 h2 h3 => ?_⟩
        have := hlt k' h1 h2 (by omega)
        subst this
        omega
      · exact Or.inr ⟨k, Nat.le_refl k, hkg, h.symm, by rw [if_neg (by omega), if_pos h.symm]⟩
      · rw [if_neg (Nat.lt_asymm h), if_neg (Nat.ne_of_lt h)]
        have hnot : ∀ k', k ≤ k' → k' ≤ g → r k' = rr → k < k' := fun k' h1 h2 h3 =>
          Nat.lt_of_le_of_ne h1 fun h4 => by subst h4; omega
        rcases Nat.eq_or_lt_of_le hkg with rfl | hkg'
        · refine Or.inl ⟨containedLoop_behind L k hg (fun h1 => ?_) rr fuel (by omega), fun k' h1 h2 h3 =>
            Nat.not_le_of_gt (hnot k' h1 h2 h3) h2⟩
          rw [contF_succ, hgrp k hfk (Nat.le_refl k)]
          exact decide_eq_false (hlast h1)
        · have hc : contF d (k + 1) = true := by
            rw [contF_succ, hgrp (k + 1) (Nat.le_succ_of_le hfk) hkg', hgrp k hfk hkg]
            exact decide_eq_true rfl
          have hrec := ih (k + 1) (Nat.le_succ_of_le hfk) hkg' (by omega)
          rw [hc, if_pos rfl, p_shifted d k (shifted_of_contF d (k + 1) hc)] at hrec
          rcases hrec with ⟨h1, h2⟩ | ⟨k', h1, h2, h3, h4⟩
          · exact Or.inl ⟨h1, fun k' h3 h4 h5 => h2 k' (hnot k' h3 h4 h5) h4 h5⟩
          · exact Or.inr ⟨k', Nat.le_of_succ_le h1, h2, h3, h4⟩

theorem containedAtLoc_slot (L : Lin s n e m d r) (x : Nat) (hx : x < n) (rr : Nat) :
    (s.containedAtLoc (io n e x) rr = .ok none ∧ ∀ i, i < m → d i = x → r i ≠ rr) ∨
      ∃ i, i < m ∧ d i = x ∧ r i = rr ∧
        s.containedAtLoc (io n e x) rr = .ok (some (io n e (posF d i))) := by
  rw [containedAtLoc]
  cases ho : bit s.occ (io n e x)
  · exact Or.inl ⟨rfl, fun i hi hdi _ => Bool.eq_false_iff.1 ho ((L.occ x hx).2 ⟨i, hi, hdi⟩)⟩
  · obtain ⟨i, hi, hdi⟩ := (L.occ x hx).1 ho
    obtain ⟨f, g, hfg, hgm, hgrp, hfmin, hgmax⟩ := run_of_home L x i hi hdi
    obtain rfl : d f = x := hgrp f (Nat.le_refl f) hfg
    have hlen : g - f + 1 < n := by
      have := p_mono d f g hfg
      have := L.fit g hgm
      omega
    have hloop := containedLoop_run L f g (d f) hgm hgrp (hgmax (g + 1) (Nat.lt_succ_self g)) rr s.fuelOf f
      (Nat.le_refl f) hfg (lt_fuelOf L _ hlen)
    rw [contF_of_first d f hfmin] at hloop
    rw [getStartIndex_lin L f (Nat.lt_of_le_of_lt hfg hgm) hfmin]
    rcases hloop with ⟨h1, h2⟩ | ⟨k', h1, h2, h3, h4⟩
    · exact Or.inl ⟨h1, fun i hi hdi => h2 i (Nat.le_of_not_lt fun h => hfmin i h hdi)
        (Nat.le_of_not_lt fun h => hgmax i h hi hdi)⟩
    · exact Or.inr ⟨k', Nat.lt_of_le_of_lt h2 hgm, hgrp k' h1 h2, h3, h4⟩

/-- **Layer A1 on the linear view**: the look-up terminates and finds exactly the stored elements -/
theorem containedAtLoc_lin (L : Lin s n e m d r) (x : Nat) (hx : x < n) (rr : Nat) :
    ∃ o, s.containedAtLoc (io n e x) rr = .ok o ∧
      (o.isSome = true ↔ ∃ i, i < m ∧ d i = x ∧ r i = rr) := by
  rcases containedAtLoc_slot L x hx rr with ⟨h1, h2⟩ | ⟨i, hi, hdi, hri, h⟩
  · exact ⟨none, h1, ⟨fun h' => absurd h' Bool.false_ne_true, fun ⟨i, hi, hdi, hri⟩ => absurd hri (h2 i hi hdi)⟩⟩
  · exact ⟨_, h, fun _ => ⟨i, hi, hdi, hri⟩, fun _ => rfl⟩

theorem contained_find (L : Lin s n e m d r) (j : Nat) (hj : j < m) :
    s.containedAtLoc (io n e (d j)) (r j) = .ok (some (io n e (posF d j))) := by
  rcases containedAtLoc_slot L (d j) (home_lt L j hj) (r j) with ⟨_, h2⟩ | ⟨i, hi, hdi, hri, h⟩
  · exact absurd rfl (h2 j hj rfl)
  · obtain rfl := elem_inj L i j hi hj hdi hri
    exact h

end lin2
end PyProb.QFLin
