/-
  The double literal `0.6931471805599453` used by the code in place of `ln 2`
  (exact value 6243314768165359 / 2^53 ≈ 0.693147180559945286…) lies below
  `ln 2 = 0.693147180559945309…`.  Mathlib's own bounds on `log 2` have 10 digits, which is not
  enough; here the bound comes from 19 terms of
  `log 2 = log (1 + 1/1) = Σ 2/(2k+1) · (1/3)^(2k+1)` (all terms positive, so every partial sum is
  a lower bound).
-/
import PyProb.Lemmas.RealInst
import Mathlib.Analysis.SpecialFunctions.Log.Deriv
import Mathlib.Analysis.Complex.Exponential

namespace PyProb

theorem c2_le_log_two : c2 ≤ Real.log 2 := by
  have hs := Real.hasSum_log_one_add_inv (a := 1) one_pos
  have h2 : (1 : ℝ) + 1⁻¹ = 2 := by norm_num
  rw [h2] at hs
  have hle := sum_le_hasSum (Finset.range 19) (fun i _ => by positivity) hs
  rw [c2_eq]
  refine le_trans ?_ hle
  norm_num [Finset.sum_range_succ]

/-- the code's `ln² 2` literal `0.4804530139182` is below the square of its `ln 2` literal -/
theorem c1_le_c2_sq : c1 ≤ c2 ^ 2 := by
  rw [c1_eq, c2_eq]; norm_num

theorem c1_le_log_two_sq : c1 ≤ (Real.log 2) ^ 2 :=
  c1_le_c2_sq.trans (pow_le_pow_left₀ c2_pos.le c2_le_log_two 2)

end PyProb
