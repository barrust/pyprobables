/-
  Lemmas on the byte codecs of `Model/Base.lean`: little-endian integers, two's complement,
  `struct` pack/unpack (generic over layouts, native padding included), typed arrays, hex.
-/
import PyProb.Lemmas.Lists
import PyProb.Model.Base

namespace PyProb

@[simp] theorem leBytes_length (n v : Nat) : (leBytes n v).length = n := by
  induction n generalizing v with
  | zero => rfl
  | succ n ih => simp [leBytes, ih]

theorem leBytes_lt (n v : Nat) : ∀ x ∈ leBytes n v, x < 256 := by
  induction n generalizing v with
  | zero => simp [leBytes]
  | succ n ih =>
      intro x hx
      simp only [leBytes, List.mem_cons] at hx
      rcases hx with rfl | hx
      · omega
      · exact ih _ x hx

theorem ofLE_leBytes (n v : Nat) : ofLE (leBytes n v) = v % 256 ^ n := by
  induction n generalizing v with
  | zero => simp [leBytes, ofLE, Nat.mod_one]
  | succ n ih =>
      simp only [leBytes, ofLE, ih]
      rw [Nat.pow_succ, Nat.mul_comm (256 ^ n) 256, Nat.mod_mul]

theorem ofLE_leBytes_of_lt {n v : Nat} (h : v < 256 ^ n) : ofLE (leBytes n v) = v := by
  rw [ofLE_leBytes, Nat.mod_eq_of_lt h]

theorem ofLE_lt (bs : Bytes) (h : ∀ x ∈ bs, x < 256) : ofLE bs < 256 ^ bs.length := by
  induction bs with
  | nil => simp [ofLE]
  | cons b bs ih =>
      have hb := h b (by simp)
      have := ih (fun x hx => h x (by simp [hx]))
      simp only [ofLE, List.length_cons, Nat.pow_succ]
      omega

theorem leBytes_ofLE (bs : Bytes) (h : ∀ x ∈ bs, x < 256) : leBytes bs.length (ofLE bs) = bs := by
  induction bs with
  | nil => rfl
  | cons b bs ih =>
      have hb := h b (by simp)
      have := ih (fun x hx => h x (by simp [hx]))
      simp only [List.length_cons, leBytes, ofLE]
      rw [show (b + 256 * ofLE bs) % 256 = b by omega, show (b + 256 * ofLE bs) / 256 = ofLE bs by omega, this]

theorem leBytes_zero (n : Nat) : leBytes n 0 = List.replicate n 0 := by
  induction n with
  | zero => rfl
  | succ n ih => simp [leBytes, ih, List.replicate_succ]

@[simp] theorem leBytesInt_length (n : Nat) (v : Int) : (leBytesInt n v).length = n := by
  simp [leBytesInt]

theorem leBytesInt_lt (n : Nat) (v : Int) : ∀ x ∈ leBytesInt n v, x < 256 := leBytes_lt _ _

theorem leBytesInt_nonneg {n : Nat} {v : Int} (h0 : 0 ≤ v) (h1 : v < (256 ^ n : Nat)) :
    leBytesInt n v = leBytes n v.toNat := by
  unfold leBytesInt
  rw [Int.emod_eq_of_lt h0 h1]

theorem leBytesInt_natCast {n v : Nat} (h : v < 256 ^ n) : leBytesInt n (v : Int) = leBytes n v := by
  rw [leBytesInt_nonneg (Int.natCast_nonneg v) (Int.ofNat_lt.mpr h), Int.toNat_natCast]

theorem ofLE_leBytesInt {n : Nat} {v : Int} (h0 : 0 ≤ v) (h1 : v < (256 ^ n : Nat)) :
    (ofLE (leBytesInt n v) : Int) = v := by
  rw [leBytesInt_nonneg h0 h1, ofLE_leBytes_of_lt (by omega)]
  omega

theorem ofLEInt_leBytesInt {n : Nat} {v : Int} (hlo : -((256 ^ n : Nat) : Int) ≤ 2 * v)
    (hhi : 2 * v < ((256 ^ n : Nat) : Int)) : ofLEInt (leBytesInt n v) = v := by
  have hpos : 0 < 256 ^ n := Nat.pow_pos (by decide)
  generalize hP : 256 ^ n = P at *
  unfold ofLEInt
  simp only [leBytesInt_length, hP]
  unfold leBytesInt
  rw [ofLE_leBytes, hP]
  have hm0 := Int.emod_nonneg v (show ((P : Nat) : Int) ≠ 0 by omega)
  have hm1 := Int.emod_lt_of_pos v (show (0 : Int) < ((P : Nat) : Int) by omega)
  rw [Nat.mod_eq_of_lt (by omega)]
  by_cases hv : 0 ≤ v
  · have : v % (P : Int) = v := Int.emod_eq_of_lt hv (by omega)
    rw [this]
    rw [if_pos (by omega)]; omega
  · have : v % (P : Int) = v + P := by
      rw [← Int.add_emod_right, Int.emod_eq_of_lt (by omega) (by omega)]
    rw [this]
    rw [if_neg (by omega)]; omega

theorem ofLEInt_leBytesInt_4 {v : Int} (hlo : -2147483648 ≤ v) (hhi : v ≤ 2147483647) :
    ofLEInt (leBytesInt 4 v) = v :=
  ofLEInt_leBytesInt (by simp; omega) (by simp; omega)

theorem ofLEInt_leBytesInt_8 {v : Int} (hlo : -9223372036854775808 ≤ v) (hhi : v ≤ 9223372036854775807) :
    ofLEInt (leBytesInt 8 v) = v :=
  ofLEInt_leBytesInt (by simp; omega) (by simp; omega)

theorem Field.size_pos (f : Field) : 0 < f.size := by cases f <;> decide

theorem encField_length (big : Bool) (f : Field) (v : Int) : (encField big f v).length = f.size := by
  unfold encField; cases big <;> simp

theorem encField_lt (big : Bool) (f : Field) (v : Int) : ∀ x ∈ encField big f v, x < 256 := by
  unfold encField
  cases big <;> simp only [Bool.false_eq_true, if_false, if_true, List.mem_reverse] <;> exact leBytesInt_lt _ _

theorem decField_encField (big : Bool) (f : Field) (v : Int) (hlo : f.lo ≤ v) (hhi : v ≤ f.hi) :
    decField big f (encField big f v) = v := by
  have hrev : (if big = true then (encField big f v).reverse else encField big f v) = leBytesInt f.size v := by
    unfold encField; cases big <;> simp
  unfold decField
  simp only [hrev]
  cases f <;> simp only [Field.lo, Field.hi, Field.size, Gen.int32Min, Gen.int32Max, Gen.int64Min,
      Gen.int64Max, Gen.uint32Max, Gen.uint64Max] at hlo hhi ⊢
  · exact ofLE_leBytesInt hlo (by simp; omega)
  · exact ofLE_leBytesInt hlo (by simp; omega)
  · exact ofLEInt_leBytesInt_4 hlo hhi
  · exact ofLE_leBytesInt hlo (by simp; omega)
  · exact ofLEInt_leBytesInt_8 hlo hhi
  · exact ofLE_leBytesInt hlo (by simp; omega)

theorem packGo_length (l : Layout) (off : Nat) (fs : List Field) (vs : List Int) (bs : Bytes)
    (h : packGo l off fs vs = .ok bs) : off + bs.length = sizeGo l off fs := by
  induction fs generalizing off vs bs with
  | nil =>
      cases vs with
      | nil => simp [packGo] at h; subst h; simp [sizeGo]
      | cons v vs => simp [packGo] at h
  | cons f fs ih =>
      cases vs with
      | nil => simp [packGo] at h
      | cons v vs =>
          simp only [packGo] at h
          split at h
          · cases h
          · split at h
            · rename_i rest hrest
              injection h with h; subst h
              have := ih _ _ _ hrest
              simp only [sizeGo, List.length_append, List.length_replicate, encField_length]
              omega
            · cases h

theorem pack_length (l : Layout) (vs : List Int) (bs : Bytes) (h : l.pack vs = .ok bs) :
    bs.length = l.size := by
  have := packGo_length l 0 l.fields vs bs h
  unfold Layout.size; omega

theorem packGo_lt (l : Layout) (off : Nat) (fs : List Field) (vs : List Int) (bs : Bytes)
    (h : packGo l off fs vs = .ok bs) : ∀ x ∈ bs, x < 256 := by
  induction fs generalizing off vs bs with
  | nil =>
      cases vs with
      | nil => simp [packGo] at h; subst h; simp
      | cons v vs => simp [packGo] at h
  | cons f fs ih =>
      cases vs with
      | nil => simp [packGo] at h
      | cons v vs =>
          simp only [packGo] at h
          split at h
          · cases h
          · split at h
            · rename_i rest hrest
              injection h with h; subst h
              intro x hx
              simp only [List.mem_append, List.mem_replicate] at hx
              rcases hx with (⟨_, rfl⟩ | hx) | hx
              · decide
              · exact encField_lt _ _ _ x hx
              · exact ih _ _ _ hrest x hx
            · cases h

theorem pack_lt (l : Layout) (vs : List Int) (bs : Bytes) (h : l.pack vs = .ok bs) :
    ∀ x ∈ bs, x < 256 := packGo_lt l 0 l.fields vs bs h

theorem unpackGo_packGo (l : Layout) (off : Nat) (fs : List Field) (vs : List Int) (bs pre suf : Bytes)
    (h : packGo l off fs vs = .ok bs) (hpre : pre.length = off) :
    unpackGo l off (pre ++ bs ++ suf) fs = vs := by
  induction fs generalizing off vs bs pre with
  | nil =>
      cases vs with
      | nil => rfl
      | cons v vs => simp [packGo] at h
  | cons f fs ih =>
      cases vs with
      | nil => simp [packGo] at h
      | cons v vs =>
          simp only [packGo] at h
          split at h
          · cases h
          · rename_i hrange
            split at h
            · rename_i rest hrest
              injection h with h; subst h
              simp only [unpackGo]
              have hdrop : List.drop (off + l.padBefore off f)
                  (pre ++ (List.replicate (l.padBefore off f) 0 ++ encField l.isBig f v ++ rest) ++ suf)
                  = encField l.isBig f v ++ (rest ++ suf) := by
                have : pre ++ (List.replicate (l.padBefore off f) 0 ++ encField l.isBig f v ++ rest) ++ suf
                    = (pre ++ List.replicate (l.padBefore off f) 0) ++ (encField l.isBig f v ++ (rest ++ suf)) := by
                  simp [List.append_assoc]
                rw [this, List.drop_left' (by simp [hpre])]
              rw [hdrop, List.take_left' (encField_length _ _ _)]
              rw [decField_encField _ _ _ (by omega) (by omega)]
              congr 1
              have := ih (off + l.padBefore off f + f.size) vs rest
                (pre ++ List.replicate (l.padBefore off f) 0 ++ encField l.isBig f v) hrest
                (by simp [hpre, encField_length]; omega)
              simpa [List.append_assoc] using this
            · cases h

theorem unpack_pack_append (l : Layout) (vs : List Int) (bs suf : Bytes) (h : l.pack vs = .ok bs) :
    l.unpack (bs ++ suf) = .ok vs := by
  have hlen := pack_length l vs bs h
  unfold Layout.unpack
  rw [if_neg (by simp; omega)]
  have := unpackGo_packGo l 0 l.fields vs bs [] suf h rfl
  simp only [List.nil_append] at this
  rw [this]

theorem unpack_pack (l : Layout) (vs : List Int) (bs : Bytes) (h : l.pack vs = .ok bs) :
    l.unpack bs = .ok vs := by
  simpa using unpack_pack_append l vs bs [] h

/-- no padding before any field of `fs` laid out from offset `off`: always so in the standard
    modes, and in native mode whenever every field falls on a multiple of its size -/
def noPad (l : Layout) : Nat → List Field → Bool
  | _, [] => true
  | off, f :: fs => l.padBefore off f == 0 && noPad l (off + f.size) fs

/-- `pack` on such a layout, `acc` being the bytes written so far: the range checks in field
    order, then the encodings one after the other.  On a concrete field list this unfolds to the
    chain of checks by `rfl`. -/
def packFlat (big : Bool) : List Field → List Int → Bytes → R Bytes
  | [], [], acc => .ok acc
  | f :: fs, v :: vs, acc =>
      if v < f.lo ∨ v > f.hi then .error .structError else packFlat big fs vs (acc ++ encField big f v)
  | _, _, _ => .error .structError

theorem packGo_eq_packFlat (l : Layout) (off : Nat) (fs : List Field) (vs : List Int) (acc : Bytes)
    (h : noPad l off fs = true) :
    (packGo l off fs vs).map (acc ++ ·) = packFlat l.isBig fs vs acc := by
  induction fs generalizing off vs acc with
  | nil => cases vs <;> simp [packGo, packFlat, Except.map]
  | cons f fs ih =>
      cases vs with
      | nil => rfl
      | cons v vs =>
          simp only [noPad, Bool.and_eq_true, beq_iff_eq] at h
          simp only [packGo, packFlat, h.1, Nat.add_zero, List.replicate_zero, List.nil_append]
          split
          · rfl
          · rw [← ih _ _ _ h.2]
            cases packGo l (off + f.size) fs vs <;> simp [Except.map, List.append_assoc]

theorem pack_eq_packFlat (l : Layout) (h : noPad l 0 l.fields = true) (vs : List Int) :
    l.pack vs = packFlat l.isBig l.fields vs [] := by
  rw [← packGo_eq_packFlat l 0 l.fields vs [] h, Layout.pack]
  cases packGo l 0 l.fields vs <;> rfl

theorem drop_append_of_length {α} (a b : List α) (n : Nat) (h : a.length = n) :
    (a ++ b).drop n = b := by
  subst h; exact List.drop_left

theorem cellsBytes_length (f : Field) (a : List Int) : (cellsBytes f a).length = f.size * a.length :=
  flatMap_length_const _ _ (leBytesInt_length f.size) a

theorem cellsBytes_lt (f : Field) (a : List Int) : ∀ x ∈ cellsBytes f a, x < 256 := by
  intro x hx
  simp only [cellsBytes, List.mem_flatMap] at hx
  obtain ⟨c, _, hx⟩ := hx
  exact leBytesInt_lt _ _ x hx

theorem decField_leBytesInt (f : Field) (v : Int) (hlo : f.lo ≤ v) (hhi : v ≤ f.hi) :
    decField false f (leBytesInt f.size v) = v := by
  have := decField_encField false f v hlo hhi
  simpa [encField] using this

theorem bytesCells_cellsBytes_append (f : Field) (cells : List Int) (suf : Bytes)
    (h : ∀ c ∈ cells, f.lo ≤ c ∧ c ≤ f.hi) :
    bytesCells f cells.length (cellsBytes f cells ++ suf) = cells := by
  induction cells with
  | nil => simp [bytesCells, chunks]
  | cons c cs ih =>
      have hc := h c (by simp)
      have ih := ih (fun x hx => h x (by simp [hx]))
      simp only [bytesCells, cellsBytes, List.flatMap_cons, List.length_cons, chunks, List.map_cons,
        List.append_assoc] at ih ⊢
      rw [List.take_left' (leBytesInt_length _ _), List.drop_left' (leBytesInt_length _ _)]
      rw [decField_leBytesInt f c hc.1 hc.2, ih]

theorem bytesCells_cellsBytes (f : Field) (cells : List Int) (n : Nat) (hn : n = cells.length)
    (h : ∀ c ∈ cells, f.lo ≤ c ∧ c ≤ f.hi) :
    bytesCells f n (cellsBytes f cells) = cells := by
  subst hn
  simpa using bytesCells_cellsBytes_append f cells [] h

theorem hexVal_hexDigit (n : Nat) (h : n < 16) : hexVal (hexDigit n) = some n := by
  revert n; decide

theorem unhexlify_hexlify (bs : Bytes) (h : ∀ x ∈ bs, x < 256) : unhexlify (hexlify bs) = some bs := by
  induction bs with
  | nil => rfl
  | cons b bs ih =>
      have hb := h b (by simp)
      have ih := ih (fun x hx => h x (by simp [hx]))
      simp only [hexlify, List.flatMap_cons, List.cons_append, List.nil_append] at ih ⊢
      simp only [unhexlify, hexVal_hexDigit (b / 16) (by omega), hexVal_hexDigit (b % 16) (by omega), ih]
      congr 2; omega

theorem hexlify_length (bs : Bytes) : (hexlify bs).length = 2 * bs.length := by
  induction bs with
  | nil => rfl
  | cons b bs ih =>
      simp only [hexlify, List.flatMap_cons, List.length_append, List.length_cons, List.length_nil] at ih ⊢
      omega

theorem hexlify_append (a b : Bytes) : hexlify (a ++ b) = hexlify a ++ hexlify b := by
  simp [hexlify]

end PyProb
