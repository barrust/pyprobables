/-
  Lemmas on the plain Bloom filter model (`Model/Bloom.lean`, structure `Bloom`): folds of `setBitB`,
  the membership loop `checkGo`, byte-wise combination `zipBytes`, population counts.

  `Bloom.WF` is the representation invariant of the family.  The lemmas on folds of `setBitB` take a bare
  byte list with `hl : bs.length = (m + 7) / 8` instead, since the on-disk filter (`Lemmas/OnDiskCore.lean`)
  has a bit array of that length inside a file and no `Bloom` to state `WF` of.
-/
import PyProb.Lemmas.Bits
import PyProb.Model.Bloom

namespace PyProb

/-- holds by evaluation of `Gen.bloomBitsPerElm = 8` -/
theorem Bloom.lengthOf_eq (m : Nat) : Bloom.lengthOf m = (m + 7) / 8 := rfl

def Bloom.WF (b : Bloom) : Prop := b.bits.length = Bloom.lengthOf b.m ∧ 0 < b.m

theorem Bloom.WF.len {b : Bloom} (h : b.WF) : b.bits.length = (b.m + 7) / 8 := h.1

theorem foldl_setBitB_length (ps : List Nat) (bs : Bytes) : (ps.foldl setBitB bs).length = bs.length := by
  induction ps generalizing bs with
  | nil => rfl
  | cons p ps ih => simp [List.foldl_cons, ih, setBitB_length]

theorem foldl_setBitB_byte_lt (ps : List Nat) (bs : Bytes) (h : ∀ x ∈ bs, x < 256) :
    ∀ x ∈ ps.foldl setBitB bs, x < 256 := by
  induction ps generalizing bs with
  | nil => exact h
  | cons p ps ih => exact ih _ (setBitB_byte_lt bs p h)

theorem testBitB_foldl_setBitB (ps : List Nat) (bs : Bytes) (j : Nat)
    (h : ∀ p ∈ ps, p / 8 < bs.length) :
    testBitB (ps.foldl setBitB bs) j = (decide (j ∈ ps) || testBitB bs j) := by
  induction ps generalizing bs with
  | nil => simp
  | cons p ps ih =>
      have hp : p / 8 < bs.length := h p (by simp)
      rw [List.foldl_cons, ih, testBitB_setBitB _ _ _ hp]
      · by_cases e : j = p <;> simp [e]
      · intro q hq; rw [setBitB_length]; exact h q (by simp [hq])

theorem testBitB_foldl_setBitB_lt (m : Nat) (ps : List Nat) (bs : Bytes) (j : Nat)
    (hl : bs.length = (m + 7) / 8) (h : ∀ p ∈ ps, p < m) :
    testBitB (ps.foldl setBitB bs) j = (decide (j ∈ ps) || testBitB bs j) :=
  testBitB_foldl_setBitB ps bs j fun p hp => hl ▸ index_in_range (h p hp)

theorem Bloom.checkGo_ok (m : Nat) (bits : Bytes) (n : Nat) (hs : List Nat) (hl : n ≤ hs.length) :
    Bloom.checkGo m bits n hs = .ok ((hs.take n).all fun h => testBitB bits (h % m)) := by
  induction n generalizing hs with
  | zero => rfl
  | succ n ih =>
      cases hs with
      | nil => exact absurd hl (Nat.not_succ_le_zero n)
      | cons h hs =>
          rw [Bloom.checkGo, List.take_succ_cons, List.all_cons]
          cases testBitB bits (h % m)
          · rfl
          · exact ih hs (Nat.le_of_succ_le_succ hl)

theorem Bloom.checkGo_short (m : Nat) (bits : Bytes) (n : Nat) (hs : List Nat) (hl : hs.length < n) :
    Bloom.checkGo m bits n hs = .error .indexError ∨ Bloom.checkGo m bits n hs = .ok false := by
  induction n generalizing hs with
  | zero => exact absurd hl (Nat.not_lt_zero _)
  | succ n ih =>
      cases hs with
      | nil => exact Or.inl rfl
      | cons h hs =>
          rw [Bloom.checkGo]
          cases testBitB bits (h % m)
          · exact Or.inr rfl
          · exact ih hs (Nat.lt_of_succ_lt_succ hl)

theorem Bloom.checkGo_true_iff (m : Nat) (bits : Bytes) (n : Nat) (hs : List Nat) :
    Bloom.checkGo m bits n hs = .ok true ↔
      n ≤ hs.length ∧ ∀ h ∈ hs.take n, testBitB bits (h % m) = true := by
  by_cases hl : n ≤ hs.length
  · rw [Bloom.checkGo_ok m bits n hs hl]
    simp only [Except.ok.injEq, List.all_eq_true, hl, true_and]
  · rcases Bloom.checkGo_short m bits n hs (Nat.lt_of_not_le hl) with h | h
    · simp only [h, hl, false_and, reduceCtorEq]
    · simp only [h, hl, false_and, Except.ok.injEq, Bool.false_eq_true]

/-- `hashes[i] % m` for `i < k`: `Bloom.positions` with the geometry as arguments, for callers that
    have `k` and `m` but no filter -/
def posOf (k m : Nat) (hs : List Nat) : List Nat := (hs.take k).map (· % m)

theorem Bloom.positions_eq (b : Bloom) (hs : List Nat) : b.positions hs = posOf b.k b.m hs := rfl

theorem posOf_lt (k m : Nat) (hs : List Nat) (hm : 0 < m) : ∀ p ∈ posOf k m hs, p < m :=
  List.forall_mem_map.mpr fun h _ => Nat.mod_lt h hm

theorem Bloom.positions_lt (b : Bloom) (hs : List Nat) (hm : 0 < b.m) : ∀ p ∈ b.positions hs, p < b.m :=
  posOf_lt b.k b.m hs hm

theorem Bloom.addAlt_bits (b : Bloom) (hs : List Nat) :
    (b.addAlt hs).1.bits = (b.positions hs).foldl setBitB b.bits := by
  unfold Bloom.addAlt; split <;> rfl

theorem Bloom.addAlt_k (b : Bloom) (hs : List Nat) : (b.addAlt hs).1.k = b.k := by
  unfold Bloom.addAlt; split <;> rfl

theorem Bloom.addAlt_m (b : Bloom) (hs : List Nat) : (b.addAlt hs).1.m = b.m := by
  unfold Bloom.addAlt; split <;> rfl

theorem Bloom.addAlt_est (b : Bloom) (hs : List Nat) : (b.addAlt hs).1.est = b.est := by
  unfold Bloom.addAlt; split <;> rfl

theorem Bloom.addAlt_fpr (b : Bloom) (hs : List Nat) : (b.addAlt hs).1.fpr32 = b.fpr32 := by
  unfold Bloom.addAlt; split <;> rfl

theorem Bloom.addAlt_err (b : Bloom) (hs : List Nat) :
    (b.addAlt hs).2 = if hs.length < b.k then some .indexError else none := by
  unfold Bloom.addAlt; split <;> rfl

theorem Bloom.addAlt_count (b : Bloom) (hs : List Nat) :
    (b.addAlt hs).1.count = if hs.length < b.k then b.count else b.count + 1 := by
  unfold Bloom.addAlt; split <;> rfl

theorem Bloom.addAlt_count_of_le (b : Bloom) (hs : List Nat) (hk : b.k ≤ hs.length) :
    (b.addAlt hs).1.count = b.count + 1 := by
  rw [Bloom.addAlt_count, if_neg (Nat.not_lt.mpr hk)]

theorem Bloom.addAlt_err_of_le (b : Bloom) (hs : List Nat) (hk : b.k ≤ hs.length) :
    (b.addAlt hs).2 = none := by
  rw [Bloom.addAlt_err, if_neg (Nat.not_lt.mpr hk)]

theorem Bloom.testBitB_addAlt (b : Bloom) (hs : List Nat) (j : Nat) (hw : b.WF) :
    testBitB (b.addAlt hs).1.bits j = (decide (j ∈ b.positions hs) || testBitB b.bits j) := by
  rw [Bloom.addAlt_bits]
  exact testBitB_foldl_setBitB_lt b.m _ _ j hw.len (Bloom.positions_lt b hs hw.2)

theorem zipBytes_length (f : Nat → Nat → Nat) (n : Nat) (x y : Bytes) :
    (Bloom.zipBytes f n x y).length = n := by simp [Bloom.zipBytes]

theorem zipBytes_getD (f : Nat → Nat → Nat) (n : Nat) (x y : Bytes) (i : Nat) (hi : i < n) :
    (Bloom.zipBytes f n x y).getD i 0 = f (x.getD i 0) (y.getD i 0) := by
  rw [Bloom.zipBytes, List.getD_eq_getElem?_getD, List.getElem?_map, List.getElem?_range hi]
  rfl

theorem testBitB_zip (f : Nat → Nat → Nat) (g : Bool → Bool → Bool)
    (hfg : ∀ u v i, (f u v).testBit i = g (u.testBit i) (v.testBit i)) (n : Nat) (x y : Bytes) (j : Nat)
    (hj : j / 8 < n) : testBitB (Bloom.zipBytes f n x y) j = g (testBitB x j) (testBitB y j) := by
  rw [testBitB_eq, testBitB_eq, testBitB_eq, zipBytes_getD _ _ _ _ _ hj, hfg]

theorem testBitB_zipOr (n : Nat) (x y : Bytes) (j : Nat) (hj : j / 8 < n) :
    testBitB (Bloom.zipBytes (· ||| ·) n x y) j = (testBitB x j || testBitB y j) :=
  testBitB_zip _ _ (fun _ _ _ => Nat.testBit_or ..) n x y j hj

theorem testBitB_zipAnd (n : Nat) (x y : Bytes) (j : Nat) (hj : j / 8 < n) :
    testBitB (Bloom.zipBytes (· &&& ·) n x y) j = (testBitB x j && testBitB y j) :=
  testBitB_zip _ _ (fun _ _ _ => Nat.testBit_and ..) n x y j hj

theorem getD_setBitB (x : Bytes) (p i : Nat) (hp : p / 8 < x.length) :
    (setBitB x p).getD i 0 = if i = p / 8 then x.getD i 0 ||| (1 <<< (p % 8)) else x.getD i 0 := by
  unfold setBitB
  by_cases e : i = p / 8
  · subst e; rw [getD_set_eq hp]; simp
  · rw [getD_set_ne (fun h => e h.symm)]; simp [e]

theorem zipOr_byte_lt (n : Nat) (x y : Bytes) (hx : ∀ v ∈ x, v < 256) (hy : ∀ v ∈ y, v < 256) :
    ∀ v ∈ Bloom.zipBytes (· ||| ·) n x y, v < 256 := by
  intro v hv
  simp only [Bloom.zipBytes, List.mem_map, List.mem_range] at hv
  obtain ⟨i, _, rfl⟩ := hv
  exact Nat.or_lt_two_pow (getD_lt x hx i) (getD_lt y hy i)

theorem zipOr_setBitB_left (n : Nat) (x y : Bytes) (p : Nat) (hx : x.length = n) (hp : p / 8 < n) :
    Bloom.zipBytes (· ||| ·) n (setBitB x p) y = setBitB (Bloom.zipBytes (· ||| ·) n x y) p := by
  apply List.ext_getElem
  · rw [zipBytes_length, setBitB_length, zipBytes_length]
  · intro i h1 h2
    have hi : i < n := by rwa [zipBytes_length] at h1
    rw [List.getElem_eq_getD 0, List.getElem_eq_getD 0, zipBytes_getD _ _ _ _ _ hi,
      getD_setBitB _ _ _ (hx ▸ hp), getD_setBitB _ _ _ ((zipBytes_length _ n x y).symm ▸ hp),
      zipBytes_getD _ _ _ _ _ hi]
    split
    · simp only [Nat.or_assoc, Nat.or_comm (1 <<< (p % 8))]
    · rfl

theorem zipOr_foldl_left (n : Nat) (ps : List Nat) (x y : Bytes) (hx : x.length = n)
    (hp : ∀ p ∈ ps, p / 8 < n) :
    Bloom.zipBytes (· ||| ·) n (ps.foldl setBitB x) y = ps.foldl setBitB (Bloom.zipBytes (· ||| ·) n x y) := by
  induction ps generalizing x with
  | nil => rfl
  | cons p ps ih =>
      rw [List.foldl_cons, List.foldl_cons, ih _ (by rw [setBitB_length, hx]) (fun q hq => hp q (by simp [hq])),
        zipOr_setBitB_left n x y p hx (hp p (by simp))]

theorem zipOr_comm (n : Nat) (x y : Bytes) :
    Bloom.zipBytes (· ||| ·) n x y = Bloom.zipBytes (· ||| ·) n y x := by
  simp only [Bloom.zipBytes, Nat.or_comm]

theorem zipOr_foldl_right (n : Nat) (ps : List Nat) (x y : Bytes) (hy : y.length = n)
    (hp : ∀ p ∈ ps, p / 8 < n) :
    Bloom.zipBytes (· ||| ·) n x (ps.foldl setBitB y) = ps.foldl setBitB (Bloom.zipBytes (· ||| ·) n x y) := by
  rw [zipOr_comm, zipOr_foldl_left n ps y x hy hp, zipOr_comm]

theorem zipOr_zero (n : Nat) :
    Bloom.zipBytes (· ||| ·) n (List.replicate n 0) (List.replicate n 0) = List.replicate n 0 := by
  have h0 : ∀ i, (List.replicate n 0).getD i 0 = 0 := fun i => by
    rw [List.getD_eq_getElem?_getD, List.getElem?_replicate]
    split <;> rfl
  simp only [Bloom.zipBytes, h0]
  rw [List.map_const', List.length_range]
  rfl

theorem Bloom.new_wf (est fpr k m : Nat) (hm : 0 < m) : (Bloom.new est fpr k m).WF := by
  simp [Bloom.WF, Bloom.new, hm]

theorem Bloom.addAlt_wf (b : Bloom) (hs : List Nat) (h : b.WF) : (b.addAlt hs).1.WF := by
  unfold Bloom.WF
  rw [Bloom.addAlt_bits, Bloom.addAlt_m, foldl_setBitB_length]; exact h

theorem Bloom.clear_wf (b : Bloom) (h : b.WF) : b.clear.WF := by
  simpa [Bloom.WF, Bloom.clear] using h

theorem Bloom.checkAlt_true_iff (b : Bloom) (hs : List Nat) :
    b.checkAlt hs = .ok true ↔ b.k ≤ hs.length ∧ ∀ p ∈ b.positions hs, testBitB b.bits p = true := by
  unfold Bloom.checkAlt Bloom.positions
  rw [Bloom.checkGo_true_iff, List.forall_mem_map]

theorem Bloom.positions_addAlt (b : Bloom) (hs hs' : List Nat) :
    (b.addAlt hs').1.positions hs = b.positions hs := by
  unfold Bloom.positions; rw [Bloom.addAlt_k, Bloom.addAlt_m]

theorem Bloom.checkAlt_addAlt_self (b : Bloom) (hs : List Nat) (hw : b.WF) (hl : b.k ≤ hs.length) :
    (b.addAlt hs).1.checkAlt hs = .ok true := by
  rw [Bloom.checkAlt_true_iff, Bloom.addAlt_k]
  refine ⟨hl, fun p hp => ?_⟩
  rw [Bloom.positions_addAlt] at hp
  rw [Bloom.testBitB_addAlt b hs p hw, decide_eq_true hp, Bool.true_or]

theorem Bloom.testBitB_addAlt_mono (b : Bloom) (hs : List Nat) (j : Nat) (hw : b.WF)
    (h : testBitB b.bits j = true) : testBitB (b.addAlt hs).1.bits j = true := by
  rw [Bloom.testBitB_addAlt b hs j hw, h]; simp

theorem Bloom.checkAlt_addAlt_mono (b : Bloom) (hs hs' : List Nat) (hw : b.WF)
    (h : b.checkAlt hs = .ok true) : (b.addAlt hs').1.checkAlt hs = .ok true := by
  rw [Bloom.checkAlt_true_iff] at h ⊢
  rw [Bloom.addAlt_k]
  refine ⟨h.1, fun p hp => ?_⟩
  rw [Bloom.positions_addAlt] at hp
  exact Bloom.testBitB_addAlt_mono b hs' p hw (h.2 p hp)

theorem Bloom.similar_iff (a b : Bloom) (same : Bool) :
    a.similar b same = true ↔ a.k = b.k ∧ a.m = b.m ∧ same = true := by
  simp [Bloom.similar, and_assoc]

/-- what `union` and `intersection` share: the guard, and the receiver with its bytes combined by `f`.
    `Bloom.union est = Bloom.combine (· ||| ·) est` and likewise `intersection` with `&&&` hold by `rfl`,
    which is how `union_eq_some` and `intersection_eq_some` below come from `combine_eq_some`. -/
def Bloom.combine (f : Nat → Nat → Nat) (est : Estimator) (a b : Bloom) (same : Bool) : Option Bloom :=
  if !a.similar b same then none
  else
    let r : Bloom := { a with bits := Bloom.zipBytes f a.bloomLength a.bits b.bits, count := 0 }
    some { r with count := est r.m r.k r.setBits }

theorem Bloom.combine_eq_some (f : Nat → Nat → Nat) (est : Estimator) (a b r : Bloom) (same : Bool)
    (h : Bloom.combine f est a b same = some r) :
    a.similar b same = true ∧ r.k = a.k ∧ r.m = a.m ∧ r.est = a.est ∧ r.fpr32 = a.fpr32 ∧
      r.bits = Bloom.zipBytes f a.bloomLength a.bits b.bits := by
  unfold Bloom.combine at h
  split at h
  · cases h
  · rename_i hs
    injection h with h; subst h
    exact ⟨by simpa using hs, rfl, rfl, rfl, rfl, rfl⟩

theorem Bloom.union_eq_some (est : Estimator) (a b r : Bloom) (same : Bool)
    (h : Bloom.union est a b same = some r) :
    a.similar b same = true ∧ r.k = a.k ∧ r.m = a.m ∧ r.est = a.est ∧ r.fpr32 = a.fpr32 ∧
      r.bits = Bloom.zipBytes (· ||| ·) a.bloomLength a.bits b.bits :=
  Bloom.combine_eq_some _ est a b r same h

theorem Bloom.intersection_eq_some (est : Estimator) (a b r : Bloom) (same : Bool)
    (h : Bloom.intersection est a b same = some r) :
    a.similar b same = true ∧ r.k = a.k ∧ r.m = a.m ∧ r.est = a.est ∧ r.fpr32 = a.fpr32 ∧
      r.bits = Bloom.zipBytes (· &&& ·) a.bloomLength a.bits b.bits :=
  Bloom.combine_eq_some _ est a b r same h

theorem Bloom.union_wf (est : Estimator) (a b r : Bloom) (same : Bool) (hm : 0 < a.m)
    (h : Bloom.union est a b same = some r) : r.WF := by
  obtain ⟨_, _, hm', _, _, hb⟩ := Bloom.union_eq_some est a b r same h
  exact ⟨by rw [hb, hm', zipBytes_length]; rfl, hm' ▸ hm⟩

theorem Bloom.intersection_wf (est : Estimator) (a b r : Bloom) (same : Bool) (hm : 0 < a.m)
    (h : Bloom.intersection est a b same = some r) : r.WF := by
  obtain ⟨_, _, hm', _, _, hb⟩ := Bloom.intersection_eq_some est a b r same h
  exact ⟨by rw [hb, hm', zipBytes_length]; rfl, hm' ▸ hm⟩

theorem Bloom.testBitB_union (est : Estimator) (a b r : Bloom) (same : Bool)
    (h : Bloom.union est a b same = some r) (j : Nat) (hj : j < 8 * a.bloomLength) :
    testBitB r.bits j = (testBitB a.bits j || testBitB b.bits j) := by
  rw [(Bloom.union_eq_some est a b r same h).2.2.2.2.2, testBitB_zipOr _ _ _ _ (Nat.div_lt_of_lt_mul hj)]

theorem Bloom.testBitB_intersection (est : Estimator) (a b r : Bloom) (same : Bool)
    (h : Bloom.intersection est a b same = some r) (j : Nat) (hj : j < 8 * a.bloomLength) :
    testBitB r.bits j = (testBitB a.bits j && testBitB b.bits j) := by
  rw [(Bloom.intersection_eq_some est a b r same h).2.2.2.2.2, testBitB_zipAnd _ _ _ _ (Nat.div_lt_of_lt_mul hj)]

theorem Bloom.union_of_similar (est : Estimator) (a b : Bloom) (same : Bool) (h : a.similar b same = true) :
    ∃ r, Bloom.union est a b same = some r := by
  simp [Bloom.union, h]

theorem Bloom.intersection_of_similar (est : Estimator) (a b : Bloom) (same : Bool)
    (h : a.similar b same = true) : ∃ r, Bloom.intersection est a b same = some r := by
  simp [Bloom.intersection, h]

theorem Bloom.pos_lt_bits (m p : Nat) (h : p < m) : p < 8 * Bloom.lengthOf m := by
  rw [Bloom.lengthOf_eq, Nat.mul_comm]
  exact (Nat.div_lt_iff_lt_mul (by decide)).mp (index_in_range h)

/-- a call with too few hashes raises after setting what it has -/
def Bloom.runAdds (b : Bloom) (xs : List (List Nat)) : Bloom := xs.foldl (fun b hs => (b.addAlt hs).1) b

theorem Bloom.runAdds_append (b : Bloom) (xs ys : List (List Nat)) :
    b.runAdds (xs ++ ys) = (b.runAdds xs).runAdds ys := by
  simp [Bloom.runAdds, List.foldl_append]

theorem Bloom.runAdds_spec (xs : List (List Nat)) (b : Bloom) :
    (b.runAdds xs).k = b.k ∧ (b.runAdds xs).m = b.m ∧ (b.runAdds xs).est = b.est ∧
    (b.runAdds xs).fpr32 = b.fpr32 ∧
    (b.runAdds xs).bits = (xs.flatMap (posOf b.k b.m)).foldl setBitB b.bits := by
  induction xs generalizing b with
  | nil => exact ⟨rfl, rfl, rfl, rfl, rfl⟩
  | cons hs xs ih =>
      obtain ⟨a, b', c, d, e⟩ := ih (b.addAlt hs).1
      refine ⟨a.trans (Bloom.addAlt_k b hs), b'.trans (Bloom.addAlt_m b hs), c.trans (Bloom.addAlt_est b hs),
        d.trans (Bloom.addAlt_fpr b hs), e.trans ?_⟩
      rw [Bloom.addAlt_bits, Bloom.addAlt_k, Bloom.addAlt_m, List.flatMap_cons, List.foldl_append,
        Bloom.positions_eq]

theorem Bloom.runAdds_wf (xs : List (List Nat)) (b : Bloom) (h : b.WF) : (b.runAdds xs).WF := by
  induction xs generalizing b with
  | nil => exact h
  | cons hs xs ih => exact ih _ (Bloom.addAlt_wf b hs h)

theorem Bloom.checkAlt_runAdds_mono (xs : List (List Nat)) (b : Bloom) (hw : b.WF) (hs : List Nat)
    (h : b.checkAlt hs = .ok true) : (b.runAdds xs).checkAlt hs = .ok true := by
  induction xs generalizing b with
  | nil => exact h
  | cons x xs ih => exact ih _ (Bloom.addAlt_wf b x hw) (Bloom.checkAlt_addAlt_mono b hs x hw h)

theorem popByte_and_le_or (x y : Nat) : popByte (x &&& y) ≤ popByte (x ||| y) := by
  unfold popByte
  apply length_filter_le_of_imp
  intro i
  simp only [Nat.testBit_and, Nat.testBit_or, Bool.and_eq_true, Bool.or_eq_true]
  intro h; exact Or.inl h.1

theorem sum_popByte_zip (f : Nat → Nat → Nat) (n : Nat) (x y : Bytes) :
    ((Bloom.zipBytes f n x y).map popByte).sum
      = ((List.range n).map fun i => popByte (f (x.getD i 0) (y.getD i 0))).sum := by
  rw [Bloom.zipBytes, List.map_map]
  rfl

def countBits (n : Nat) (bs : Bytes) : Nat := ((List.range (8 * n)).filter (testBitB bs)).length

theorem sum_popByte_eq_countBits (n : Nat) (bs : Bytes) :
    ((List.range n).map fun i => popByte (bs.getD i 0)).sum = countBits n bs := by
  induction n with
  | zero => simp [countBits]
  | succ n ih =>
      -- the eight bit positions of byte `n`
      have hf : ∀ i ∈ List.range 8, testBitB bs (8 * n + i) = (bs.getD n 0).testBit i := by
        intro i hi
        have hi : i < 8 := List.mem_range.mp hi
        rw [testBitB_eq, Nat.mul_add_div (by decide), Nat.div_eq_of_lt hi, Nat.add_zero, Nat.mul_add_mod,
          Nat.mod_eq_of_lt hi]
      rw [List.range_succ, List.map_append, List.sum_append, ih, List.map_singleton, List.sum_singleton,
        countBits, countBits, Nat.mul_succ, List.range_add, List.filter_append,
        List.length_append, List.filter_map, List.length_map, popByte]
      congr 2
      exact (List.filter_congr hf).symm

theorem sum_popByte_zip_eq_count (f : Nat → Nat → Nat) (g : Bool → Bool → Bool) (n : Nat) (x y : Bytes)
    (hfg : ∀ u v i, (f u v).testBit i = g (u.testBit i) (v.testBit i)) :
    ((Bloom.zipBytes f n x y).map popByte).sum
      = ((List.range (8 * n)).filter fun p => g (testBitB x p) (testBitB y p)).length := by
  have h1 : ((Bloom.zipBytes f n x y).map popByte).sum
      = ((List.range n).map fun i => popByte ((Bloom.zipBytes f n x y).getD i 0)).sum := by
    rw [sum_popByte_zip]
    congr 1
    apply List.map_congr_left
    intro i hi
    rw [zipBytes_getD _ _ _ _ _ (by simpa using hi)]
  rw [h1, sum_popByte_eq_countBits, countBits]
  congr 1
  apply List.filter_congr
  intro p hp
  exact testBitB_zip f g hfg n x y p (Nat.div_lt_of_lt_mul (List.mem_range.mp hp))

theorem take_zipBytes (f : Nat → Nat → Nat) (n : Nat) (x y : Bytes) :
    (Bloom.zipBytes f n x y).take n = Bloom.zipBytes f n x y :=
  List.take_of_length_le (by rw [zipBytes_length]; exact Nat.le_refl n)

end PyProb
