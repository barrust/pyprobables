/-
  Lemmas on the export formats, Bloom family (Bloom, counting Bloom, expanding / rotating): closed
  forms of `struct.pack` for the layouts extracted from the source (`Generated/Repo.lean`), the
  exports as payload plus packed footer, footer parsing, sub-filter parsing.
-/
import PyProb.Lemmas.Codec
import PyProb.Model.Expanding

namespace PyProb

theorem expCount_pack (v : Int) : Gen.expCount.pack [v] =
    if v < 0 ∨ v > 18446744073709551615 then .error .structError else .ok (leBytesInt 8 v) :=
  pack_eq_packFlat Gen.expCount rfl _

theorem bloomFooter_pack (a b c : Int) : Gen.bloomFooter.pack [a, b, c] =
    if a < 0 ∨ a > 18446744073709551615 then .error .structError
    else if b < 0 ∨ b > 18446744073709551615 then .error .structError
    else if c < 0 ∨ c > 4294967295 then .error .structError
    else .ok (leBytesInt 8 a ++ leBytesInt 8 b ++ leBytesInt 4 c) :=
  pack_eq_packFlat Gen.bloomFooter rfl _

theorem bloomFooterHex_pack (a b c : Int) : Gen.bloomFooterHex.pack [a, b, c] =
    if a < 0 ∨ a > 18446744073709551615 then .error .structError
    else if b < 0 ∨ b > 18446744073709551615 then .error .structError
    else if c < 0 ∨ c > 4294967295 then .error .structError
    else .ok ((leBytesInt 8 a).reverse ++ (leBytesInt 8 b).reverse ++ (leBytesInt 4 c).reverse) :=
  pack_eq_packFlat Gen.bloomFooterHex rfl _

theorem expFooter_pack (a b c d : Int) : Gen.expFooter.pack [a, b, c, d] =
    if a < 0 ∨ a > 18446744073709551615 then .error .structError
    else if b < 0 ∨ b > 18446744073709551615 then .error .structError
    else if c < 0 ∨ c > 18446744073709551615 then .error .structError
    else if d < 0 ∨ d > 4294967295 then .error .structError
    else .ok (leBytesInt 8 a ++ leBytesInt 8 b ++ leBytesInt 8 c ++ leBytesInt 4 d) :=
  pack_eq_packFlat Gen.expFooter rfl _

theorem bloomFooter_size : Gen.bloomFooter.size = 20 := by decide
theorem bloomFooterHex_size : Gen.bloomFooterHex.size = 20 := by decide
theorem expFooter_size : Gen.expFooter.size = 28 := by decide
theorem expCount_size : Gen.expCount.size = 8 := by decide
theorem bloomCell_size : Gen.bloomCell.size = 1 := by decide
theorem cbfCell_size : Gen.cbfCell.size = 4 := by decide

theorem Bloom.exportBytes_eq (b : Bloom) :
    b.exportBytes = (Gen.bloomFooter.pack b.footerVals).map (b.bits ++ ·) := by
  unfold Bloom.exportBytes
  cases Gen.bloomFooter.pack b.footerVals <;> rfl

theorem Bloom.exportHex_eq (b : Bloom) :
    b.exportHex = (Gen.bloomFooterHex.pack b.footerVals).map (hexlify (b.bits.take b.bloomLength) ++ hexlify ·) := by
  unfold Bloom.exportHex
  cases Gen.bloomFooterHex.pack b.footerVals <;> rfl

theorem CBF.exportBytes_eq (c : CBF) :
    c.exportBytes = (Gen.bloomFooter.pack c.footerVals).map (cellsBytes .u32 c.cells ++ ·) := by
  unfold CBF.exportBytes
  cases Gen.bloomFooter.pack c.footerVals <;> rfl

theorem CBF.exportHex_eq (c : CBF) :
    c.exportHex = (Gen.bloomFooterHex.pack c.footerVals).map (hexlify (cellsBytes .u32 c.cells) ++ hexlify ·) := by
  unfold CBF.exportHex
  cases Gen.bloomFooterHex.pack c.footerVals <;> rfl

theorem Expanding.exportBytes_eq (e : Expanding) :
    e.exportBytes = (Expanding.exportBytes.go e.blooms).bind fun body =>
      (Gen.expFooter.pack [e.blooms.length, e.est, e.added, e.fpr32]).map (body ++ ·) := by
  unfold Expanding.exportBytes
  cases Expanding.exportBytes.go e.blooms <;>
    cases Gen.expFooter.pack [e.blooms.length, e.est, e.added, e.fpr32] <;> rfl

theorem lastN_append {α} (a b : List α) (n : Nat) (h : b.length = n) : Bloom.lastN n (a ++ b) = b := by
  unfold Bloom.lastN; exact drop_length_sub_append a b n h

theorem ofFooter_pack (geom : Geom) (lay : Layout) (f : Bytes) (est fpr32 fpr' k m : Nat) (cnt : Int)
    (hp : lay.pack [(est : Int), cnt, (fpr32 : Int)] = .ok f)
    (hg : geom est fpr32 = .ok (fpr', k, m)) :
    Bloom.ofFooter geom lay f = .ok ⟨est, fpr', k, m, [], cnt⟩ := by
  unfold Bloom.ofFooter
  rw [unpack_pack lay _ f hp]
  simp [hg]

def SubOK (est fpr32 k m : Nat) (b : Bloom) : Prop :=
  b.est = est ∧ b.fpr32 = fpr32 ∧ b.k = k ∧ b.m = m ∧ b.bits.length = Bloom.lengthOf m

/-- the loader cuts the body back into the sub-filters, taking everything but count and bits from
    the prototype `Bloom.new est fpr32 k m` -/
theorem parseBlooms_go (est fpr32 k m : Nat) (blooms : List Bloom) (body suf : Bytes)
    (hwf : ∀ b ∈ blooms, SubOK est fpr32 k m b)
    (h : Expanding.exportBytes.go blooms = .ok body) :
    Expanding.parseBlooms (Bloom.new est fpr32 k m) (Bloom.lengthOf m) blooms.length (body ++ suf) = blooms := by
  induction blooms generalizing body with
  | nil => rfl
  | cons b bs ih =>
      have hb := hwf b (by simp)
      have hbs := fun x hx => hwf x (List.mem_cons_of_mem _ hx)
      simp only [Expanding.exportBytes.go, expCount_pack] at h
      split at h
      · rename_i c rest hc hrest
        injection h with h; subst h
        split at hc
        · cases hc
        · rename_i hrange
          injection hc with hc; subst hc
          have ih := ih rest hbs hrest
          simp only [List.length_cons, Expanding.parseBlooms, expCount_size, List.append_assoc]
          rw [List.take_left' (leBytesInt_length _ _), List.drop_left' (leBytesInt_length _ _)]
          rw [List.take_left' hb.2.2.2.2]
          have hd : List.drop (8 + Bloom.lengthOf m) (leBytesInt 8 b.count ++ (b.bits ++ (rest ++ suf))) = rest ++ suf := by
            rw [← List.append_assoc]; exact List.drop_left' (by simp [hb.2.2.2.2])
          rw [hd, ih]
          have : decField false Field.u64 (leBytesInt 8 b.count) = b.count :=
            decField_leBytesInt .u64 b.count (by simp [Field.lo]; omega) (by simp [Field.hi, Gen.uint64Max]; omega)
          rw [this]
          congr 1
          obtain ⟨e1, e2, e3, e4, -⟩ := hb
          -- record eta: `b` and the prototype with `b`'s count and bits agree field by field (`e1`–`e4`)
          cases b; simp_all [Bloom.new]
      · cases h
      · cases h

end PyProb
