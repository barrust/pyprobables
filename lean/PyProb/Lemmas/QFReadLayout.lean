/-
  Layer A for the canonical layout, for every table size: the read paths of the model terminate
  and are correct on `Spec.layout q auto S` for every canonical `S`.
-/
import PyProb.Lemmas.QFFits
import PyProb.Lemmas.QFLinHashes

namespace PyProb.Spec
open PyProb PyProb.QF PyProb.QFLin

theorem layout_lin_canon (q : Nat) (hq1 : 1 ≤ q) (auto : Bool) (S : List Elem) (hS : Sorted S)
    (hq : ∀ x ∈ S, x.1 < 2 ^ q) (hlen : S.length < 2 ^ q) :
    Lin (layout q auto S) (2 ^ q) (emptySlot (2 ^ q) S) S.length
      (dOf (2 ^ q) (emptySlot (2 ^ q) S) (rot (emptySlot (2 ^ q) S) S))
      (rOf (rot (emptySlot (2 ^ q) S) S)) :=
  layout_lin q hq1 auto S hS hq (canon_fits (2 ^ q) S hS hq hlen)

/-- the view through a list `T`: it holds the same elements as `S`, in the order in which they are
    met from the empty slot on -/
theorem layout_view (q : Nat) (hq1 : 1 ≤ q) (auto : Bool) (S : List Elem) (hS : Sorted S)
    (hq : ∀ x ∈ S, x.1 < 2 ^ q) (hlen : S.length < 2 ^ q) :
    ∃ e T, e < 2 ^ q ∧ T.Perm S ∧ (∀ x ∈ T, x.1 < 2 ^ q) ∧
      Lin (layout q auto S) (2 ^ q) e T.length (dOf (2 ^ q) e T) (rOf T) := by
  obtain ⟨he, hcnt, _⟩ := canon_fits (2 ^ q) S hS hq hlen
  have hperm := rot_perm _ S ((cnt_zero_iff S _).1 hcnt)
  refine ⟨_, _, he, hperm, fun x hx => hq x (hperm.mem_iff.1 hx), ?_⟩
  rw [hperm.length_eq]
  exact layout_lin_canon q hq1 auto S hS hq hlen

theorem mem_view {n e : Nat} (he : e < n) (T : List Elem) (hq : ∀ x ∈ T, x.1 < n) (x : Elem) (hx : x.1 < n) :
    (∃ i, i < T.length ∧ dOf n e T i = off n e x.1 ∧ rOf T i = x.2) ↔ x ∈ T := by
  constructor
  · rintro ⟨i, hi, h1, h2⟩
    have hmem := getD_mem T i hi (0, 0)
    have e1 := io_off n e (T.getD i (0, 0)).1 he (hq _ hmem)
    rw [show off n e (T.getD i (0, 0)).1 = off n e x.1 from h1, io_off n e x.1 he hx] at e1
    rw [← Prod.ext e1.symm h2]
    exact hmem
  · intro hxT
    obtain ⟨i, hi, hget⟩ := List.getElem_of_mem hxT
    have hgetD : T.getD i (0, 0) = x := by
      rw [List.getD_eq_getElem?_getD, List.getElem?_eq_getElem hi]; exact hget
    exact ⟨i, hi, by rw [dOf, hgetD], by rw [rOf, hgetD]⟩

/-- **Layer A1**: `_contained_at_loc` on a canonical table terminates and finds exactly the stored
    elements -/
theorem contained_layout (q : Nat) (hq1 : 1 ≤ q) (auto : Bool) (S : List Elem) (hS : Sorted S)
    (hq : ∀ x ∈ S, x.1 < 2 ^ q) (hlen : S.length < 2 ^ q) (x : Elem) (hx : x.1 < 2 ^ q) :
    ∃ o, containedAtLoc (layout q auto S) x.1 x.2 = .ok o ∧ (o.isSome = true ↔ x ∈ S) := by
  obtain ⟨e, T, he, hperm, hqT, L⟩ := layout_view q hq1 auto S hS hq hlen
  obtain ⟨o, ho, hiff⟩ := containedAtLoc_lin L (off (2 ^ q) e x.1)
    (off_lt_n _ e x.1 (Nat.lt_of_le_of_lt (Nat.zero_le _) hx)) x.2
  rw [io_off _ e x.1 he hx] at ho
  exact ⟨o, ho, hiff.trans ((mem_view he T hqT x hx).trans hperm.mem_iff)⟩

/-- **Layer A2**: `get_hashes` on a canonical table terminates and lists the hash of every stored
    element exactly once -/
theorem hashes_layout (q : Nat) (hq1 : 1 ≤ q) (auto : Bool) (S : List Elem) (hS : Sorted S)
    (hq : ∀ x ∈ S, x.1 < 2 ^ q) (hlen : S.length < 2 ^ q) :
    ∃ l, getHashes (layout q auto S) = .ok l ∧ l.Perm (S.map (enc q)) := by
  obtain ⟨e, T, he, hperm, hqT, L⟩ := layout_view q hq1 auto S hS hq hlen
  obtain ⟨l, hl, hp⟩ := getHashes_lin L
  refine ⟨l, hl, hp.trans ?_⟩
  refine List.Perm.trans (List.Perm.of_eq ?_) (hperm.map (enc q))
  rw [← map_range_getD T (0, 0) (enc q)]
  refine List.map_congr_left fun i hi => ?_
  rw [hashF, dOf, io_off _ e _ he (hqT _ (getD_mem T i (List.mem_range.1 hi) _))]
  rfl

end PyProb.Spec
