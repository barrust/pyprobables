/-
  The count-min sketch model (`PyProb/Model/CMS.lean`) in closed form: the store loops of `add_alt` /
  `remove_alt` are one fold of `set` over the index list `binIdx`, so the new table is `bumpBins` —
  every bin of the list moved by the amount and clamped (`addAlt_eq`, `removeAlt_eq`) — and the call
  returns what `check_alt` reads in the new state (`addAlt_ret`, `removeAlt_ret`).  Core Lean only.
-/
import PyProb.Lemmas.GuardCanon
import PyProb.Lemmas.Histories
import PyProb.Lemmas.Lists
import PyProb.Model.CMS

namespace PyProb.CmsCore
open PyProb

theorem sortInts_length (l : List Int) : (CMS.sortInts l).length = l.length := by
  simp [CMS.sortInts]

theorem sortInts_mem (l : List Int) (x : Int) : x ∈ CMS.sortInts l ↔ x ∈ l := by
  simp [CMS.sortInts]

theorem sortInts_sorted (l : List Int) : (CMS.sortInts l).Pairwise (· ≤ ·) := by
  have := List.pairwise_mergeSort (le := fun a b : Int => decide (a ≤ b))
    (by intro a b c; simp; omega) (by intro a b; simp; omega) l
  simpa [CMS.sortInts] using this

theorem sortInts_head (l : List Int) (h : l ≠ []) :
    ∃ x rest, CMS.sortInts l = x :: rest ∧ x ∈ l ∧ ∀ y ∈ l, x ≤ y := by
  cases hs : CMS.sortInts l with
  | nil =>
      have := sortInts_length l
      rw [hs] at this
      simp at this
      exact absurd (List.eq_nil_of_length_eq_zero this.symm) h
  | cons x rest =>
      refine ⟨x, rest, rfl, ?_, ?_⟩
      · rw [← sortInts_mem, hs]; simp
      · intro y hy
        have hy' : y ∈ CMS.sortInts l := (sortInts_mem l y).2 hy
        have hp := sortInts_sorted l
        rw [hs] at hy' hp
        rw [List.pairwise_cons] at hp
        rcases List.mem_cons.1 hy' with e | e
        · omega
        · exact hp.1 y e

theorem foldl_set_getElem? (idx : List Nat) (f : Nat → Int) (bins : List Int) (j : Nat)
    (hj : j < bins.length) :
    (idx.foldl (fun b x => b.set x (f x)) bins)[j]? =
      some (if j ∈ idx then f j else bins.getD j 0) := by
  induction idx generalizing bins with
  | nil => simp [List.getD_eq_getElem?_getD, hj]
  | cons x t ih =>
      rw [List.foldl_cons, ih _ (by simpa using hj)]
      by_cases e : j ∈ t
      · simp [e]
      · by_cases e2 : j = x
        · subst e2; simp [e, List.getD_eq_getElem?_getD, hj]
        · have : ¬ x = j := fun h => e2 h.symm
          simp [e, e2, List.getD_eq_getElem?_getD, this]

theorem foldl_set_forall (P : Int → Prop) (idx : List Nat) (f : Nat → Int) (bins : List Int)
    (hf : ∀ x, P (f x)) (hb : ∀ v ∈ bins, P v) :
    ∀ v ∈ idx.foldl (fun b x => b.set x (f x)) bins, P v := by
  induction idx generalizing bins with
  | nil => exact hb
  | cons x t ih =>
      rw [List.foldl_cons]
      apply ih
      intro v hv
      rcases List.mem_or_eq_of_mem_set hv with e | e
      · exact hb v e
      · subst e; exact hf x

theorem clamp_ite {lo hi : Int} (h : lo ≤ hi) (t : Int) :
    (if t > hi then hi else if t < lo then lo else t) = max lo (min hi t) := by
  by_cases h1 : t > hi
  · rw [if_pos h1, Int.min_eq_left (Int.le_of_lt h1), Int.max_eq_right h]
  · rw [if_neg h1, Int.min_eq_right (Int.not_lt.mp h1)]
    by_cases h2 : t < lo
    · rw [if_pos h2, Int.max_eq_left (Int.le_of_lt h2)]
    · rw [if_neg h2, Int.max_eq_right (Int.not_lt.mp h2)]

theorem clamp_range {lo hi : Int} (h : lo ≤ hi) (t : Int) :
    lo ≤ max lo (min hi t) ∧ max lo (min hi t) ≤ hi :=
  ⟨Int.le_max_left _ _, Int.max_le.2 ⟨h, Int.min_le_left _ _⟩⟩

theorem clamp_of_mem {lo hi t : Int} (h1 : lo ≤ t) (h2 : t ≤ hi) : max lo (min hi t) = t := by
  rw [Int.min_eq_right h2, Int.max_eq_right h1]

theorem int32_le : Gen.int32Min ≤ Gen.int32Max := by decide

theorem int64_le : Gen.int64Min ≤ Gen.int64Max := by decide

/-- what a 32-bit cell holds after a saturating store of `v` -/
def clamp32 (v : Int) : Int := max Gen.int32Min (min Gen.int32Max v)

theorem clamp32_range (v : Int) : Gen.int32Min ≤ clamp32 v ∧ clamp32 v ≤ Gen.int32Max :=
  clamp_range int32_le v

theorem clamp32_id (v : Int) (h0 : Gen.int32Min ≤ v) (h1 : v ≤ Gen.int32Max) : clamp32 v = v :=
  clamp_of_mem h0 h1

theorem getD_int32 {bins : List Int} (h : ∀ v ∈ bins, Gen.int32Min ≤ v ∧ v ≤ Gen.int32Max)
    (k : Nat) : Gen.int32Min ≤ bins.getD k 0 ∧ bins.getD k 0 ≤ Gen.int32Max :=
  getD_of_forall_mem h (by decide) k

theorem clamp32_of_ge {v : Int} (h : Gen.int32Max ≤ v) : clamp32 v = Gen.int32Max := by
  rw [clamp32, Int.min_eq_left h, Int.max_eq_right int32_le]

/-- a non-negative value can only hit the upper clamp -/
theorem clamp32_of_nonneg {v : Int} (h : 0 ≤ v) : clamp32 v = min Gen.int32Max v :=
  Int.max_eq_right (Int.le_min.2 ⟨int32_le, Int.le_trans (by decide) h⟩)

theorem clamp32_of_le {v : Int} (h : v ≤ Gen.int32Min) : clamp32 v = Gen.int32Min := by
  rw [clamp32, Int.max_eq_left (Int.le_trans (Int.min_le_right _ _) h)]

theorem clampTotal_eq (t : Int) : CMS.clampTotal t = max Gen.int64Min (min Gen.int64Max t) := by
  simp only [CMS.clampTotal, Gen.cmsTotalMaxCmp, Cmp.evalInt, decide_eq_true_eq]
  exact clamp_ite int64_le t

theorem addLoop_cons (bins : List Int) (idx : Nat) (v : Int) (rest : List (Nat × Int))
    (acc : List Int) :
    CMS.addLoop bins ((idx, v) :: rest) acc =
      if v > Gen.int32Max then CMS.addLoop (bins.set idx Gen.int32Max) rest (Gen.int32Max :: acc)
      else if v < Gen.int32Min then (bins, acc.reverse ++ (v :: rest.map (·.2)), some .overflow)
      else CMS.addLoop (bins.set idx v) rest (v :: acc) := by
  simp only [CMS.addLoop, Gen.cmsAddClampCmp, Cmp.evalInt, decide_eq_true_eq]
  rfl

theorem removeLoop_cons (bins : List Int) (idx : Nat) (v : Int) (rest : List (Nat × Int))
    (acc : List Int) :
    CMS.removeLoop bins ((idx, v) :: rest) acc =
      if v > Gen.int32Min then
        if v > Gen.int32Max then (bins, acc.reverse ++ (v :: rest.map (·.2)), some .overflow)
        else CMS.removeLoop (bins.set idx v) rest (v :: acc)
      else CMS.removeLoop (bins.set idx Gen.int32Min) rest (Gen.int32Min :: acc) := by
  simp only [CMS.removeLoop, Gen.cmsRemoveKeepCmp, Cmp.evalInt, decide_eq_true_eq]
  rfl

theorem addLoop_eq (g : Nat → Int) (idx : List Nat) (bins acc : List Int)
    (h : ∀ x ∈ idx, Gen.int32Min ≤ g x) :
    CMS.addLoop bins (idx.zip (idx.map g)) acc =
      (idx.foldl (fun b x => b.set x (clamp32 (g x))) bins,
       acc.reverse ++ idx.map (fun x => clamp32 (g x)), none) := by
  induction idx generalizing bins acc with
  | nil => simp [CMS.addLoop]
  | cons x t ih =>
      have hx := h x (by simp)
      have ht : ∀ y ∈ t, Gen.int32Min ≤ g y := fun y hy => h y (by simp [hy])
      rw [List.map_cons, List.zip_cons_cons, addLoop_cons, List.foldl_cons, List.map_cons]
      by_cases c : g x > Gen.int32Max
      · rw [if_pos c, ih _ _ ht, clamp32_of_ge (Int.le_of_lt c), List.reverse_cons, List.append_assoc]
        rfl
      · have e := clamp32_id (g x) hx (Int.not_lt.mp c)
        rw [if_neg c, if_neg (Int.not_lt.mpr hx), ih _ _ ht, e, List.reverse_cons, List.append_assoc]
        rfl

theorem removeLoop_eq (g : Nat → Int) (idx : List Nat) (bins acc : List Int)
    (h : ∀ x ∈ idx, g x ≤ Gen.int32Max) :
    CMS.removeLoop bins (idx.zip (idx.map g)) acc =
      (idx.foldl (fun b x => b.set x (clamp32 (g x))) bins,
       acc.reverse ++ idx.map (fun x => clamp32 (g x)), none) := by
  induction idx generalizing bins acc with
  | nil => simp [CMS.removeLoop]
  | cons x t ih =>
      have hx := h x (by simp)
      have ht : ∀ y ∈ t, g y ≤ Gen.int32Max := fun y hy => h y (by simp [hy])
      rw [List.map_cons, List.zip_cons_cons, removeLoop_cons, List.foldl_cons, List.map_cons]
      by_cases c : g x > Gen.int32Min
      · have e := clamp32_id (g x) (Int.le_of_lt c) hx
        rw [if_pos c, if_neg (Int.not_lt.mpr hx), ih _ _ ht, e, List.reverse_cons, List.append_assoc]
        rfl
      · rw [if_neg c, ih _ _ ht, clamp32_of_le (Int.not_lt.mp c), List.reverse_cons, List.append_assoc]
        rfl

theorem binIdx_length (c : CMS) (hs : List Nat) : (c.binIdx hs).length = hs.length := by
  simp [CMS.binIdx]

theorem binIdx_map_ne_nil {β} (c : CMS) (hs : List Nat) (f : Nat → β) (hl : hs.length = c.d)
    (hd : 0 < c.d) : (c.binIdx hs).map f ≠ [] := by
  intro e
  have := congrArg List.length e
  rw [List.length_map, binIdx_length, hl, List.length_nil] at this
  omega

theorem binIdx_getElem (c : CMS) (hs : List Nat) (i : Nat) (h : i < hs.length) :
    (c.binIdx hs)[i]'(by rw [binIdx_length]; exact h) = hs[i] % c.w + i * c.w := by
  simp [CMS.binIdx]

theorem mem_binIdx (c : CMS) (hs : List Nat) (x : Nat) :
    x ∈ c.binIdx hs ↔ ∃ i, ∃ h : i < hs.length, x = hs[i] % c.w + i * c.w := by
  rw [List.mem_iff_getElem]
  constructor
  · rintro ⟨i, h, e⟩
    have h' : i < hs.length := by rw [binIdx_length] at h; exact h
    exact ⟨i, h', by rw [← e, binIdx_getElem c hs i h']⟩
  · rintro ⟨i, h, e⟩
    exact ⟨i, by rw [binIdx_length]; exact h, by rw [binIdx_getElem c hs i h, e]⟩

theorem row_col_inj {w i i' r r' : Nat} (hr : r < w) (hr' : r' < w)
    (e : r + i * w = r' + i' * w) : i = i' ∧ r = r' := by
  have hw : 0 < w := by omega
  have hrr : r = r' := by
    have := congrArg (· % w) e
    simpa only [Nat.add_mul_mod_self_right, Nat.mod_eq_of_lt hr, Nat.mod_eq_of_lt hr'] using this
  subst hrr
  exact ⟨Nat.eq_of_mul_eq_mul_right hw (Nat.add_left_cancel e), rfl⟩

/-- cell `(i, j)` is a bin of `hs` iff `hs[i]` falls into column `j` -/
theorem cell_mem_binIdx (c : CMS) (hs : List Nat) {i j : Nat} (hi : i < hs.length) (hj : j < c.w) :
    j + i * c.w ∈ c.binIdx hs ↔ hs[i] % c.w = j := by
  rw [mem_binIdx]
  refine ⟨fun ⟨i', h', e⟩ => ?_, fun e => ⟨i, hi, by rw [e]⟩⟩
  obtain ⟨rfl, e2⟩ := row_col_inj hj (Nat.mod_lt _ (Nat.zero_lt_of_lt hj)) e
  exact e2.symm

theorem row_col_lt {w d i r : Nat} (hi : i < d) (hr : r < w) : r + i * w < w * d := by
  have : (i + 1) * w ≤ d * w := Nat.mul_le_mul_right w hi
  rw [Nat.succ_mul] at this
  rw [Nat.mul_comm w d]; omega

theorem binIdx_lt (c : CMS) (hs : List Nat) (hw : 0 < c.w) (hl : hs.length ≤ c.d) :
    ∀ x ∈ c.binIdx hs, x < c.w * c.d := by
  intro x hx
  obtain ⟨i, h, rfl⟩ := (mem_binIdx c hs x).1 hx
  exact row_col_lt (Nat.lt_of_lt_of_le h hl) (Nat.mod_lt _ hw)

/-- the index check of `add_alt` / `remove_alt` / `check_alt` passes iff every index is in range -/
theorem any_ge_eq_false {idx : List Nat} {n : Nat} :
    idx.any (· ≥ n) = false ↔ ∀ x ∈ idx, x < n := by
  simp only [List.any_eq_false, ge_iff_le, decide_eq_true_eq, Nat.not_le]

theorem binIdx_any_false (c : CMS) (hs : List Nat) (hw : 0 < c.w) (hl : hs.length ≤ c.d)
    (hb : c.bins.length = c.w * c.d) : (c.binIdx hs).any (· ≥ c.bins.length) = false := by
  rw [any_ge_eq_false, hb]
  exact binIdx_lt c hs hw hl

def bumpBins (c : CMS) (hs : List Nat) (δ : Int) : List Int :=
  (c.binIdx hs).foldl (fun b x => b.set x (clamp32 (c.bins.getD x 0 + δ))) c.bins

theorem bumpBins_length (c : CMS) (hs : List Nat) (δ : Int) :
    (bumpBins c hs δ).length = c.bins.length := length_foldl_set _ _ _ _

theorem bumpBins_getElem? (c : CMS) (hs : List Nat) (δ : Int) (j : Nat) (hj : j < c.bins.length) :
    (bumpBins c hs δ)[j]? =
      some (if j ∈ c.binIdx hs then clamp32 (c.bins.getD j 0 + δ) else c.bins.getD j 0) :=
  foldl_set_getElem? _ _ _ _ hj

theorem bumpBins_getD (c : CMS) (hs : List Nat) (δ : Int)
    (hany : (c.binIdx hs).any (· ≥ c.bins.length) = false) (j : Nat) :
    (bumpBins c hs δ).getD j 0 =
      if j ∈ c.binIdx hs then clamp32 (c.bins.getD j 0 + δ) else c.bins.getD j 0 := by
  rw [List.getD_eq_getElem?_getD]
  by_cases hj : j < c.bins.length
  · rw [bumpBins_getElem? c hs δ j hj]; rfl
  · have hn : j ∉ c.binIdx hs := fun h => hj (any_ge_eq_false.1 hany j h)
    rw [List.getElem?_eq_none (by rw [bumpBins_length]; omega), if_neg hn,
      List.getD_eq_getElem?_getD, List.getElem?_eq_none (by omega)]

theorem bumpBins_range (c : CMS) (hs : List Nat) (δ : Int)
    (h : ∀ v ∈ c.bins, Gen.int32Min ≤ v ∧ v ≤ Gen.int32Max) :
    ∀ v ∈ bumpBins c hs δ, Gen.int32Min ≤ v ∧ v ≤ Gen.int32Max :=
  foldl_set_forall _ _ _ _ (fun _ => clamp32_range _) h

theorem addAlt_eq (c : CMS) (hs : List Nat) (n : Int)
    (hany : (c.binIdx hs).any (· ≥ c.bins.length) = false)
    (hlo : ∀ x ∈ c.binIdx hs, Gen.int32Min ≤ c.bins.getD x 0 + n) :
    c.addAlt hs n =
      ({ c with bins := bumpBins c hs n, total := min Gen.int64Max (c.total + n) },
       CMS.query { c with bins := bumpBins c hs n, total := min Gen.int64Max (c.total + n) }
         (min Gen.int64Max (c.total + n))
         (CMS.sortInts ((c.binIdx hs).map fun x => clamp32 (c.bins.getD x 0 + n)))) := by
  have ht : (if Gen.cmsTotalMaxCmp.evalInt (c.total + n) Gen.int64Max then Gen.int64Max
      else c.total + n) = min Gen.int64Max (c.total + n) := by
    simp only [Gen.cmsTotalMaxCmp, Cmp.evalInt, Gen.int64Max, decide_eq_true_eq]; omega
  unfold CMS.addAlt
  simp only [hany, Bool.false_eq_true, if_false]
  rw [addLoop_eq (fun x => c.bins.getD x 0 + n) _ _ _ hlo]
  simp only [ht, bumpBins, List.reverse_nil, List.nil_append]

theorem removeAlt_eq (c : CMS) (hs : List Nat) (n : Int)
    (hany : (c.binIdx hs).any (· ≥ c.bins.length) = false)
    (hhi : ∀ x ∈ c.binIdx hs, c.bins.getD x 0 - n ≤ Gen.int32Max) :
    c.removeAlt hs n =
      ({ c with bins := bumpBins c hs (-n), total := max Gen.int64Min (c.total - n) },
       CMS.query { c with bins := bumpBins c hs (-n), total := max Gen.int64Min (c.total - n) }
         (max Gen.int64Min (c.total - n))
         (CMS.sortInts ((c.binIdx hs).map fun x => clamp32 (c.bins.getD x 0 + -n)))) := by
  have ht : (if c.total - n < Gen.int64Min then Gen.int64Min else c.total - n) =
      max Gen.int64Min (c.total - n) := by
    simp only [Gen.int64Min]; omega
  unfold CMS.removeAlt
  simp only [hany, Bool.false_eq_true, if_false]
  rw [removeLoop_eq (fun x => c.bins.getD x 0 - n) _ _ _ hhi]
  simp only [ht, bumpBins, List.reverse_nil, List.nil_append, ← Int.sub_eq_add_neg]

theorem checkAlt_bump (c : CMS) (hs : List Nat) (δ t : Int)
    (hany : (c.binIdx hs).any (· ≥ c.bins.length) = false) :
    CMS.checkAlt { c with bins := bumpBins c hs δ, total := t } hs =
      CMS.query { c with bins := bumpBins c hs δ, total := t } t
        (CMS.sortInts ((c.binIdx hs).map fun x => clamp32 (c.bins.getD x 0 + δ))) := by
  have hb : CMS.binIdx { c with bins := bumpBins c hs δ, total := t } hs = c.binIdx hs := rfl
  unfold CMS.checkAlt
  simp only [hb, bumpBins_length, hany, Bool.false_eq_true, if_false]
  -- the values read back at the indices of `hs` are the stored ones
  congr 2
  apply List.map_congr_left
  intro x hx
  rw [bumpBins_getD c hs δ hany x, if_pos hx]

theorem addAlt_ret (c : CMS) (hs : List Nat) (n : Int)
    (hlo : ∀ x ∈ c.binIdx hs, Gen.int32Min ≤ c.bins.getD x 0 + n) :
    (c.addAlt hs n).2 = (c.addAlt hs n).1.checkAlt hs := by
  cases hany : (c.binIdx hs).any (· ≥ c.bins.length) with
  | true => simp [CMS.addAlt, CMS.checkAlt, hany]
  | false => rw [addAlt_eq c hs n hany hlo, checkAlt_bump c hs n _ hany]

theorem removeAlt_ret (c : CMS) (hs : List Nat) (n : Int)
    (hhi : ∀ x ∈ c.binIdx hs, c.bins.getD x 0 - n ≤ Gen.int32Max) :
    (c.removeAlt hs n).2 = (c.removeAlt hs n).1.checkAlt hs := by
  cases hany : (c.binIdx hs).any (· ≥ c.bins.length) with
  | true => simp [CMS.removeAlt, CMS.checkAlt, hany]
  | false => rw [removeAlt_eq c hs n hany hhi, checkAlt_bump c hs (-n) _ hany]

theorem joinCell_range (x y : Int) (hx : Gen.int32Min ≤ x ∧ x ≤ Gen.int32Max) :
    Gen.int32Min ≤ CMS.joinCell x y ∧ CMS.joinCell x y ≤ Gen.int32Max := by
  unfold CMS.joinCell
  split
  · exact hx
  · simp only []
    rw [clamp_ite int32_le]
    exact clamp_range int32_le _

theorem query_min (c : CMS) (t : Int) (l : List Int) (hm : c.mode = .min) (hl : l ≠ []) :
    ∃ v, c.query t (CMS.sortInts l) = .ok v ∧ v ∈ l ∧ ∀ y ∈ l, v ≤ y := by
  obtain ⟨x, rest, e, hx, hmin⟩ := sortInts_head l hl
  exact ⟨x, by simp [CMS.query, hm, e], hx, hmin⟩

theorem query_mean (c : CMS) (t : Int) (l : List Int) (hm : c.mode = .mean) (hd : 0 < c.d) :
    c.query t l = .ok (l.sum / (c.d : Int)) := by
  have : c.d ≠ 0 := by omega
  simp [CMS.query, hm, this]

theorem query_meanMin (c : CMS) (t : Int) (l : List Int) (hm : c.mode = .meanMin)
    (hd : 0 < c.d) (hl : l.length = c.d) (hw : c.w ≠ 1) : ∃ v, c.query t l = .ok v := by
  have hne : l ≠ [] := by intro e; rw [e] at hl; simp at hl; omega
  obtain ⟨a, ha⟩ : ∃ a, l.head? = some a := by
    cases l with
    | nil => exact absurd rfl hne
    | cons a t => exact ⟨a, rfl⟩
  obtain ⟨b, hb⟩ : ∃ b, l.getLast? = some b := by
    cases h : l.getLast? with
    | none => rw [List.getLast?_eq_none_iff] at h; exact absurd h hne
    | some b => exact ⟨b, rfl⟩
  simp only [CMS.query, hm, ha, hb]
  by_cases h0 : (a == 0 && b == 0) = true
  · exact ⟨0, if_pos h0⟩
  · have hw1 : ¬ (c.w == 1) = true := by simpa using hw
    rw [if_neg h0, if_neg hw1]
    have hlen : (CMS.sortInts (l.map fun t' => t' - (t - t') / ((c.w : Int) - 1))).length = c.d := by
      rw [sortInts_length, List.length_map, hl]
    generalize CMS.sortInts (l.map fun t' => t' - (t - t') / ((c.w : Int) - 1)) = mm at hlen
    by_cases hev : (c.d % 2 == 0) = true
    · have hev' : c.d % 2 = 0 := by simpa using hev
      rw [if_pos hev, List.getElem?_eq_getElem (show c.d / 2 < mm.length by omega),
        List.getElem?_eq_getElem (show c.d / 2 - 1 < mm.length by omega)]
      exact ⟨_, if_neg (by omega)⟩
    · rw [if_neg hev, List.getElem?_eq_getElem (show c.d / 2 < mm.length by omega)]
      exact ⟨_, rfl⟩

end PyProb.CmsCore
