/-
  Numeric evaluations of the real-number sizing formulas at a few concrete inputs, and a sample
  narrowing function; used only by the non-vacuity examples of Properties/C07.lean.
-/
import PyProb.Lemmas.RealInst
import PyProb.Lemmas.Log2Bound

namespace PyProb

theorem log_two_le_096 : Real.log 2 ≤ 96 / 100 := by
  rw [Real.log_le_iff_le_exp (by norm_num)]
  exact le_trans (by norm_num) (Real.quadratic_le_exp_of_nonneg (x := 96 / 100) (by norm_num))

theorem log_twenty_le_346 : Real.log 20 ≤ 346 / 100 := by
  rw [Real.log_le_iff_le_exp (by norm_num)]
  have := Real.sum_le_exp_of_nonneg (x := 346 / 100) (by norm_num) 5
  refine le_trans ?_ this
  norm_num [Finset.sum_range_succ, Nat.factorial]

/-- confidence 95 % gives depth 5 (`ln 20 / 0.693… ≈ 4.32`) -/
theorem cmsDepth_95 : cmsDepth (α := ℝ) (95 / 100) = 5 := by
  rw [cmsDepth_real, Int.ceil_eq_iff]
  have hl : -Real.log (1 - 95 / 100) = Real.log 20 := by
    rw [show (1 - 95 / 100 : ℝ) = 20⁻¹ by norm_num, Real.log_inv, neg_neg]
  have h16 : Real.log 16 = 4 * Real.log 2 := by
    rw [show (16 : ℝ) = 2 ^ 4 by norm_num, Real.log_pow, Nat.cast_ofNat]
  have hlo : Real.log 16 < Real.log 20 := Real.log_lt_log (by norm_num) (by norm_num)
  rw [hl, lt_div_iff₀ c2_pos, div_le_iff₀ c2_pos]
  push_cast
  constructor
  · linarith only [h16, hlo, c2_le_log_two]
  · linarith only [log_twenty_le_346, c2_bounds.1]

theorem bloomBits_1_half : bloomBits (α := ℝ) 1 (1 / 2) = 2 := by
  rw [bloomBits_real, Int.ceil_eq_iff, one_div, Real.log_inv, lt_div_iff₀ c1_pos,
    div_le_iff₀ c1_pos]
  push_cast
  constructor
  · linarith only [c1_bounds.2, c2_bounds.1, c2_le_log_two]
  · linarith only [log_two_le_096, c1_bounds.1]

theorem bloomHashes_1_2 : bloomHashes (α := ℝ) 1 2 = 1 := by
  rw [bloomHashes_real]
  apply roundHalfEven_eq_of_lt_half <;> rw [c2_eq] <;> norm_num

/-- a non-trivial narrowing for the stability examples: round up to a multiple of ½ -/
noncomputable def upHalf (x : ℝ) : ℝ := (⌈x * 2⌉ : ℝ) / 2

theorem upHalf_idem (x : ℝ) : upHalf (upHalf x) = upHalf x := by
  unfold upHalf
  rw [div_mul_cancel₀ _ (by norm_num : (2 : ℝ) ≠ 0), Int.ceil_intCast]

theorem upHalf_monotone : Monotone upHalf := by
  intro a b hab
  exact div_le_div_of_nonneg_right
    (Int.cast_le.mpr (Int.ceil_mono (mul_le_mul_of_nonneg_right hab zero_le_two))) zero_le_two

theorem upHalf_one : upHalf 1 = 1 := by
  unfold upHalf
  rw [show (1 : ℝ) * 2 = ((2 : Int) : ℝ) by norm_num, Int.ceil_intCast]; norm_num

theorem upHalf_three_tenths : upHalf (3 / 10) = 1 / 2 := by
  unfold upHalf
  rw [show ⌈(3 / 10 : ℝ) * 2⌉ = 1 by rw [Int.ceil_eq_iff]; norm_num]; norm_num

end PyProb
