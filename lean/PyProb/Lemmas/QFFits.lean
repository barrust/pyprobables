/-
  Every canonical set fits: for a set `S` with fewer than `n` elements (all quotients `< n`), the
  slot chosen by `Spec.emptySlot` is a slot nothing hashes to, and the placement that starts behind
  it ends in front of it (`Spec.Fits`).  This is the "one slot stays empty" combinatorics (a cycle
  lemma) behind the canonical layout.
-/
import PyProb.Lemmas.QFLayoutLin

namespace PyProb.Spec
open PyProb PyProb.QFLin

theorem countP_lt_succ (κ : Elem → Nat) (S : List Elem) (m : Nat) :
    S.countP (fun x => decide (κ x < m + 1)) =
      S.countP (fun x => decide (κ x < m)) + S.countP (fun x => κ x == m) := by
  induction S with
  | nil => rfl
  | cons x S ih =>
      simp only [List.countP_cons, ih, decide_eq_true_eq, beq_iff_eq]
      rcases Nat.lt_trichotomy (κ x) m with h | h | h
      · rw [if_pos (Nat.lt_succ_of_lt h), if_pos h, if_neg (Nat.ne_of_lt h)]
        exact Nat.add_right_comm _ _ _
      · rw [if_pos (Nat.lt_succ_of_le (Nat.le_of_eq h)), if_neg (Nat.not_lt_of_ge (Nat.le_of_eq h.symm)),
          if_pos h]
        rfl
      · rw [if_neg (Nat.not_lt.2 h), if_neg (Nat.lt_asymm h), if_neg (Nat.ne_of_gt h)]
        rfl

theorem carry_succ (n : Nat) (S : List Elem) (k : Nat) :
    carry n S (k + 1) = carry n S k + cnt S (k % n) - 1 := rfl

theorem isFree_iff (n : Nat) (S : List Elem) (k : Nat) :
    isFree n S k = true ↔ carry n S k = 0 ∧ cnt S (k % n) = 0 := by
  simp only [isFree, Bool.and_eq_true, beq_iff_eq]

theorem add_mod_of_lt {n i : Nat} (h : i < n) : (n + i) % n = i := by
  rw [Nat.add_mod_left, Nat.mod_eq_of_lt h]

theorem carry_mono (n : Nat) (S : List Elem) (k : Nat) : carry n S k ≤ carry n S (n + k) := by
  induction k with
  | zero => exact Nat.zero_le _
  | succ k ih =>
      rw [(Nat.add_assoc n k 1).symm, carry_succ, carry_succ, Nat.add_mod_left]
      exact Nat.sub_le_sub_right (Nat.add_le_add_right ih _) _

theorem carry_periodic (n : Nat) (S : List Elem) (a : Nat) (h : carry n S a = carry n S (n + a)) (j : Nat) :
    carry n S (a + j) = carry n S (n + a + j) := by
  induction j with
  | zero => exact h
  | succ j ih =>
      rw [← Nat.add_assoc, ← Nat.add_assoc, carry_succ, carry_succ, ih, Nat.add_assoc n a j,
        Nat.add_mod_left]

/-- some slot of the second round stays empty: otherwise the carry would change by exactly
    `cnt S j - 1` at every slot `j` of that round, by `|S| - n < 0` in total, whereas a round never
    lowers the carry (`carry_mono`) -/
theorem exists_free (n : Nat) (S : List Elem) (hq : ∀ x ∈ S, x.1 < n) (hlen : S.length < n) :
    ∃ i, i < n ∧ isFree n S (n + i) = true := by
  apply Classical.byContradiction
  intro hno
  have key : ∀ j, j ≤ n →
      carry n S (n + j) + j ≤ carry n S n + S.countP (fun x => decide (x.1 < j)) := by
    intro j
    induction j with
    | zero => intro _; exact Nat.le_add_right _ _
    | succ j ih =>
        intro hj
        have h1 := ih (Nat.le_of_succ_le hj)
        have h2 : ¬ (carry n S (n + j) = 0 ∧ cnt S j = 0) := fun h =>
          hno ⟨j, hj, (isFree_iff n S (n + j)).2 (by rw [add_mod_of_lt hj]; exact h)⟩
        rw [(Nat.add_assoc n j 1).symm, carry_succ, add_mod_of_lt hj, countP_lt_succ]
        change _ ≤ _ + (_ + cnt S j)
        omega
  have h1 := key n (Nat.le_refl _)
  rw [List.countP_eq_length.2 (fun x hx => decide_eq_true (hq x hx))] at h1
  have h2 := carry_mono n S n
  omega

theorem findFree_spec (n : Nat) (S : List Elem) (i : Nat) (hi : isFree n S (n + i) = true) :
    ∀ fuel i0, i0 ≤ i → i < i0 + fuel →
      isFree n S (n + findFree n S fuel i0) = true ∧ findFree n S fuel i0 ≤ i := by
  intro fuel
  induction fuel with
  | zero => intro i0 h1 h2; exact absurd h1 (Nat.not_le_of_gt h2)
  | succ fuel ih =>
      intro i0 h1 h2
      rw [findFree]
      by_cases hf : isFree n S (n + i0) = true
      · rw [if_pos hf]; exact ⟨hf, h1⟩
      · rw [if_neg hf]
        have hne : i0 ≠ i := fun h => hf (h ▸ hi)
        exact ih (i0 + 1) (Nat.lt_of_le_of_ne h1 hne) (Nat.add_right_comm i0 1 fuel ▸ h2)

theorem emptySlot_spec (n : Nat) (S : List Elem) (hq : ∀ x ∈ S, x.1 < n) (hlen : S.length < n) :
    emptySlot n S < n ∧ cnt S (emptySlot n S) = 0 ∧ carry n S (n + emptySlot n S + n) = 0 := by
  obtain ⟨i, hi, hfree⟩ := exists_free n S hq hlen
  obtain ⟨h1, h2⟩ : isFree n S (n + emptySlot n S) = true ∧ emptySlot n S ≤ i :=
    findFree_spec n S i hfree n 0 (Nat.zero_le _) (by rw [Nat.zero_add]; exact hi)
  have he : emptySlot n S < n := Nat.lt_of_le_of_lt h2 hi
  rw [isFree_iff, add_mod_of_lt he] at h1
  have h0 := carry_mono n S (emptySlot n S)
  rw [h1.1, Nat.le_zero] at h0
  have hper := carry_periodic n S (emptySlot n S) (h0.trans h1.1.symm) n
  rw [Nat.add_comm _ n] at hper
  exact ⟨he, h1.2, hper.symm.trans h1.1⟩

theorem cnt_io (n e : Nat) (S : List Elem) (he : e < n) (hq : ∀ x ∈ S, x.1 < n) (u : Nat) (hu : u < n) :
    cnt S (io n e u) = S.countP (fun x => off n e x.1 == u) := by
  apply List.countP_congr
  intro x hx
  rw [beq_iff_eq, beq_iff_eq]
  constructor
  · intro h; rw [h]; exact off_io n e u he hu
  · intro h; rw [← h]; exact (io_off n e x.1 he (hq x hx)).symm

/-- of the elements with home distance in `[lo, hi)` at most `hi - lo` stay there: the others are
    carried into the slot at distance `hi` -/
theorem carry_lower (n e : Nat) (S : List Elem) (he : e < n) (hq : ∀ x ∈ S, x.1 < n) {lo hi : Nat}
    (h : lo ≤ hi) (hn : hi ≤ n) :
    S.countP (fun x => decide (off n e x.1 < hi)) + lo ≤
      S.countP (fun x => decide (off n e x.1 < lo)) + carry n S (n + e + 1 + hi) + hi := by
  induction h with
  | refl => exact Nat.add_le_add_right (Nat.le_add_right _ _) _
  | @step hi _ ih =>
      rw [Nat.succ_eq_add_one] at hn ⊢
      have h1 := ih (Nat.le_of_succ_le hn)
      have h2 : (n + e + 1 + hi) % n = io n e hi := by
        rw [Nat.add_assoc n, Nat.add_assoc n, Nat.add_mod_left]; rfl
      rw [countP_lt_succ, (Nat.add_assoc (n + e + 1) hi 1).symm, carry_succ, h2, cnt_io n e S he hq hi hn]
      omega

theorem posF_le (d : Nat → Nat) (B : Nat) :
    ∀ i c, (∀ k, k ≤ i → d k + i + c ≤ B + k) → posF d i + c ≤ B := by
  intro i
  induction i with
  | zero => intro c h; exact h 0 (Nat.le_refl _)
  | succ i ih =>
      intro c h
      have h1 : posF d i + (c + 1) ≤ B :=
        ih (c + 1) (fun k hk => by have := h k (Nat.le_succ_of_le hk); omega)
      have h2 := h (i + 1) (Nat.le_refl _)
      rw [posF]
      omega

theorem count_below (n e : Nat) : ∀ (T : List Elem) (k : Nat), T.Pairwise (ltRot n e) → k < T.length →
    T.countP (fun x => decide (off n e x.1 < dOf n e T k)) ≤ k := by
  intro T
  induction T with
  | nil => intro k _ h; exact absurd h (Nat.not_lt_zero _)
  | cons x T ih =>
      intro k hT hk
      rw [List.pairwise_cons] at hT
      cases k with
      | zero =>
          rw [Nat.le_zero, List.countP_eq_zero]
          intro y hy
          rw [decide_eq_true_eq]
          change ¬ off n e y.1 < off n e x.1
          rcases List.mem_cons.1 hy with rfl | hy
          · exact Nat.lt_irrefl _
          · rcases hT.1 y hy with h | h
            · exact Nat.lt_asymm h
            · exact Nat.not_lt_of_ge (Nat.le_of_eq h.1)
      | succ k =>
          rw [List.countP_cons]
          have := ih k hT.2 (Nat.lt_of_succ_lt_succ hk)
          change _ + (if _ then 1 else 0) ≤ _
          split
          · exact Nat.succ_le_succ this
          · exact Nat.le_succ_of_le this

/-- the elements from `k` on all hash into the slots between the home of element `k` and the empty
    slot, and nothing is carried into the empty slot: so they are at most as many as these slots -/
theorem home_bound (n e : Nat) (S T : List Elem) (he : e < n) (hq : ∀ x ∈ S, x.1 < n) (hno : NoQuot e S)
    (hc : carry n S (n + e + n) = 0) (hperm : T.Perm S) (hT : T.Pairwise (ltRot n e))
    (k : Nat) (hk : k < T.length) : dOf n e T k + T.length + 1 ≤ n + k := by
  have hoff : ∀ x ∈ S, off n e x.1 < n - 1 :=
    fun x hx => Nat.lt_sub_of_add_lt (off_lt_pred n e x.1 he (hq x hx) (hno x hx))
  have hd : dOf n e T k < n - 1 := hoff _ (hperm.mem_iff.1 (getD_mem T k hk _))
  have h1 := carry_lower n e S he hq (Nat.le_of_lt hd) (Nat.sub_le n 1)
  rw [Nat.add_assoc (n + e) 1, Nat.add_sub_cancel' (Nat.lt_of_le_of_lt (Nat.zero_le e) he), hc,
    List.countP_eq_length.2 (fun x hx => decide_eq_true (hoff x hx)), ← hperm.countP_eq,
    ← hperm.length_eq] at h1
  have h2 := count_below n e T k hT hk
  omega

theorem canon_fits (n : Nat) (S : List Elem) (hS : Sorted S) (hq : ∀ x ∈ S, x.1 < n)
    (hlen : S.length < n) : Fits n S := by
  obtain ⟨he, hcnt, hc⟩ := emptySlot_spec n S hq hlen
  refine ⟨he, hcnt, fun i hi => ?_⟩
  have hno : NoQuot (emptySlot n S) S := (cnt_zero_iff S _).1 hcnt
  have hperm := rot_perm (emptySlot n S) S hno
  rw [← hperm.length_eq] at hi
  apply posF_le _ n i 2
  intro k hk
  have := home_bound n (emptySlot n S) S _ he hq hno hc hperm (rot_sorted n _ he S hS hq) k
    (Nat.lt_of_le_of_lt hk hi)
  omega

end PyProb.Spec
