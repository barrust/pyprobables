/-
  From the slot-by-slot description `Desc` of the table after `_shift_insert` to the linear view
  of the new table: if `s` is in the linear view with element sequence `d`, `r`, and `t` is `s` with
  a new element stored at the position that the sequence with the new element inserted at index `j`
  (`insAt`) assigns to it, the contiguous elements behind it moved by one, then `t` is in the linear
  view with the new sequence.
-/
import PyProb.Lemmas.QFWriteAddShift
import PyProb.Lemmas.QFSeq

namespace PyProb.QFLin
open PyProb PyProb.QF

section main
variable {s t : QF} {n e m : Nat} {d r : Nat → Nat}

/-- **the table after `_shift_insert` is in the linear view of the new sequence**: `k` elements are
    moved, and the element behind the new one is forced to be a continuation exactly when it has the
    home of the new one -/
theorem desc_lin (X : QFRem.LinX s n e m d r) (j D rr k : Nat) (fl : Bool) (hj : j ≤ m)
    (hS : SameShape s t)
    (hD : Desc t s n e (posF (insAt j D d) j) k D rr (contF (insAt j D d) j) fl)
    (hblock : ∀ u, u < k → j + u < m ∧ posF d (j + u) = posF (insAt j D d) j + u)
    (hgap : j + k < m → posF (insAt j D d) j + k < posF d (j + k))
    (hsorted : SeqSorted (m + 1) (insAt j D d) (insAt j rr r)) (hfit : SeqFits n (m + 1) (insAt j D d))
    (hfl : j < m → fl = decide (d j = D)) :
    QFRem.LinX t n e (m + 1) (insAt j D d) (insAt j rr r) := by
  have L := X.lin
  have hpos : ∀ i, i < m → posF d i < n :=
    fun i hi => Nat.lt_of_lt_of_le (Nat.lt_add_of_pos_right (Nat.succ_pos 1)) (L.fit i hi)
  generalize hP : posF (insAt j D d) j = P at *
  -- the old elements in front of the new one, moved, and behind the moved block
  have hA := pos_ins_front hP
  have hC := pos_ins_moved hP hblock
  have hfar := pos_ins_far hP hgap
  have hfree := pos_ins_free hP hblock hgap hj
  -- an old element away from the moved block keeps its slot
  have hkeep : ∀ i, i < m → (posF d i < P ∨ P + k < posF d i) →
      bit t.cont (io n e (posF d i)) = contF d i ∧
      bit t.shift (io n e (posF d i)) = decide (posF d i ≠ d i) ∧ t.remAt (io n e (posF d i)) = r i := by
    intro i hi h
    obtain ⟨⟨h3, h4⟩, h5⟩ := hD.other (posF d i) (hpos i hi) h
    exact ⟨h3.trans (L.cont i hi), h5.trans (L.shift i hi), h4.trans (L.rem i hi)⟩
  -- the slot of every new element
  have key : ∀ i, i < m + 1 →
      bit t.cont (io n e (posF (insAt j D d) i)) = contF (insAt j D d) i ∧
      bit t.shift (io n e (posF (insAt j D d) i)) = decide (posF (insAt j D d) i ≠ insAt j D d i) ∧
      t.remAt (io n e (posF (insAt j D d) i)) = insAt j rr r i := by
    intro i hi
    by_cases c1 : i < j
    · obtain ⟨h1, h2⟩ := hA i c1
      rw [h1, insAt_lt j D d i c1, insAt_lt j rr r i c1, contF_ins_lt j D d i c1]
      exact hkeep i (Nat.lt_of_lt_of_le c1 hj) (Or.inl h2)
    · by_cases c2 : i = j
      · rw [c2, hP, insAt_eq, insAt_eq]
        exact ⟨hD.cont, hD.shift, hD.rem⟩
      · obtain ⟨i, rfl⟩ : ∃ i', i = i' + 1 := ⟨i - 1, by omega⟩
        have hji : j ≤ i := Nat.le_of_lt_succ (Nat.lt_of_le_of_ne (Nat.not_lt.1 c1) (Ne.symm c2))
        have him : i < m := Nat.lt_of_succ_lt_succ hi
        rw [insAt_gt j D d i hji, insAt_gt j rr r i hji]
        by_cases c3 : i < j + k
        · -- a moved element: the old element `i = j + u`, from `P + u` to `P + u + 1`
          obtain ⟨u, rfl⟩ : ∃ u, i = j + u := ⟨i - j, (Nat.add_sub_of_le hji).symm⟩
          have hu : u < k := Nat.lt_of_add_lt_add_left c3
          have huP : P + u < P + k := Nat.add_lt_add_left hu P
          obtain ⟨h1, h2⟩ := hblock u hu
          have h3 := p_ge_d d (j + u)
          rw [hC u hu]
          refine ⟨?_, ?_, ?_⟩
          · cases u with
            | zero =>
                simp only [Nat.add_zero] at h1 h2
                show bit t.cont (io n e (P + 1)) = contF (insAt j D d) (j + 1)
                rw [hD.cont_next hu, ← h2, L.cont j h1, contF_ins_succ, hfl h1]
                show (decide (d j = D) || contF d j) = decide (d j = D)
                cases hc : contF d j
                · exact Bool.or_false _
                · rw [decide_eq_true (contF_at_ins hsorted h1 hc)]
                  rfl
            | succ u =>
                rw [hD.cont_moved (P + (u + 1)) (Nat.lt_add_of_pos_right (Nat.succ_pos u)) huP, ← h2,
                  L.cont _ h1]
                exact (contF_ins_gt j D d (j + (u + 1))
                  (Nat.add_le_add_left (Nat.succ_le_succ (Nat.zero_le u)) j)).symm
          · rw [hD.shift_moved (P + u) (Nat.le_add_right P u) huP]
            exact (decide_eq_true (by omega)).symm
          · rw [hD.rem_moved (P + u) (Nat.le_add_right P u) huP, ← h2, L.rem (j + u) h1]
        · -- an element behind the block
          obtain ⟨h1, h2⟩ := hfar i (Nat.not_lt.1 c3) him
          obtain ⟨h3, h4⟩ := hkeep i him (Or.inr h1)
          rw [h2]
          refine ⟨h3.trans ?_, h4⟩
          by_cases c4 : i = j
          · -- nothing was moved, so the old element `j` has another home than the new one
            subst c4
            have hne : d i ≠ D := by
              intro h
              have h6 := pos_ins_home i D d h
              omega
            rw [contF_ins_succ, decide_eq_false hne]
            cases hc : contF d i
            · rfl
            · exact absurd (contF_at_ins hsorted him hc) hne
          · exact (contF_ins_gt j D d i (Nat.lt_of_le_of_ne hji (Ne.symm c4))).symm
  have hsz : t.size = n := hS.size.trans L.size
  refine ⟨?_, hS.rem.trans X.lrem, hS.occ.trans X.locc, hS.cont.trans X.lcont, hS.shift.trans X.lshift, ?_⟩
  · refine ⟨L.n2, hsz, L.he, hsorted, hfit, fun i hi => (key i hi).1, fun i hi => (key i hi).2.1,
      fun i hi => (key i hi).2.2, ?_, ?_⟩
    · intro y hy hno
      obtain ⟨h1, h2⟩ := hfree y hno
      obtain ⟨⟨h3, _⟩, h5⟩ := hD.other y hy h1
      rw [h3, h5]
      exact L.nocell y hy h2
    · intro y hy
      by_cases c1 : y = D
      · rw [c1, hD.occ_home]
        exact ⟨fun _ => ⟨j, Nat.lt_succ_of_le hj, insAt_eq j D d⟩, fun _ => rfl⟩
      · rw [hD.occ y hy c1, L.occ y hy, exists_ins_iff j D m y d hj]
        exact ⟨fun ⟨i, hi, _, hdi⟩ => ⟨i, hi, hdi⟩,
          fun ⟨i, hi, hdi⟩ => ⟨i, hi, fun hij => c1 (by rw [← hdi, hij, insAt_eq]), hdi⟩⟩
  · intro y hy hno
    obtain ⟨h1, h2⟩ := hfree y hno
    rw [(hD.other y hy h1).1.rem]
    exact X.rem0 y hy h2

end main
end PyProb.QFLin
