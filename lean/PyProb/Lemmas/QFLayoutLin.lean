/-
  The canonical layout `Spec.layout` is a table in the linear view of `QFLin` — provided the
  placement fits in front of the empty slot (`Fits`, proved for all canonical sets in
  `QFFits.lean`).
-/
import PyProb.Lemmas.QFLin
import PyProb.Lemmas.QFLayout
import PyProb.Lemmas.QFSet

namespace PyProb.Spec
open PyProb PyProb.QF PyProb.QFLin

/-! ### arrays built by a fold of `set`s over the cells `cf 0 … cf (m-1)` -/

section arr
variable {α : Type} (f : Cell → Nat) (g : Cell → α) (init : List α) (cf : Nat → Cell)

def arrOf (m : Nat) : List α :=
  ((List.range m).map cf).foldl (fun a c => a.set (f c) (g c)) init

theorem arrOf_succ (m : Nat) :
    arrOf f g init cf (m + 1) = (arrOf f g init cf m).set (f (cf m)) (g (cf m)) := by
  simp [arrOf, List.range_succ, List.foldl_append]

theorem arrOf_length (m : Nat) : (arrOf f g init cf m).length = init.length :=
  length_foldl_set f g _ init

theorem arrOf_other (m j : Nat) (dflt : α) (h : ∀ i, i < m → f (cf i) ≠ j) :
    (arrOf f g init cf m).getD j dflt = init.getD j dflt := by
  induction m with
  | zero => rfl
  | succ m ih =>
      rw [arrOf_succ, getD_set_ne (h m (Nat.lt_succ_self m))]
      exact ih (fun i hi => h i (Nat.lt_succ_of_lt hi))

theorem arrOf_written (m j : Nat) (dflt v : α) (hj : j < init.length) (h : ∃ i, i < m ∧ f (cf i) = j)
    (hv : ∀ i, i < m → f (cf i) = j → g (cf i) = v) : (arrOf f g init cf m).getD j dflt = v := by
  induction m with
  | zero => obtain ⟨i, hi, _⟩ := h; exact absurd hi (Nat.not_lt_zero i)
  | succ m ih =>
      rw [arrOf_succ]
      by_cases hm : f (cf m) = j
      · rw [hm, hv m (Nat.lt_succ_self m) hm]
        exact getD_set_eq (by rw [arrOf_length]; exact hj)
      · obtain ⟨i, hi, hij⟩ := h
        rw [getD_set_ne hm]
        rcases Nat.lt_succ_iff_lt_or_eq.1 hi with him | rfl
        · exact ih ⟨i, him, hij⟩ (fun k hk => hv k (Nat.lt_succ_of_lt hk))
        · exact absurd hij hm

theorem arrOf_true_iff (n m j : Nat) (hj : j < n) :
    (arrOf f (fun _ => true) (List.replicate n false) cf m).getD j false = true ↔
      ∃ i, i < m ∧ f (cf i) = j := by
  by_cases h : ∃ i, i < m ∧ f (cf i) = j
  · rw [arrOf_written f _ _ cf m j false true (by rw [List.length_replicate]; exact hj) h
      (fun _ _ _ => rfl)]
    exact iff_of_true rfl h
  · rw [arrOf_other f _ _ cf m j false (fun i hi hf => h ⟨i, hi, hf⟩), getD_replicate]
    exact iff_of_false Bool.noConfusion h

end arr

def dOf (n e : Nat) (T : List Elem) (i : Nat) : Nat := off n e (T.getD i (0, 0)).1
def rOf (T : List Elem) (i : Nat) : Nat := (T.getD i (0, 0)).2

/-- positions when the first free distance is `lo` -/
def posG (lo : Nat) (dd : Nat → Nat) : Nat → Nat
  | 0 => max lo (dd 0)
  | i + 1 => max (posG lo dd i + 1) (dd (i + 1))

theorem posG_zero (dd : Nat → Nat) (i : Nat) : posG 0 dd i = posF dd i := by
  induction i with
  | zero => simp [posG, posF]
  | succ i ih => simp [posG, posF, ih]

def cellG (n e lo : Nat) (pq : Option Nat) (T : List Elem) (i : Nat) : Cell :=
  ⟨(e + 1 + posG lo (dOf n e T) i) % n, (T.getD i (0, 0)).1, (T.getD i (0, 0)).2,
    if i = 0 then pq == some (T.getD 0 (0, 0)).1 else (T.getD (i - 1) (0, 0)).1 == (T.getD i (0, 0)).1⟩

theorem posG_cons (n e lo : Nat) (x : Elem) (xs : List Elem) (i : Nat) :
    posG lo (dOf n e (x :: xs)) (i + 1) = posG (max lo (off n e x.1) + 1) (dOf n e xs) i := by
  induction i with
  | zero => rfl
  | succ i ih => rw [posG, ih]; rfl

theorem cellG_cons (n e lo : Nat) (pq : Option Nat) (x : Elem) (xs : List Elem) (i : Nat) :
    cellG n e lo pq (x :: xs) (i + 1) = cellG n e (max lo (off n e x.1) + 1) (some x.1) xs i := by
  rw [cellG, cellG, posG_cons, if_neg (Nat.succ_ne_zero i)]
  cases i with
  | zero => simp only [List.getD_cons_succ, List.getD_cons_zero, if_pos, Nat.add_sub_cancel,
      Option.some_beq_some]
  | succ i => rfl

theorem place_eq (n e : Nat) : ∀ (T : List Elem) (lo : Nat) (pq : Option Nat),
    place n e lo pq T = (List.range T.length).map (cellG n e lo pq T) := by
  intro T
  induction T with
  | nil => intro lo pq; rfl
  | cons x xs ih =>
      intro lo pq
      rw [place, ih, List.length_cons, List.range_succ_eq_map, List.map_cons, List.map_map]
      congr 1
      exact List.map_congr_left (fun i _ => (cellG_cons n e lo pq x xs i).symm)

def NoQuot (e : Nat) (S : List Elem) : Prop := ∀ x ∈ S, x.1 ≠ e

theorem cnt_zero_iff (S : List Elem) (e : Nat) : cnt S e = 0 ↔ NoQuot e S := by
  unfold cnt NoQuot
  simp only [List.countP_eq_zero, beq_iff_eq, ne_eq]

theorem rot_perm (e : Nat) (S : List Elem) (h : NoQuot e S) : (rot e S).Perm S := by
  have : S.filter (fun x => decide (x.1 < e)) = S.filter (fun x => !decide (e < x.1)) := by
    refine List.filter_congr (fun x hx => ?_)
    rw [← decide_not, decide_eq_decide, Nat.not_lt]
    exact ⟨Nat.le_of_lt, fun h' => Nat.lt_of_le_of_ne h' (h x hx)⟩
  unfold rot
  rw [this]
  exact List.filter_append_perm _ _

theorem mem_rot (e : Nat) (S : List Elem) (h : NoQuot e S) (x : Elem) : x ∈ rot e S ↔ x ∈ S :=
  (rot_perm e S h).mem_iff

theorem length_rot (e : Nat) (S : List Elem) (h : NoQuot e S) : (rot e S).length = S.length :=
  (rot_perm e S h).length_eq

/-- the order in which the table is read from slot `e + 1` -/
def ltRot (n e : Nat) (a b : Elem) : Prop :=
  off n e a.1 < off n e b.1 ∨ (off n e a.1 = off n e b.1 ∧ a.2 < b.2)

theorem ltRot_irrefl (n e : Nat) (a : Elem) : ¬ ltRot n e a a := by unfold ltRot; omega

theorem ltRot_asymm (n e : Nat) (a b : Elem) (h1 : ltRot n e a b) (h2 : ltRot n e b a) : False := by
  unfold ltRot at h1 h2; omega

/-- on the part of a sorted list where the home distance is the quotient up to a common shift, the
    two orders agree -/
theorem filter_ltRot {n e : Nat} {S : List Elem} (hS : Sorted S) (p : Elem → Bool) (c c' : Nat)
    (h : ∀ x ∈ S, p x = true → off n e x.1 + c = x.1 + c') : (S.filter p).Pairwise (ltRot n e) := by
  refine List.Pairwise.imp_of_mem ?_ (List.Pairwise.sublist List.filter_sublist hS)
  intro a b ha hb hab
  rw [List.mem_filter] at ha hb
  have h1 := h a ha.1 ha.2
  have h2 := h b hb.1 hb.2
  rw [ltE_iff] at hab
  unfold ltRot
  omega

theorem rot_sorted (n e : Nat) (he : e < n) (S : List Elem) (hS : Sorted S) (hq : ∀ x ∈ S, x.1 < n) :
    (rot e S).Pairwise (ltRot n e) := by
  unfold rot
  rw [List.pairwise_append]
  refine ⟨filter_ltRot hS _ (e + 1) 0 fun x hx hp => off_gt n e x.1 (of_decide_eq_true hp) (hq x hx),
    filter_ltRot hS _ (e + 1) n fun x _ hp => off_le n e x.1 (Nat.le_of_lt (of_decide_eq_true hp)) he,
    ?_⟩
  intro a ha b hb
  rw [List.mem_filter, decide_eq_true_eq] at ha hb
  have h1 := off_gt n e a.1 ha.2 (hq a ha.1)
  have h2 := off_le n e b.1 (Nat.le_of_lt hb.2) he
  have h3 := hq a ha.1
  exact Or.inl (by omega)

/-- the empty slot is a slot nothing hashes to, and the last element is placed before it -/
def Fits (n : Nat) (S : List Elem) : Prop :=
  emptySlot n S < n ∧ cnt S (emptySlot n S) = 0 ∧
    ∀ i, i < S.length → posF (dOf n (emptySlot n S) (rot (emptySlot n S) S)) i + 2 ≤ n

instance (n : Nat) (S : List Elem) : Decidable (Fits n S) := by
  unfold Fits; infer_instance

theorem cellG_idx (n e : Nat) (T : List Elem) (i : Nat) :
    (cellG n e 0 none T i).idx = io n e (posF (dOf n e T) i) := by
  rw [cellG, posG_zero]; rfl

theorem ltRot_getD {n e : Nat} {T : List Elem} (hT : T.Pairwise (ltRot n e)) {i k : Nat} (hik : i < k)
    (hk : k < T.length) :
    dOf n e T i < dOf n e T k ∨ (dOf n e T i = dOf n e T k ∧ rOf T i < rOf T k) := by
  have hi : i < T.length := Nat.lt_trans hik hk
  have := List.pairwise_iff_getElem.1 hT i k hi hk hik
  simp only [dOf, rOf, List.getD_eq_getElem?_getD, List.getElem?_eq_getElem hi,
    List.getElem?_eq_getElem hk, Option.getD_some]
  exact this

section cells
variable {α : Type} (g : Cell → α) (a0 : α) (n e : Nat) (T : List Elem)
  (hfit : ∀ i, i < T.length → posF (dOf n e T) i < n)
include hfit

theorem arrOf_at_pos (i : Nat) (hi : i < T.length) :
    (arrOf (fun c => c.idx) g (List.replicate n a0) (cellG n e 0 none T) T.length).getD
      (io n e (posF (dOf n e T) i)) a0 = g (cellG n e 0 none T i) := by
  rw [← cellG_idx]
  refine arrOf_written _ g _ _ _ _ a0 _ ?_ ⟨i, hi, rfl⟩ ?_
  · rw [List.length_replicate, cellG_idx]
    exact Nat.mod_lt _ (Nat.zero_lt_of_lt (hfit i hi))
  · intro k hk h
    rw [cellG_idx, cellG_idx] at h
    rw [p_inj _ k i (io_inj n e _ _ (hfit k hk) (hfit i hi) h)]

theorem arrOf_off_pos (x : Nat) (hx : x < n) (hno : ∀ i, i < T.length → posF (dOf n e T) i ≠ x) :
    (arrOf (fun c => c.idx) g (List.replicate n a0) (cellG n e 0 none T) T.length).getD (io n e x) a0 =
      a0 := by
  rw [arrOf_other _ _ _ _ _ _ _ (fun i hi h => hno i hi (io_inj n e _ _ (hfit i hi) hx ?_))]
  · exact getD_replicate n _ a0
  · rw [← cellG_idx]; exact h

end cells

theorem lin_of_cells (s : QF) (n e : Nat) (T : List Elem) (hn2 : 2 ≤ n) (hsize : s.size = n) (he : e < n)
    (hT : T.Pairwise (ltRot n e)) (hq : ∀ x ∈ T, x.1 < n)
    (hfit : ∀ i, i < T.length → posF (dOf n e T) i + 2 ≤ n)
    (hrem : s.rem = arrOf (fun c => c.idx) (fun c => c.rem) (List.replicate n 0)
      (cellG n e 0 none T) T.length)
    (hocc : s.occ = arrOf (fun c => c.quot) (fun _ => true) (List.replicate n false)
      (cellG n e 0 none T) T.length)
    (hcont : s.cont = arrOf (fun c => c.idx) (fun c => c.cont) (List.replicate n false)
      (cellG n e 0 none T) T.length)
    (hshift : s.shift = arrOf (fun c => c.idx) (fun c => c.idx != c.quot) (List.replicate n false)
      (cellG n e 0 none T) T.length) :
    Lin s n e T.length (dOf n e T) (rOf T) := by
  have hp : ∀ i, i < T.length → posF (dOf n e T) i < n := fun i hi => Nat.lt_of_succ_lt (hfit i hi)
  have hd : ∀ i, dOf n e T i < n := fun i => off_lt_n n e _ (Nat.zero_lt_of_lt he)
  have hd_io : ∀ i, i < T.length → io n e (dOf n e T i) = (T.getD i (0, 0)).1 :=
    fun i hi => io_off n e _ he (hq _ (getD_mem T i hi _))
  refine ⟨hn2, hsize, he, fun i hi => ltRot_getD hT (Nat.lt_succ_self i) hi, hfit, ?_, ?_, ?_, ?_, ?_⟩
  · -- continuation bits: equal quotients are equal homes
    intro i hi
    rw [bit, hcont, arrOf_at_pos _ false n e T hp i hi]
    cases i with
    | zero => rfl
    | succ i =>
        have hi' : i < T.length := Nat.lt_of_succ_lt hi
        change ((T.getD i (0, 0)).1 == (T.getD (i + 1) (0, 0)).1) = (true && decide (_ = dOf n e T i))
        rw [Bool.true_and, Bool.eq_iff_iff, beq_iff_eq, decide_eq_true_iff]
        constructor
        · intro h; rw [dOf, dOf, h]
        · intro h; rw [← hd_io i hi', ← hd_io (i + 1) hi, h]
  · -- shifted bits: the slot differs from the quotient when the position differs from the home
    intro i hi
    rw [bit, hshift, arrOf_at_pos _ false n e T hp i hi, cellG_idx,
      show (cellG n e 0 none T i).quot = io n e (dOf n e T i) from (hd_io i hi).symm,
      Bool.eq_iff_iff, bne_iff_ne, decide_eq_true_iff]
    constructor
    · intro h h'; exact h (h' ▸ rfl)
    · intro h h'; exact h (io_inj n e _ _ (hp i hi) (hd i) h')
  · intro i hi
    rw [remAt, hrem, arrOf_at_pos _ 0 n e T hp i hi]
    rfl
  · intro x hx hno
    rw [bit, bit, hcont, hshift]
    exact ⟨arrOf_off_pos _ false n e T hp x hx hno, arrOf_off_pos _ false n e T hp x hx hno⟩
  · -- occupied bits: a cell has quotient `io n e x` iff its element has home `x`
    intro x hx
    rw [bit, hocc, arrOf_true_iff _ _ n _ (io n e x) (Nat.mod_lt _ (Nat.zero_lt_of_lt he))]
    refine exists_congr fun i => and_congr_right fun hi => ?_
    change (T.getD i (0, 0)).1 = _ ↔ _
    rw [← hd_io i hi]
    exact ⟨io_inj n e _ _ (hd i) hx, fun h => h ▸ rfl⟩

theorem layout_rem_eq (q : Nat) (auto : Bool) (S : List Elem) :
    (layout q auto S).rem = arrOf (fun c => c.idx) (fun c => c.rem) (List.replicate (2 ^ q) 0)
      (cellG (2 ^ q) (emptySlot (2 ^ q) S) 0 none (rot (emptySlot (2 ^ q) S) S))
      (rot (emptySlot (2 ^ q) S) S).length :=
  congrArg (List.foldl _ _) (place_eq _ _ _ 0 none)

theorem layout_lin (q : Nat) (hq1 : 1 ≤ q) (auto : Bool) (S : List Elem) (hS : Sorted S)
    (hq : ∀ x ∈ S, x.1 < 2 ^ q) (hF : Fits (2 ^ q) S) :
    Lin (layout q auto S) (2 ^ q) (emptySlot (2 ^ q) S) S.length
      (dOf (2 ^ q) (emptySlot (2 ^ q) S) (rot (emptySlot (2 ^ q) S) S))
      (rOf (rot (emptySlot (2 ^ q) S) S)) := by
  obtain ⟨he, hcnt, hfit⟩ := hF
  have hperm := rot_perm _ S ((cnt_zero_iff S _).1 hcnt)
  have hcells : cells (2 ^ q) S = _ := place_eq _ _ _ 0 none
  rw [← hperm.length_eq] at hfit ⊢
  exact lin_of_cells (layout q auto S) (2 ^ q) _ _ (Nat.pow_le_pow_right (Nat.le_succ 1) hq1) rfl he
    (rot_sorted _ _ he S hS hq) (fun x hx => hq x (hperm.mem_iff.1 hx)) hfit
    (congrArg (List.foldl _ _) hcells) (congrArg (List.foldl _ _) hcells)
    (congrArg (List.foldl _ _) hcells) (congrArg (List.foldl _ _) hcells)

end PyProb.Spec
