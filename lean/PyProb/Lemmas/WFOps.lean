/-
  The well-formedness conditions of the export formats are preserved by the update operations.
  One module per data-structure family (no cuckoo part: the cuckoo bookkeeping is in
  `Lemmas/CuckooAcct.lean`); this module gathers them for the library root, the property files
  import the family modules.
-/
import PyProb.Lemmas.WFOpsBloom
import PyProb.Lemmas.WFOpsCms
