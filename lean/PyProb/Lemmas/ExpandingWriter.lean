/-
  Expanding / rotating Bloom filters under the default hashing strategy: every `add` of the model
  is one step of the reference writer of `Spec/Layout.lean` (membership test over all sub-filters,
  growth / rotation, insertion into the newest sub-filter), and the writer's state stays small
  enough for every footer field.
-/
import PyProb.Lemmas.ReferenceBloom

namespace PyProb

def absB (b : Bloom) : Spec.Sub := (b.count.toNat, b.bits)

def SubsInv (est fpr32 k m : Nat) (bs : List Bloom) : Prop :=
  bs ≠ [] ∧ ∀ b ∈ bs, SubOK est fpr32 k m b ∧ 0 ≤ b.count

theorem sub_check (b : Bloom) (key : Key) :
    b.checkAlt (defaultFnv key b.k) = .ok (Spec.subHas b.k b.m key.units (absB b)) := by
  unfold Bloom.checkAlt
  rw [Bloom.checkGo_ok _ _ _ _ (by rw [C18.C18_len_default]; exact Nat.le_refl _)]
  rw [List.take_of_length_le (by rw [C18.C18_len_default]; exact Nat.le_refl _), defaultFnv_spec]
  unfold Spec.subHas Spec.bloomPositions absB
  rw [List.all_map, List.all_map]
  congr 2
  funext i
  simp only [Function.comp_def, bitOfFile_eq]

theorem checkGo_any (est fpr32 k m : Nat) (key : Key) (bs : List Bloom)
    (h : ∀ b ∈ bs, SubOK est fpr32 k m b) :
    Expanding.checkGo (defaultFnv key k) bs = .ok ((bs.map absB).any (Spec.subHas k m key.units)) := by
  induction bs with
  | nil => rfl
  | cons b bs ih =>
      obtain ⟨_, _, hk, hm, _⟩ := h b (by simp)
      have ih := ih (fun x hx => h x (List.mem_cons_of_mem _ hx))
      have hc := sub_check b key
      rw [hk, hm] at hc
      simp only [Expanding.checkGo, hc, List.map_cons, List.any_cons]
      cases Spec.subHas k m key.units (absB b)
      · simpa using ih
      · rfl

theorem sub_add (est fpr32 k m : Nat) (b : Bloom) (key : Key) (h : SubOK est fpr32 k m b) (hc : 0 ≤ b.count) :
    (b.addAlt (defaultFnv key k)).2 = none ∧
    absB (b.addAlt (defaultFnv key k)).1 = Spec.subAdd k m key.units (absB b) ∧
    SubOK est fpr32 k m (b.addAlt (defaultFnv key k)).1 ∧ 0 ≤ (b.addAlt (defaultFnv key k)).1.count := by
  have hok := SubOK_addAlt (defaultFnv key k) h
  obtain ⟨_, _, hk, hm, _⟩ := h
  have hlen : ¬ (defaultFnv key k).length < b.k := by rw [C18.C18_len_default, hk]; omega
  have hpos := positions_spec b key
  rw [hk, hm] at hpos
  unfold Bloom.addAlt at hok ⊢
  simp only [hlen, if_false] at hok ⊢
  refine ⟨trivial, ?_, hok, by omega⟩
  unfold absB Spec.subAdd
  simp only [hpos, foldl_setBit_spec]
  congr 1
  omega

theorem addToLast_abs (est fpr32 k m : Nat) (bs : List Bloom) (key : Key) (h : SubsInv est fpr32 k m bs) :
    (Expanding.addToLast bs (defaultFnv key k)).2 = none ∧
    (Expanding.addToLast bs (defaultFnv key k)).1.map absB = Spec.addNewest k m key.units (bs.map absB) ∧
    SubsInv est fpr32 k m (Expanding.addToLast bs (defaultFnv key k)).1 := by
  obtain ⟨hne, hall⟩ := h
  unfold Expanding.addToLast Spec.addNewest
  rw [List.getLast?_map]
  cases hl : bs.getLast? with
  | none => exact absurd (List.getLast?_eq_none_iff.mp hl) hne
  | some b =>
      have hb : b ∈ bs := List.mem_of_getLast? hl
      obtain ⟨hok, hc⟩ := hall b hb
      obtain ⟨s1, s2, s3, s4⟩ := sub_add est fpr32 k m b key hok hc
      simp only [Option.map_some]
      refine ⟨s1, ?_, by simp, ?_⟩
      · simp only [List.map_append, List.map_cons, List.map_nil, s2, List.map_dropLast]
      · intro x hx
        simp only [List.mem_append, List.mem_singleton] at hx
        rcases hx with hx | rfl
        · exact hall x (List.dropLast_subset _ hx)
        · exact ⟨s3, s4⟩

theorem absB_new (est fpr32 k m : Nat) : absB (Bloom.new est fpr32 k m) = Spec.freshSub m := by
  simp [absB, Bloom.new, Spec.freshSub, Bloom.lengthOf, Gen.bloomBitsPerElm]

theorem SubsInv_append_new {est fpr32 k m : Nat} {bs : List Bloom} (h : ∀ b ∈ bs, SubOK est fpr32 k m b ∧ 0 ≤ b.count) :
    SubsInv est fpr32 k m (bs ++ [Bloom.new est fpr32 k m]) := by
  refine ⟨by simp, ?_⟩
  intro x hx
  simp only [List.mem_append, List.mem_singleton] at hx
  rcases hx with hx | rfl
  · exact h x hx
  · exact ⟨SubOK_new _ _ _ _, by simp [Bloom.new]⟩

theorem SubsInv_new (est fpr32 k m : Nat) : SubsInv est fpr32 k m [Bloom.new est fpr32 k m] :=
  SubsInv_append_new (bs := []) fun _ h => absurd h List.not_mem_nil

/-- The growth rule of the model is `Spec.growExpanding` on the abstraction; `rotate_abs` below is the
    same for the rotating filter, whose rule has the extra case "queue full: drop the oldest". -/
theorem grow_abs (e : Expanding) (h : SubsInv e.est e.fpr32 e.k e.m e.blooms) :
    e.grow.blooms.map absB = Spec.growExpanding e.est e.m (e.blooms.map absB) ∧
    SubsInv e.est e.fpr32 e.k e.m e.grow.blooms ∧
    e.grow.est = e.est ∧ e.grow.fpr32 = e.fpr32 ∧ e.grow.k = e.k ∧ e.grow.m = e.m ∧ e.grow.added = e.added := by
  obtain ⟨hne, hall⟩ := h
  obtain ⟨s1, s2, s3, s4, s5⟩ := Expanding.grow_static e
  refine ⟨?_, ⟨Expanding.grow_ne_nil e hne, fun b hb => (Expanding.grow_mem e b hb).elim (hall b)
    fun hf => hf ▸ (SubsInv_new e.est e.fpr32 e.k e.m).2 _ (List.mem_singleton_self _)⟩, s1, s2, s3, s4, s5⟩
  obtain ⟨init, z, hb⟩ := exists_concat e.blooms hne
  obtain ⟨_, hc⟩ := hall z (by rw [hb]; exact List.mem_concat_self)
  have hl : (e.blooms.map absB).getLast? = some (absB z) := by
    rw [hb, List.map_append]
    exact List.getLast?_concat
  rw [Expanding.grow_blooms_eq e init z hb]
  unfold Spec.growExpanding
  obtain ⟨n, hn⟩ := Int.eq_ofNat_of_zero_le hc
  simp only [hl, absB, hn, Int.toNat_natCast, Int.ofNat_le, ge_iff_le]
  split
  · simp only [List.map_append, List.map_cons, List.map_nil, Expanding.fresh, absB_new]
  · rfl

def absE (e : Expanding) : List Spec.Sub × Nat := (e.blooms.map absB, e.added.toNat)

theorem absE_new (est fpr32 k m : Nat) : absE (Expanding.new est fpr32 k m) = ([Spec.freshSub m], 0) := by
  simp [absE, Expanding.new, absB_new]

/-- One `add` of either filter (`Rotating.addAlt` is the model's copy of `Expanding.addAlt` with
    `rotate` in the place of `grow`): `g` is the filter with the call counted and its own growth
    rule applied, `G` the rule of the reference writer. -/
theorem add_step_abs (G : List Spec.Sub → List Spec.Sub) (e g : Expanding) (key : Key)
    (h : SubsInv e.est e.fpr32 e.k e.m e.blooms) (ha : 0 ≤ e.added)
    (hg : g.blooms.map absB = G (e.blooms.map absB) ∧ SubsInv e.est e.fpr32 e.k e.m g.blooms ∧
      g.est = e.est ∧ g.fpr32 = e.fpr32 ∧ g.k = e.k ∧ g.m = e.m ∧ g.added = e.added + 1) :
    ∃ p, e.checkAlt (defaultFnv key e.k) = .ok p ∧
    let e' := if p then { e with added := e.added + 1 }
      else { g with blooms := (Expanding.addToLast g.blooms (defaultFnv key e.k)).1 }
    absE e' = Spec.addStep G e.k e.m (absE e) key.units ∧
    SubsInv e'.est e'.fpr32 e'.k e'.m e'.blooms ∧ 0 ≤ e'.added ∧
    e'.est = e.est ∧ e'.fpr32 = e.fpr32 ∧ e'.k = e.k ∧ e'.m = e.m := by
  obtain ⟨g1, g2, g3, g4, g5, g6, g7⟩ := hg
  obtain ⟨_, a2, a3⟩ := addToLast_abs e.est e.fpr32 e.k e.m g.blooms key g2
  have hn : (e.added + 1).toNat = e.added.toNat + 1 := by omega
  refine ⟨_, checkGo_any e.est e.fpr32 e.k e.m key e.blooms (fun b hb => (h.2 b hb).1), ?_⟩
  unfold Spec.addStep absE
  cases (e.blooms.map absB).any (Spec.subHas e.k e.m key.units)
  · simp only [Bool.false_eq_true, if_false]
    exact ⟨by rw [a2, g1, g7, hn], by rw [g3, g4, g5, g6]; exact a3, by omega, g3, g4, g5, g6⟩
  · simp only [if_true]
    exact ⟨by rw [hn], h, by omega, trivial, trivial, trivial, trivial⟩

theorem expanding_step (e : Expanding) (key : Key)
    (h : SubsInv e.est e.fpr32 e.k e.m e.blooms) (ha : 0 ≤ e.added) :
    let e' := (e.addAlt (defaultFnv key e.k) false).1
    absE e' = Spec.addStep (Spec.growExpanding e.est e.m) e.k e.m (absE e) key.units ∧
    SubsInv e'.est e'.fpr32 e'.k e'.m e'.blooms ∧ 0 ≤ e'.added ∧
    e'.est = e.est ∧ e'.fpr32 = e.fpr32 ∧ e'.k = e.k ∧ e'.m = e.m := by
  obtain ⟨p, hchk, s⟩ := add_step_abs _ e _ key h ha (grow_abs { e with added := e.added + 1 } h)
  unfold Expanding.addAlt
  simp only [Bool.false_eq_true, if_false, hchk]
  cases p
  · exact s
  · exact s

theorem rotate_abs (r : Rotating) (q : Nat) (hq : r.q = (q : Int)) (h : SubsInv r.est r.fpr32 r.k r.m r.blooms) :
    (r.rotate false).q = r.q ∧
    (r.rotate false).blooms.map absB = Spec.growRotating r.est q r.m (r.blooms.map absB) ∧
    SubsInv r.est r.fpr32 r.k r.m (r.rotate false).blooms ∧
    (r.rotate false).est = r.est ∧ (r.rotate false).fpr32 = r.fpr32 ∧ (r.rotate false).k = r.k ∧
    (r.rotate false).m = r.m ∧ (r.rotate false).added = r.added := by
  obtain ⟨hne, hall⟩ := h
  obtain ⟨s1, s2, s3, s4, s5, s6⟩ := Rotating.rotate_static r false
  refine ⟨s6, ?_, ⟨Rotating.rotate_ne_nil r false hne, Rotating.rotate_forall _ r false
    ((SubsInv_new r.est r.fpr32 r.k r.m).2 _ (List.mem_singleton_self _)) hall⟩, s1, s2, s3, s4, s5⟩
  obtain ⟨init, z, hb⟩ := exists_concat r.blooms hne
  obtain ⟨⟨hest, _⟩, hc⟩ := hall z (by rw [hb]; exact List.mem_concat_self)
  have hl : (r.blooms.map absB).getLast? = some (absB z) := by
    rw [hb, List.map_append]
    exact List.getLast?_concat
  rw [Rotating.rotate_blooms r false init z hb]
  unfold Spec.growRotating
  obtain ⟨n, hn⟩ := Int.eq_ofNat_of_zero_le hc
  simp only [hl, absB, List.length_map, hq, hest, hn, Bool.false_eq_true, false_or, Int.toNat_natCast,
    Int.natCast_inj, Int.ofNat_lt]
  split
  · split
    · simp only [List.map_append, List.map_cons, List.map_nil, Expanding.fresh, absB_new]
    · simp only [List.map_append, List.map_cons, List.map_nil, Expanding.fresh, absB_new, List.map_drop]
  · rfl

def absR (r : Rotating) : List Spec.Sub × Nat := absE r.toExpanding

theorem rotating_step (r : Rotating) (q : Nat) (hq : r.q = (q : Int)) (key : Key)
    (h : SubsInv r.est r.fpr32 r.k r.m r.blooms) (ha : 0 ≤ r.added) :
    let r' := (r.addAlt (defaultFnv key r.k) false).1
    r'.q = r.q ∧ absR r' = Spec.addStep (Spec.growRotating r.est q r.m) r.k r.m (absR r) key.units ∧
    SubsInv r'.est r'.fpr32 r'.k r'.m r'.blooms ∧ 0 ≤ r'.added ∧
    r'.est = r.est ∧ r'.fpr32 = r.fpr32 ∧ r'.k = r.k ∧ r'.m = r.m := by
  obtain ⟨g8, g⟩ := rotate_abs { r with added := r.added + 1 } q hq h
  obtain ⟨p, hchk, s⟩ := add_step_abs _ r.toExpanding _ key h ha g
  unfold Rotating.addAlt
  simp only [Bool.false_eq_true, if_false, hchk]
  cases p
  · exact ⟨g8, s⟩
  · exact ⟨rfl, s⟩

theorem expanding_run (est fpr32 k m : Nat) (keys : List Key) (e0 : Expanding)
    (h1 : e0.est = est) (h2 : e0.fpr32 = fpr32) (h3 : e0.k = k) (h4 : e0.m = m)
    (h : SubsInv est fpr32 k m e0.blooms) (ha : 0 ≤ e0.added) :
    let e := keys.foldl (fun e key => (e.addAlt (defaultFnv key k) false).1) e0
    absE e = (keys.map Key.units).foldl (Spec.addStep (Spec.growExpanding est m) k m) (absE e0) ∧
    SubsInv est fpr32 k m e.blooms ∧ 0 ≤ e.added ∧ e.est = est ∧ e.fpr32 = fpr32 := by
  induction keys generalizing e0 with
  | nil => exact ⟨rfl, h, ha, h1, h2⟩
  | cons key keys ih =>
      simp only [List.foldl_cons, List.map_cons]
      subst h1 h2 h3 h4
      obtain ⟨s1, s2, s3, s4, s5, s6, s7⟩ := expanding_step e0 key h ha
      have := ih (e0.addAlt (defaultFnv key e0.k) false).1 s4 s5 s6 s7 (by rw [s4, s5, s6, s7] at s2; exact s2) s3
      rw [s1] at this
      exact this

theorem rotating_run (est fpr32 k m q : Nat) (keys : List Key) (r0 : Rotating)
    (h1 : r0.est = est) (h2 : r0.fpr32 = fpr32) (h3 : r0.k = k) (h4 : r0.m = m) (hq : r0.q = (q : Int))
    (h : SubsInv est fpr32 k m r0.blooms) (ha : 0 ≤ r0.added) :
    let r := keys.foldl (fun r key => (r.addAlt (defaultFnv key k) false).1) r0
    absR r = (keys.map Key.units).foldl (Spec.addStep (Spec.growRotating est q m) k m) (absR r0) ∧
    SubsInv est fpr32 k m r.blooms ∧ 0 ≤ r.added ∧ r.est = est ∧ r.fpr32 = fpr32 := by
  induction keys generalizing r0 with
  | nil => exact ⟨rfl, h, ha, h1, h2⟩
  | cons key keys ih =>
      simp only [List.foldl_cons, List.map_cons]
      subst h1 h2 h3 h4
      obtain ⟨s8, s1, s2, s3, s4, s5, s6, s7⟩ := rotating_step r0 q hq key h ha
      have := ih (r0.addAlt (defaultFnv key r0.k) false).1 s4 s5 s6 s7 (by rw [s8]; exact hq)
        (by rw [s4, s5, s6, s7] at s2; exact s2) s3
      rw [s1] at this
      exact this

def GrowOK (m : Nat) (grow : List Spec.Sub → List Spec.Sub) : Prop :=
  ∀ subs, (∀ s ∈ grow subs, s ∈ subs ∨ s = Spec.freshSub m) ∧ (grow subs).length ≤ subs.length + 1

theorem growExpanding_ok (est m : Nat) : GrowOK m (Spec.growExpanding est m) := by
  intro subs
  unfold Spec.growExpanding
  cases subs.getLast? with
  | none => exact ⟨fun s hs => Or.inl hs, Nat.le_succ _⟩
  | some s =>
      simp only
      split
      · refine ⟨fun x hx => ?_, by simp⟩
        simp only [List.mem_append, List.mem_singleton] at hx
        exact hx
      · exact ⟨fun s hs => Or.inl hs, Nat.le_succ _⟩

theorem growRotating_ok (est q m : Nat) : GrowOK m (Spec.growRotating est q m) := by
  intro subs
  unfold Spec.growRotating
  cases subs.getLast? with
  | none => exact ⟨fun s hs => Or.inl hs, Nat.le_succ _⟩
  | some s =>
      simp only
      split
      · split
        · refine ⟨fun x hx => ?_, by simp⟩
          simp only [List.mem_append, List.mem_singleton] at hx
          exact hx
        · refine ⟨fun x hx => ?_, by simp⟩
          simp only [List.mem_append, List.mem_singleton] at hx
          rcases hx with hx | hx
          · exact Or.inl (List.mem_of_mem_drop hx)
          · exact Or.inr hx
      · exact ⟨fun s hs => Or.inl hs, Nat.le_succ _⟩

theorem addStep_bound (m : Nat) (grow : List Spec.Sub → List Spec.Sub) (hg : GrowOK m grow) (k : Nat)
    (keys : List (List Nat)) (st : List Spec.Sub × Nat)
    (h : (∀ s ∈ st.1, s.1 ≤ st.2) ∧ st.1.length ≤ st.2 + 1) :
    let st' := keys.foldl (Spec.addStep grow k m) st
    (∀ s ∈ st'.1, s.1 ≤ st'.2) ∧ st'.1.length ≤ st'.2 + 1 ∧ st'.2 = st.2 + keys.length := by
  induction keys generalizing st with
  | nil => exact ⟨h.1, h.2, rfl⟩
  | cons key keys ih =>
      simp only [List.foldl_cons, List.length_cons]
      have hstep : (∀ s ∈ (Spec.addStep grow k m st key).1, s.1 ≤ (Spec.addStep grow k m st key).2) ∧
          (Spec.addStep grow k m st key).1.length ≤ (Spec.addStep grow k m st key).2 + 1 ∧
          (Spec.addStep grow k m st key).2 = st.2 + 1 := by
        unfold Spec.addStep
        split
        · exact ⟨fun s hs => Nat.le_succ_of_le (h.1 s hs), by simp only; omega, rfl⟩
        · obtain ⟨g1, g2⟩ := hg st.1
          have hgb : ∀ s ∈ grow st.1, s.1 ≤ st.2 := by
            intro s hs
            rcases g1 s hs with hs | rfl
            · exact h.1 s hs
            · simp [Spec.freshSub]
          simp only
          unfold Spec.addNewest
          cases hl : (grow st.1).getLast? with
          | none => exact ⟨fun s hs => Nat.le_succ_of_le (hgb s hs), by simp only; omega, trivial⟩
          | some l =>
              have hlm : l ∈ grow st.1 := List.mem_of_getLast? hl
              refine ⟨?_, ?_, trivial⟩
              · intro s hs
                simp only [List.mem_append, List.mem_singleton] at hs
                rcases hs with hs | rfl
                · exact Nat.le_succ_of_le (hgb s (List.dropLast_subset _ hs))
                · simp only [Spec.subAdd]; have := hgb l hlm; omega
              · have hne : grow st.1 ≠ [] := List.ne_nil_of_mem hlm
                have : 0 < (grow st.1).length := List.length_pos_iff.mpr hne
                simp only [List.length_append, List.length_dropLast, List.length_singleton]
                omega
      obtain ⟨i1, i2, i3⟩ := ih (Spec.addStep grow k m st key) ⟨hstep.1, hstep.2.1⟩
      exact ⟨i1, i2, by rw [i3, hstep.2.2]; omega⟩

end PyProb
