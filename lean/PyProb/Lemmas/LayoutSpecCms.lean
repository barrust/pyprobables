/-
  Bridges between the model's codecs (`Model/Base.lean`) and the independently written layout
  specification (`Spec/Layout.lean`), count-min sketch family: the footer.
-/
import PyProb.Lemmas.LayoutSpecCommon
import PyProb.Lemmas.FormatsCms

namespace PyProb

theorem cmsFooter_range (w d : Nat) (t : Int) :
    inRange Gen.cmsFooter.fields [(w : Int), (d : Int), t] = true ↔
      w < 2 ^ 32 ∧ d < 2 ^ 32 ∧ -9223372036854775808 ≤ t ∧ t ≤ 9223372036854775807 := by
  simp only [Gen.cmsFooter, inRange, Bool.and_eq_true, decide_eq_true_eq, Bool.and_true, range_u32_nat, and_assoc]
  rfl

end PyProb
