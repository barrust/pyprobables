/-
  Bridges between the model's codecs (`Model/Base.lean`, `Model/Bitarray.lean`) and the
  independently written layout specification (`Spec/Layout.lean`), Bloom family: bit arrays,
  footers of Bloom / counting Bloom / expanding filters, expanding sub-filters.
-/
import PyProb.Lemmas.LayoutSpecCommon
import PyProb.Lemmas.FormatsBloom
import PyProb.Lemmas.Bits

namespace PyProb

theorem spec_orByteAt (bs : Bytes) (j t : Nat) :
    Spec.orByteAt bs j t = bs.set j (bs.getD j 0 ||| 1 <<< t) := by
  induction bs generalizing j with
  | nil => simp [Spec.orByteAt]
  | cons b bs ih =>
      cases j with
      | zero => simp [Spec.orByteAt, Nat.one_shiftLeft]
      | succ j => simp [Spec.orByteAt, ih]

theorem spec_setBit (bs : Bytes) (i : Nat) : Spec.setBit bs i = setBitB bs i := by
  unfold Spec.setBit setBitB; exact spec_orByteAt _ _ _

theorem byteOfBits_testBit (x : Nat) (h : x < 256) : Spec.byteOfBits (fun t => x.testBit t) = x := by
  revert x
  decide +kernel

theorem byteOfBits_congr (f g : Nat → Bool) (h : ∀ t, t < 8 → f t = g t) :
    Spec.byteOfBits f = Spec.byteOfBits g := by
  simp only [Spec.byteOfBits, h 0 (by decide), h 1 (by decide), h 2 (by decide), h 3 (by decide),
    h 4 (by decide), h 5 (by decide), h 6 (by decide), h 7 (by decide)]

theorem bits_eq_byteOfBits (bits : Bytes) (h : ∀ x ∈ bits, x < 256) :
    bits = (List.range bits.length).map fun j => Spec.byteOfBits fun t => testBitB bits (8 * j + t) := by
  apply List.ext_getElem
  · simp
  · intro j h1 h2
    simp only [List.getElem_map, List.getElem_range]
    have hx := h bits[j] (List.getElem_mem h1)
    rw [byteOfBits_congr _ (fun t => (bits[j]).testBit t), byteOfBits_testBit _ hx]
    intro t ht
    rw [testBitB_eq]
    have e1 : (8 * j + t) / 8 = j := by omega
    have e2 : (8 * j + t) % 8 = t := by omega
    rw [e1, e2, List.getD_eq_getElem?_getD, List.getElem?_eq_getElem h1]
    rfl

theorem bloomFooter_range (est fpr32 : Nat) (cnt : Int) :
    inRange Gen.bloomFooter.fields [(est : Int), cnt, (fpr32 : Int)] = true ↔
      est < 2 ^ 64 ∧ 0 ≤ cnt ∧ cnt < 2 ^ 64 ∧ fpr32 < 2 ^ 32 := by
  simp only [Gen.bloomFooter, inRange, Bool.and_eq_true, decide_eq_true_eq, Bool.and_true, range_u64_nat,
    range_f32_nat]
  simp only [range_u64, and_assoc]

theorem expFooter_range (n est fpr32 : Nat) (added : Int) :
    inRange Gen.expFooter.fields [(n : Int), (est : Int), added, (fpr32 : Int)] = true ↔
      n < 2 ^ 64 ∧ est < 2 ^ 64 ∧ 0 ≤ added ∧ added < 2 ^ 64 ∧ fpr32 < 2 ^ 32 := by
  simp only [Gen.expFooter, inRange, Bool.and_eq_true, decide_eq_true_eq, Bool.and_true, range_u64_nat,
    range_f32_nat]
  simp only [range_u64, and_assoc]

theorem expanding_go_spec (blooms : List Bloom) (h : ∀ b ∈ blooms, 0 ≤ b.count ∧ b.count < 2 ^ 64) :
    Expanding.exportBytes.go blooms =
      .ok ((blooms.map fun b => (b.count.toNat, b.bits)).flatMap fun s => Spec.u64le s.1 ++ s.2) := by
  induction blooms with
  | nil => rfl
  | cons b bs ih =>
      have hb := h b (by simp)
      have ih := ih (fun x hx => h x (List.mem_cons_of_mem _ hx))
      simp only [Expanding.exportBytes.go, expCount_pack, ih]
      rw [if_neg (by omega)]
      simp only [List.map_cons, List.flatMap_cons, List.append_assoc]
      rw [leBytesInt8_nat hb.1 (by omega)]

theorem expanding_go_error (blooms : List Bloom) (h : ∃ b ∈ blooms, ¬ (0 ≤ b.count ∧ b.count < 2 ^ 64)) :
    Expanding.exportBytes.go blooms = .error .structError := by
  induction blooms with
  | nil => simp at h
  | cons b bs ih =>
      simp only [Expanding.exportBytes.go, expCount_pack]
      by_cases hb : 0 ≤ b.count ∧ b.count < 2 ^ 64
      · have : ∃ x ∈ bs, ¬ (0 ≤ x.count ∧ x.count < 2 ^ 64) := by
          obtain ⟨x, hx, hbad⟩ := h
          rcases List.mem_cons.mp hx with rfl | hx
          · exact absurd hb hbad
          · exact ⟨x, hx, hbad⟩
        rw [ih this, if_neg (by omega)]
      · rw [if_pos (by omega)]

end PyProb
