/-
  **Layer B1 for every table size**: `_add` of a new element on the canonical table of a canonical
  set `S` that keeps one more slot free produces exactly the canonical table of `insert x S`
  (`QF.add_layout`).

  First `_add` on a table in the linear view: `_get_start_index` of a quotient that is not occupied,
  the scan of `_add` through the run of an occupied quotient, and the three cases of `_add` put
  together; the new table is in the linear view of the sequence with the new element inserted
  (`QFLin.view_add`, on `QFRem.LinX`: the linear view with all that pins the table down).

  Then the canonical tables: both are in the linear view from the empty slot `e` of the LARGER set
  (`Spec.layout_pair`); `_add` inserts the new element at its index of the element sequence read
  from `e`; the result and the canonical table of the larger set are both in the linear view of the
  same sequence from the same slot, hence equal (`QFLin.lin_ext`).
-/
import PyProb.Lemmas.QFWriteAddDesc

namespace PyProb.QFLin
open PyProb PyProb.QF

section view
variable {s : QF} {n e m : Nat} {d r : Nat → Nat}

theorem cont_after (L : Lin s n e m d r) (i : Nat) (hi : i < m) (hnext : i + 1 < m → d (i + 1) ≠ d i) :
    bit s.cont (io n e (posF d i + 1)) = false := by
  rw [cont_behind L i hi, contF_succ, Bool.and_eq_false_iff, decide_eq_false_iff_not, decide_eq_false_iff_not]
  by_cases h : i + 1 < m
  · exact Or.inr (hnext h)
  · exact Or.inl h

/-- the homes from the home of a cluster start `a` to an unoccupied home `D` between the homes of
    the elements `i` and `i + 1`, counted as `_get_start_index` counts them (occupied ones and `D`
    itself), are the run starts among `a, …, i` and one more -/
theorem count_unocc (L : Lin s n e m d r) (a i D : Nat) (hai : a ≤ i) (hi : i < m)
    (hnca : contF d a = false) (hlo : d i < D) (hhi : ∀ k, i < k → k < m → D < d k)
    (hDn : D < n) :
    cntP (fun y => io n e y == io n e D || bit s.occ (io n e y)) (d a) (D - d a + 1) =
      cntP (fun k => !contF d k) a (i + 1 - a) + 1 := by
  have hda : d a ≤ d i := d_mono L a i hai hi
  -- the homes are `d a, …, d i = d a + p, …, D = d a + p + 1 + q`
  obtain ⟨p, hp⟩ : ∃ p, d i = d a + p := ⟨_, (Nat.add_sub_of_le hda).symm⟩
  obtain ⟨q, rfl⟩ : ∃ q, D = d a + (p + 1 + q) := ⟨D - d i - 1, by omega⟩
  have h1 : cntP (fun y => io n e y == io n e (d a + (p + 1 + q)) || bit s.occ (io n e y)) (d a)
      (p + 1 + q) = cntP (fun y => bit s.occ (io n e y)) (d a) (p + 1 + q) := by
    apply cntP_congr
    intro y hy1 hy2
    rw [beq_eq_false_iff_ne.2 (io_ne n e y _ (Nat.lt_trans hy2 hDn) hDn (Nat.ne_of_lt hy2)),
      Bool.false_or]
  have h2 := count_runs L a hnca (i - a) (by rw [Nat.add_sub_of_le hai]; exact hi)
  have e1 : i - a + 1 = i + 1 - a := (Nat.succ_sub hai).symm
  rw [Nat.add_sub_of_le hai, hp, Nat.add_sub_cancel_left, e1] at h2
  have h3 : cntP (fun y => bit s.occ (io n e y)) (d a + (p + 1)) q = 0 := by
    apply cntP_false
    intro y hy1 hy2
    rw [Nat.add_assoc] at hy2
    cases ho : bit s.occ (io n e y)
    · rfl
    · exfalso
      obtain ⟨k, hk, hdk⟩ := (L.occ y (Nat.lt_trans hy2 hDn)).1 ho
      by_cases hki : k ≤ i
      · have := d_mono L k i hki hi
        omega
      · have := hhi k (Nat.lt_of_not_le hki) hk
        omega
  rw [Nat.add_sub_cancel_left, cntP_succ_top, h1, cntP_add, h2, h3]
  simp

/-- `_get_start_index` of a quotient that is not occupied but whose slot is in use, `i` being the
    last element of a smaller quotient: the slot behind that element, that is, behind the runs of
    the smaller quotients of the cluster -/
theorem getStartIndex_unocc (L : Lin s n e m d r) (i D : Nat) (hi : i < m)
    (hlo : d i < D) (hhi : ∀ k, i < k → k < m → D < d k)
    (hcell : D ≤ posF d i) (hE : posF d i + 2 ≤ n) :
    s.getStartIndex (io n e D) = .ok (io n e (posF d i + 1)) := by
  obtain ⟨k0, hk0, hpk0⟩ := pos_between L D i hi (Nat.le_of_lt hlo) hcell
  have hne : s.isEmpty (io n e D) = false := by
    rw [← hpk0]
    exact isEmpty_cell L k0 (Nat.lt_of_le_of_lt hk0 hi)
  obtain ⟨a, ha, hpa, hk⟩ := cluster d i
  have hc := contig d a i hk
  have hda : d a ≤ d i := d_mono L a i ha hi
  have hslot : posF d a + (i + 1 - a) = posF d i + 1 := by
    rw [hc i ha (Nat.le_refl _), Nat.succ_sub ha]
    rfl
  have hend : bit s.cont (io n e (posF d a + (i + 1 - a))) = false := by
    rw [hslot]
    apply cont_after L i hi
    intro h
    exact Nat.ne_of_gt (Nat.lt_trans hlo (hhi (i + 1) (Nat.lt_succ_self i) h))
  have hfwd := startFwd_walk L a (i + 1) hi (fun k h1 h2 => hc k h1 (Nat.le_of_lt_succ h2)) hend
    (i + 1 - a) a s.fuelOf (Nat.add_sub_of_le (Nat.le_succ_of_le ha)).symm (Nat.le_refl _)
    (by simp only [fuelOf, L.size]; omega)
  rw [Nat.sub_self, Nat.add_zero, hslot] at hfwd
  simp only [getStartIndex, hne, Bool.false_eq_true, if_false]
  rw [startBack_cluster L a i D (io n e D) ha hi hpa hk
    (by rw [hpa]; exact Nat.le_of_lt (Nat.lt_of_le_of_lt hda hlo)) hcell]
  simp only []
  rw [hpa, count_unocc L a i D ha hi (contF_home d a hpa) hlo hhi
    (Nat.lt_of_le_of_lt hcell (Nat.lt_of_succ_lt hE)), ← hpa]
  exact hfwd

/-- the scan of `_add` through the run `f, …, g` stops at the first element whose remainder is not
    smaller than the new one (index `j`), or behind the run -/
theorem addScan_run (L : Lin s n e m d r) (f g j rr : Nat) (hg : g < m)
    {D : Nat} (hgrp : ∀ k, f ≤ k → k ≤ g → d k = D) (hlast : g + 1 < m → d (g + 1) ≠ D)
    (hjg : j ≤ g + 1) (hlt : ∀ i, f ≤ i → i < j → r i < rr) (hgt : j ≤ g → rr ≤ r j) :
    ∀ t i fuel, min j g = i + t → f ≤ i → t + 2 ≤ fuel →
      addScan s rr fuel (io n e (posF d i)) 0 =
        .ok (io n e (if j ≤ g then posF d j else posF d g + 1), if j ≤ g then 0 else 1) := by
  have hfit : posF d g + 1 < n := L.fit g hg
  intro t
  induction t with
  | zero =>
      intro i fuel hi hfi hfu
      obtain ⟨fuel, rfl⟩ : ∃ f', fuel = f' + 2 := ⟨fuel - 2, (Nat.sub_add_cancel hfu).symm⟩
      have hi' : min j g = i := hi
      by_cases hjg' : j ≤ g
      · rw [Nat.min_eq_left hjg'] at hi'
        subst hi'
        have hrem := L.rem j (Nat.lt_of_le_of_lt hjg' hg)
        have hnot : ¬ (rr > r j) := Nat.not_lt.2 (hgt hjg')
        simp only [addScan, hrem, hnot, decide_false, Bool.and_false, Bool.false_eq_true, if_false,
          if_pos hjg']
      · have hgj : g < j := Nat.lt_of_not_le hjg'
        rw [Nat.min_eq_right (Nat.le_of_lt hgj)] at hi'
        subst hi'
        have hrem := L.rem g hg
        have hce := isEmpty_cell L g hg
        have hgt' : rr > r g := hlt g hfi hgj
        have hcf : bit s.cont (io n e (posF d g + 1)) = false := by
          apply cont_after L g hg
          intro h
          rw [hgrp g hfi (Nat.le_refl _)]
          exact hlast h
        have hnext := nxt_io s n e (posF d g) L.size
        simp only [addScan, hrem, hce, hgt', hnext, hcf, if_neg hjg']
        simp
  | succ t ih =>
      intro i fuel hi hfi hfu
      obtain ⟨fuel, rfl⟩ : ∃ f', fuel = f' + 1 :=
        ⟨fuel - 1, (Nat.sub_add_cancel (Nat.le_trans (Nat.le_add_left 1 _) hfu)).symm⟩
      obtain ⟨hij, hig, hi1⟩ : i < j ∧ i < g ∧ min j g = i + 1 + t := by omega
      have him : i < m := Nat.lt_trans hig hg
      have hrem := L.rem i him
      have hce := isEmpty_cell L i him
      have hgt' : rr > r i := hlt i hfi hij
      have e1 := hgrp i hfi (Nat.le_of_lt hig)
      have e2 := hgrp (i + 1) (Nat.le_succ_of_le hfi) hig
      have hp1 : posF d (i + 1) = posF d i + 1 := by
        apply p_shifted
        have := p_ge_d d i
        have := p_step d i
        omega
      have hnext : s.nxt (io n e (posF d i)) = io n e (posF d (i + 1)) := by
        rw [nxt_io s n e (posF d i) L.size, hp1]
      have hcb : bit s.cont (io n e (posF d (i + 1))) = true := by
        rw [L.cont (i + 1) (Nat.lt_of_le_of_lt hig hg)]
        simp [e1, e2]
      simp only [addScan, hrem, hce, hgt', hnext, hcb]
      simp only [beq_self_eq_true, Bool.not_false, Bool.and_self, decide_true, if_true, Bool.not_true,
        Bool.false_eq_true, if_false]
      exact ih (i + 1) fuel hi1 (Nat.le_succ_of_le hfi) (Nat.le_of_succ_le_succ hfu)

/-- `_shift_insert` at the position that the new sequence assigns to the new element produces the
    table of the new sequence, provided the two continuation bits come out right -/
theorem view_shiftInsert (X : QFRem.LinX s n e m d r) (j D rr : Nat) (hj : j ≤ m)
    (hsorted : SeqSorted (m + 1) (insAt j D d) (insAt j rr r)) (hfit : SeqFits n (m + 1) (insAt j D d))
    (orig : Nat) (flag : Bool)
    (hnc : (io n e (posF (insAt j D d) j) != orig) = contF (insAt j D d) j)
    (hfl : j < m → flag = decide (d j = D)) :
    ∃ t, shiftInsert s (io n e D) rr orig (io n e (posF (insAt j D d) j)) flag = .ok t ∧
      QFRem.LinX t n e (m + 1) (insAt j D d) (insAt j rr r) ∧ SameShape s t := by
  have L := X.lin
  have hn : 0 < n := Nat.lt_of_lt_of_le (Nat.succ_pos 1) L.n2
  have hPfit : posF (insAt j D d) j + 1 < n := hfit j (Nat.lt_succ_of_le hj)
  have hDP := home_le_pos_ins j D d
  have hPle : j < m → posF (insAt j D d) j ≤ posF d j := by
    intro hjm
    have := ins_next hsorted hjm
    exact pos_ins_le j D d (by omega)
  obtain ⟨k, hblock, hgap⟩ := ins_block d m j (posF (insAt j D d) j) hPle
  generalize hP : posF (insAt j D d) j = P at *
  have hPk : P + k < n := block_end_lt hblock L.fit hPfit
  have hne : ∀ y, P ≤ y → y < P + k → s.isEmpty (io n e y) = false := by
    intro y h1 h2
    obtain ⟨u, rfl⟩ : ∃ u, y = P + u := ⟨y - P, (Nat.add_sub_of_le h1).symm⟩
    obtain ⟨h3, h4⟩ := hblock u (Nat.lt_of_add_lt_add_left h2)
    rw [← h4]
    exact isEmpty_cell L _ h3
  have hemp : s.isEmpty (io n e (P + k)) = true := by
    apply isEmpty_nocell L _ hPk
    intro i hi heq
    by_cases h1 : i < j
    · exact absurd heq (Nat.ne_of_lt (Nat.lt_of_lt_of_le (pos_ins_front hP i h1).2 (Nat.le_add_right P k)))
    · by_cases h2 : i < j + k
      · obtain ⟨u, rfl⟩ : ∃ u, i = j + u := ⟨i - j, (Nat.add_sub_of_le (Nat.not_lt.1 h1)).symm⟩
        have hu : u < k := Nat.lt_of_add_lt_add_left h2
        have h4 := (hblock u hu).2
        omega
      · exact absurd heq.symm (Nat.ne_of_lt (pos_ins_far hP hgap i (Nat.not_lt.1 h2) hi).1)
  obtain ⟨t, ht, hD⟩ := shiftInsert_desc s n e P k D rr orig flag hn L.size X.lrem
    X.locc X.lcont X.lshift hPk (Nat.lt_of_le_of_lt hDP (Nat.lt_of_succ_lt hPfit)) hne hemp
  rw [hnc] at hD
  have hS := shiftInsert_keeps _ _ _ _ _ _ _ ht
  subst hP
  exact ⟨t, ht, desc_lin X j D rr k flag hj hS hD hblock hgap hsorted hfit hfl, hS⟩

theorem set_false_self (l : List Bool) (i : Nat) (h : bit l i = false) : l.set i false = l := by
  apply List.ext_getElem (by simp)
  intro k h1 h2
  rw [List.getElem_set]
  split
  · rename_i hik
    subst hik
    simp only [bit, List.getD_eq_getElem?_getD, List.getElem?_eq_getElem h2, Option.getD_some] at h
    exact h.symm
  · rfl

/-- The fast path of `_add`, an empty home slot takes the element, is `_shift_insert` with
    `ins = orig = qq`: `place` then clears the continuation and the shifted bit of a slot where they
    are clear already. -/
theorem shiftInsert_home (s : QF) (qq rr : Nat) (hemp : s.isEmpty qq = true) :
    shiftInsert s qq rr qq qq false = .ok { s with rem := s.rem.set qq rr, occ := s.occ.set qq true } := by
  have hbits : bit s.cont qq = false ∧ bit s.shift qq = false := by
    simp only [isEmpty, Bool.and_eq_true, Bool.not_eq_true'] at hemp
    exact ⟨hemp.1.2, hemp.2⟩
  simp only [shiftInsert, hemp, if_true, place, bne_self_eq_false, set_false_self _ _ hbits.1,
    set_false_self _ _ hbits.2]

section add
variable {j D rr : Nat}
  (hsorted : SeqSorted (m + 1) (insAt j D d) (insAt j rr r))
include hsorted

theorem ins_lo (L : Lin s n e m d r) (hj : j ≤ m) (i : Nat) (hi : i < j) : d i ≤ D := by
  have h1 : 1 ≤ j := Nat.lt_of_le_of_lt (Nat.zero_le i) hi
  have := d_mono L i (j - 1) (Nat.le_sub_one_of_lt hi) (Nat.lt_of_lt_of_le (Nat.sub_lt h1 Nat.one_pos) hj)
  have := ins_prev hsorted h1 hj
  omega

theorem ins_hi (L : Lin s n e m d r) (i : Nat) (h1 : j ≤ i) (h2 : i < m) : D ≤ d i := by
  have := d_mono L j i h1 h2
  have := ins_next hsorted (Nat.lt_of_le_of_lt h1 h2)
  omega

/-- the quotient of the new element is not occupied: the new element is a run of its own, stored
    where `_get_start_index` points to -/
theorem view_add_new_run (X : QFRem.LinX s n e m d r) (hj : j ≤ m)
    (hfit : SeqFits n (m + 1) (insAt j D d))
    (hnohome : ∀ i, i < m → d i ≠ D) :
    ∃ t, shiftInsert s (io n e D) rr (io n e (posF (insAt j D d) j)) (io n e (posF (insAt j D d) j)) false
        = .ok t ∧
      QFRem.LinX t n e (m + 1) (insAt j D d) (insAt j rr r) ∧ SameShape s t := by
  refine view_shiftInsert X j D rr hj hsorted hfit _ false ?_ ?_
  · rw [bne_self_eq_false]
    exact (contF_ins_j_false j D d
      (fun h1 => hnohome (j - 1) (Nat.lt_of_lt_of_le (Nat.sub_lt h1 Nat.one_pos) hj))).symm
  · intro hjm
    exact (decide_eq_false (hnohome j hjm)).symm

/-- the index of the new element lies in the run `f, …, g` of its quotient or just behind it; the
    remainders of the run in front of it are smaller than the new one, the one at it is not -/
theorem ins_in_run (L : Lin s n e m d r) (hj : j ≤ m) (f g : Nat) (hfg : f ≤ g) (hgm : g < m)
    (hgrp : ∀ k, f ≤ k → k ≤ g → d k = D) (hfmin : ∀ k, k < f → d k ≠ D)
    (hgmax : ∀ k, g < k → k < m → d k ≠ D) :
    f ≤ j ∧ j ≤ g + 1 ∧ (∀ i, f ≤ i → i < j → r i < rr) ∧ (j ≤ g → rr ≤ r j) := by
  have hfm : f < m := Nat.lt_of_le_of_lt hfg hgm
  have hdf : d f = D := hgrp f (Nat.le_refl _) hfg
  have hdg : d g = D := hgrp g hfg (Nat.le_refl _)
  have hfj : f ≤ j := by
    apply Classical.byContradiction
    intro h
    have hjf : j < f := Nat.lt_of_not_le h
    have h1 := ins_hi hsorted L j (Nat.le_refl _) (Nat.lt_trans hjf hfm)
    have h2 := d_mono L j f (Nat.le_of_lt hjf) hfm
    exact hfmin j hjf (Nat.le_antisymm (hdf ▸ h2) h1)
  have hjg : j ≤ g + 1 := by
    apply Classical.byContradiction
    intro h
    have hgj : g + 1 < j := Nat.lt_of_not_le h
    have hg1 : g + 1 < m := Nat.lt_of_lt_of_le hgj hj
    have h1 := ins_lo hsorted L hj (g + 1) hgj
    have h2 := d_mono L g (g + 1) (Nat.le_succ g) hg1
    exact hgmax (g + 1) (Nat.lt_succ_self g) hg1 (Nat.le_antisymm h1 (hdg ▸ h2))
  have hlt : ∀ i, f ≤ i → i < j → r i < rr := by
    intro i h1 h2
    obtain ⟨a1, a2, a3, a4⟩ : 1 ≤ j ∧ f ≤ j - 1 ∧ j - 1 ≤ g ∧ i ≤ j - 1 := by omega
    have h4 := hgrp (j - 1) a2 a3
    have h5 : r i ≤ r (j - 1) := by
      rcases Nat.eq_or_lt_of_le a4 with h | h
      · rw [h]
        exact Nat.le_refl _
      · exact Nat.le_of_lt (r_lt_in_run L f g D hgm hgrp i (j - 1) h1 h a3)
    rcases ins_prev hsorted a1 hj with h | ⟨_, h⟩
    · exact absurd h4 (Nat.ne_of_lt h)
    · exact Nat.lt_of_le_of_lt h5 h
  have hgt : j ≤ g → rr ≤ r j := by
    intro h1
    rcases ins_next hsorted (Nat.lt_of_le_of_lt h1 hgm) with h | ⟨_, h⟩
    · exact absurd (hgrp j hfj h1).symm (Nat.ne_of_lt h)
    · exact Nat.le_of_lt h
  exact ⟨hfj, hjg, hlt, hgt⟩

/-- the quotient of the new element is occupied, by the run `f, …, g`: the scan of `_add` finds
    the place of the new element in the run -/
theorem view_add_occ (X : QFRem.LinX s n e m d r) (hj : j ≤ m)
    (hfit : SeqFits n (m + 1) (insAt j D d))
    (f g : Nat) (hfg : f ≤ g) (hgm : g < m) (hgrp : ∀ k, f ≤ k → k ≤ g → d k = D)
    (hfmin : ∀ k, k < f → d k ≠ D) (hgmax : ∀ k, g < k → k < m → d k ≠ D) :
    ∃ idx starts, addScan s rr s.fuelOf (io n e (posF d f)) 0 = .ok (idx, starts) ∧
      ∃ t, shiftInsert s (io n e D) rr (io n e (posF d f)) idx (starts != 1) = .ok t ∧
        QFRem.LinX t n e (m + 1) (insAt j D d) (insAt j rr r) ∧ SameShape s t := by
  have L := X.lin
  obtain ⟨hfj, hjg, hlt, hgt⟩ := ins_in_run hsorted L hj f g hfg hgm hgrp hfmin hgmax
  have hscan := addScan_run L f g j rr hgm hgrp (fun h1 => hgmax (g + 1) (Nat.lt_succ_self g) h1) hjg
    hlt hgt (min j g - f) f s.fuelOf (Nat.add_sub_of_le (Nat.le_min.2 ⟨hfj, hfg⟩)).symm (Nat.le_refl _)
    (by
      have := p_mono d 0 g (Nat.zero_le g)
      have := L.fit g hgm
      simp only [fuelOf, L.size]
      omega)
  -- the position of the new element
  have hP : posF (insAt j D d) j = if j ≤ g then posF d j else posF d g + 1 := by
    by_cases hjg' : j ≤ g
    · rw [if_pos hjg']
      exact pos_ins_home j D d (hgrp j hfj hjg')
    · obtain rfl : j = g + 1 := Nat.le_antisymm hjg (Nat.lt_of_not_le hjg')
      rw [if_neg hjg']
      exact pos_ins_behind g D d (hgrp g hfg (Nat.le_refl g) ▸ p_ge_d d g)
  rw [← hP] at hscan
  refine ⟨_, _, hscan, ?_⟩
  refine view_shiftInsert X j D rr hj hsorted hfit _ _ ?_ ?_
  · rcases ins_run_start hgrp hfmin hfg hfj hjg with ⟨e1, e2⟩ | ⟨e1, e2⟩
    · rw [e1, e2, bne_self_eq_false]
    · have hPn : posF (insAt j D d) j < n := Nat.lt_of_succ_lt (hfit j (Nat.lt_succ_of_le hj))
      rw [e2, bne_iff_ne.2 (io_ne n e _ _ hPn (Nat.lt_trans e1 hPn) (Nat.ne_of_gt e1))]
  · intro hjm
    by_cases hjg' : j ≤ g
    · rw [if_pos hjg', decide_eq_true (hgrp j hfj hjg')]
      rfl
    · rw [if_neg hjg', decide_eq_false (hgmax j (Nat.lt_of_not_le hjg') hjm)]
      rfl

end add

/-- **`_add` on the linear view**: the element with home distance `D` and remainder `rr` that
    belongs at index `j` of the element sequence is inserted there -/
theorem view_add (X : QFRem.LinX s n e m d r) (j D rr : Nat) (hj : j ≤ m)
    (hsorted : SeqSorted (m + 1) (insAt j D d) (insAt j rr r)) (hfit : SeqFits n (m + 1) (insAt j D d)) :
    ∃ t, addCore s (io n e D) rr = .ok t ∧
      QFRem.LinX t n e (m + 1) (insAt j D d) (insAt j rr r) ∧ SameShape s t := by
  have L := X.lin
  have hPfit := hfit j (Nat.lt_succ_of_le hj)
  have hDP := home_le_pos_ins j D d
  have hDn : D < n := Nat.lt_of_le_of_lt hDP (Nat.lt_of_succ_lt hPfit)
  simp only [addCore]
  cases hocc : bit s.occ (io n e D)
  · have hnohome : ∀ i, i < m → d i ≠ D := by
      intro i hi h
      have := (L.occ D hDn).2 ⟨i, hi, h⟩
      rw [hocc] at this
      cases this
    have hlo : ∀ i, i < j → d i < D := fun i hi =>
      Nat.lt_of_le_of_ne (ins_lo hsorted L hj i hi) (hnohome i (Nat.lt_of_lt_of_le hi hj))
    have hhi : ∀ i, j ≤ i → i < m → D < d i := fun i h1 h2 =>
      Nat.lt_of_le_of_ne (ins_hi hsorted L i h1 h2) (Ne.symm (hnohome i h2))
    obtain ⟨t, ht, hres⟩ := view_add_new_run hsorted X hj hfit hnohome
    cases hemp : s.isEmpty (io n e D)
    · ---- the home slot is in use by an element of a smaller quotient
      obtain ⟨k0, hk0m, hpk0⟩ : ∃ k0, k0 < m ∧ posF d k0 = D := by
        apply Classical.byContradiction
        intro h
        have := isEmpty_nocell L D hDn (fun i hi heq => h ⟨i, hi, heq⟩)
        rw [hemp] at this
        cases this
      have hk0j : k0 < j := by
        apply Classical.byContradiction
        intro h
        exact absurd (hpk0 ▸ p_ge_d d k0) (Nat.not_le.2 (hhi k0 (Nat.not_lt.1 h) hk0m))
      have hj1 : 1 ≤ j := Nat.lt_of_le_of_lt (Nat.zero_le k0) hk0j
      have hcell : D ≤ posF d (j - 1) :=
        hpk0 ▸ Nat.le_trans (Nat.le_add_right _ _) (p_mono d k0 (j - 1) (Nat.le_sub_one_of_lt hk0j))
      have hP : posF (insAt j D d) j = posF d (j - 1) + 1 := by
        rw [pos_ins_j, if_neg (Nat.ne_of_gt hj1)]
        omega
      have hj1' : j - 1 < j := Nat.sub_lt hj1 Nat.one_pos
      have hstart := getStartIndex_unocc L (j - 1) D (Nat.lt_of_lt_of_le hj1' hj) (hlo (j - 1) hj1')
        (fun k h1 h2 => hhi k (Nat.le_of_pred_lt h1) h2) hcell (by omega)
      rw [← hP] at hstart
      simp only [hstart, Bool.false_eq_true, if_false, Bool.not_false, if_true]
      exact ⟨t, ht, hres⟩
    · ---- the home slot is empty
      have hnocell : ∀ i, i < m → posF d i ≠ D := by
        intro i hi h
        have := isEmpty_cell L i hi
        rw [h, hemp] at this
        cases this
      have hP : posF (insAt j D d) j = D := by
        rw [pos_ins_j]
        by_cases h0 : j = 0
        · rw [if_pos h0]
        · rw [if_neg h0]
          have hj1 : j - 1 < j := Nat.sub_lt (Nat.pos_of_ne_zero h0) Nat.one_pos
          have hjm : j - 1 < m := Nat.lt_of_lt_of_le hj1 hj
          have : posF d (j - 1) < D := by
            apply Classical.byContradiction
            intro h
            obtain ⟨k, hk, hpk⟩ :=
              pos_between L D (j - 1) hjm (Nat.le_of_lt (hlo (j - 1) hj1)) (Nat.not_lt.1 h)
            exact hnocell k (Nat.lt_of_le_of_lt hk hjm) hpk
          omega
      rw [hP, shiftInsert_home s _ rr hemp] at ht
      rw [if_pos rfl]
      exact ⟨t, ht, hres⟩
  · have hemp : s.isEmpty (io n e D) = false := by simp [isEmpty, hocc]
    obtain ⟨i0, hi0, hdi0⟩ := (L.occ D hDn).1 hocc
    obtain ⟨f, g, hfg, hgm, hgrp, hfmin, hgmax⟩ := run_of_home L D i0 hi0 hdi0
    have hdf := hgrp f (Nat.le_refl _) hfg
    have hstart := getStartIndex_lin L f (Nat.lt_of_le_of_lt hfg hgm)
      (fun k hk => by rw [hdf]; exact hfmin k hk)
    rw [hdf] at hstart
    obtain ⟨idx, starts, h2, hres⟩ := view_add_occ hsorted X hj hfit f g hfg hgm hgrp hfmin hgmax
    simp only [hemp, Bool.false_eq_true, if_false, hstart, Bool.not_true, h2]
    exact hres

end view
end PyProb.QFLin

namespace PyProb.QFWriteAdd
open PyProb PyProb.Spec PyProb.QF PyProb.QFLin

/-- the same predicate as `C04.InRange` -/
def InRange (q : Nat) (x : Elem) : Prop := x.1 < 2 ^ q ∧ x.2 < 2 ^ (32 - q)

instance (q : Nat) (x : Elem) : Decidable (InRange q x) := by unfold InRange; infer_instance

end PyProb.QFWriteAdd

namespace PyProb.QF
open PyProb PyProb.Spec PyProb.QFLin PyProb.QFWriteAdd

/-- insertion on the canonical layout of any sorted set that leaves two slots empty: neither the
    bound on the remainders nor `3 ≤ q ≤ 31` is needed -/
theorem add_layout_sorted (q : Nat) (hq1 : 1 ≤ q) (auto : Bool) (S : List Spec.Elem) (x : Spec.Elem)
    (hS : Sorted S) (hqS : ∀ y ∈ S, y.1 < 2 ^ q) (hx : x.1 < 2 ^ q) (hroom : S.length + 1 < 2 ^ q)
    (hnew : x ∉ S) :
    QF.addQR (Spec.layout q auto S) x.1 x.2 = .ok (Spec.layout q auto (Spec.insert x S)) := by
  obtain ⟨e, j, d, r, he, hj, X, X'⟩ := layout_pair q hq1 auto S x hS hqS hx hroom hnew
  obtain ⟨t, ht, Xt, hS⟩ := view_add X j (off (2 ^ q) e x.1) x.2 hj X'.lin.seqSorted X'.lin.seqFits
  rw [io_off (2 ^ q) e x.1 he hx] at ht
  have hcap : ¬ ((layout q auto S).count ≥ ((layout q auto S).size : Int) - 1) := by
    rw [layout_count, layout_size]
    generalize 2 ^ q = n at *
    omega
  rw [addQR_eq, if_neg hcap, ht]
  simp only []
  congr 1
  apply lin_ext (linX_count Xt (t.count + 1)) X'
  · show t.q = _
    rw [hS.q]; rfl
  · show t.count + 1 = _
    rw [hS.count, layout_count, layout_count, show (insert x S).length = S.length + 1 from
      length_insertBy_of_not_mem x S hnew]
    omega
  · show t.auto = _
    rw [hS.auto]; rfl

/-- **insertion refines the canonical layout**, for every table size and every canonical set -/
theorem add_layout (q : Nat) (auto : Bool) (S : List Spec.Elem) (x : Spec.Elem)
    (hc : Spec.Canon q S) (hx : QFWriteAdd.InRange q x) (hroom : S.length + 1 < 2 ^ q) (hnew : x ∉ S) :
    QF.addQR (Spec.layout q auto S) x.1 x.2 = .ok (Spec.layout q auto (Spec.insert x S)) :=
  add_layout_sorted q (Nat.le_trans (by decide) hc.1) auto S x hc.2.2.1 (fun y hy => (hc.2.2.2.1 y hy).1)
    hx.1 hroom hnew

/-! ### tests (non-vacuity): the three cases of `_add` at `q = 3`, by instantiating the theorem -/

/-- (a) the home slot is empty -/
example : QF.addQR (Spec.layout 3 false [(0, 1), (0, 3), (7, 2)]) 4 9 =
    .ok (Spec.layout 3 false [(0, 1), (0, 3), (4, 9), (7, 2)]) :=
  add_layout 3 false [(0, 1), (0, 3), (7, 2)] (4, 9) (by decide) (by decide) (by decide) (by decide)

/-- (b) the home slot is in use but the quotient is not occupied (and the cluster wraps around) -/
example : QF.addQR (Spec.layout 3 true [(0, 5), (7, 1), (7, 2)]) 0 2 =
    .ok (Spec.layout 3 true [(0, 2), (0, 5), (7, 1), (7, 2)]) ∧
    QF.addQR (Spec.layout 3 true [(6, 1), (6, 2), (6, 3)]) 7 0 =
    .ok (Spec.layout 3 true [(6, 1), (6, 2), (6, 3), (7, 0)]) :=
  ⟨add_layout 3 true [(0, 5), (7, 1), (7, 2)] (0, 2) (by decide) (by decide) (by decide) (by decide),
   add_layout 3 true [(6, 1), (6, 2), (6, 3)] (7, 0) (by decide) (by decide) (by decide) (by decide)⟩

/-- (c) the quotient is occupied: at the head, in the middle and at the end of its run -/
example : QF.addQR (Spec.layout 3 false [(6, 2), (6, 4), (7, 0)]) 6 1 =
    .ok (Spec.layout 3 false [(6, 1), (6, 2), (6, 4), (7, 0)]) ∧
    QF.addQR (Spec.layout 3 false [(6, 2), (6, 4), (7, 0)]) 6 3 =
    .ok (Spec.layout 3 false [(6, 2), (6, 3), (6, 4), (7, 0)]) ∧
    QF.addQR (Spec.layout 3 false [(6, 2), (6, 4), (7, 0)]) 6 5 =
    .ok (Spec.layout 3 false [(6, 2), (6, 4), (6, 5), (7, 0)]) :=
  ⟨add_layout 3 false [(6, 2), (6, 4), (7, 0)] (6, 1) (by decide) (by decide) (by decide) (by decide),
   add_layout 3 false [(6, 2), (6, 4), (7, 0)] (6, 3) (by decide) (by decide) (by decide) (by decide),
   add_layout 3 false [(6, 2), (6, 4), (7, 0)] (6, 5) (by decide) (by decide) (by decide) (by decide)⟩

end PyProb.QF
