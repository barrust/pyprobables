/-
  A history is a list of calls folded over a state.  The facts about `List.foldl` through which
  every family states what holds "after every run"; `strict_run_eq` is the induction for runs whose
  steps can fail.  Core Lean only.
-/

namespace PyProb

theorem exists_concat {α} (l : List α) (h : l ≠ []) : ∃ init z, l = init ++ [z] := by
  rcases List.eq_nil_or_concat l with h' | ⟨init, z, h'⟩
  · exact absurd h' h
  · exact ⟨init, z, by simpa using h'⟩

theorem prefix_induction_all {α} (P : List α → Prop) (ops : List α) (h0 : P [])
    (hs : ∀ i (hi : i < ops.length), P (ops.take i) → P (ops.take i ++ [ops[i]])) :
    ∀ i, i ≤ ops.length → P (ops.take i) := by
  intro i
  induction i with
  | zero => exact fun _ => h0
  | succ i ih =>
    intro hi
    rw [List.take_succ_eq_append_getElem hi]
    exact hs i hi (ih (Nat.le_of_lt hi))

theorem snoc_induction {α : Type _} {motive : List α → Prop} (nil : motive [])
    (snoc : ∀ l a, motive l → motive (l ++ [a])) (l : List α) : motive l := by
  have := prefix_induction_all motive l nil (fun i _ h => snoc _ _ h) l.length (Nat.le_refl _)
  rwa [List.take_length] at this

theorem foldl_invariant {σ ω : Type} (step : σ → ω → σ) (P : σ → Prop) (ops : List ω) (s : σ)
    (h0 : P s) (hstep : ∀ s, P s → ∀ op ∈ ops, P (step s op)) : P (ops.foldl step s) := by
  induction ops generalizing s with
  | nil => exact h0
  | cons op ops ih =>
      exact ih (step s op) (hstep s h0 op List.mem_cons_self)
        (fun s' hs' o ho => hstep s' hs' o (List.mem_cons_of_mem _ ho))

/-- Two folds over the same list stay related, by a relation that may mention the number of steps made. -/
theorem foldl_invariant₂_length {σ τ ω : Type} (f : σ → ω → σ) (g : τ → ω → τ) (R : Nat → σ → τ → Prop)
    (ops : List ω) (s : σ) (t : τ) (h0 : R 0 s t)
    (hstep : ∀ n s t, n < ops.length → R n s t → ∀ op ∈ ops, R (n + 1) (f s op) (g t op)) :
    R ops.length (ops.foldl f s) (ops.foldl g t) := by
  induction ops generalizing R s t with
  | nil => exact h0
  | cons op ops ih =>
      exact ih (fun n => R (n + 1)) (f s op) (g t op) (hstep 0 s t (Nat.zero_lt_succ _) h0 op List.mem_cons_self)
        (fun n s' t' hn h o ho => hstep (n + 1) s' t' (Nat.succ_lt_succ hn) h o (List.mem_cons_of_mem _ ho))

theorem foldl_invariant₂ {σ τ ω : Type} (f : σ → ω → σ) (g : τ → ω → τ) (R : σ → τ → Prop) (ops : List ω)
    (s : σ) (t : τ) (h0 : R s t) (hstep : ∀ s t, R s t → ∀ op ∈ ops, R (f s op) (g t op)) :
    R (ops.foldl f s) (ops.foldl g t) :=
  foldl_invariant₂_length f g (fun _ => R) ops s t h0 fun _ s t _ => hstep s t

theorem foldl_count {σ ω : Type} (step : σ → ω → σ) (cnt : σ → Int) (p : ω → Bool)
    (hstep : ∀ s op, cnt (step s op) = cnt s + if p op then 1 else 0) (ops : List ω) (s : σ) :
    cnt (ops.foldl step s) = cnt s + ops.countP p := by
  induction ops generalizing s with
  | nil => exact (Int.add_zero _).symm
  | cons op ops ih =>
    rw [List.foldl_cons, ih, hstep, List.countP_cons, Int.natCast_add, Int.add_assoc,
      Int.add_comm (ops.countP p : Int)]
    cases p op <;> rfl

/-- A fold of real calls is a fold of calls annotated with their answers (`erase` forgets the answer);
    `R` is any relation between the two histories that is built call by call. -/
theorem foldl_simulation {σ α ω : Type} (stepA : σ → α → σ) (step : σ → ω → σ) (erase : ω → α)
    (P : σ → Prop) (A : α → Prop) (O : ω → Prop) (R : σ → List α → List ω → Prop)
    (hnil : ∀ s, R s [] []) (hstep : ∀ s, P s → ∀ op, O op → P (step s op))
    (hsim : ∀ s, P s → ∀ a, A a → ∃ op, erase op = a ∧ O op ∧ stepA s a = step s op ∧
      ∀ aops ops, R (step s op) aops ops → R s (a :: aops) (op :: ops))
    (aops : List α) : ∀ s, P s → (∀ a ∈ aops, A a) →
      ∃ ops, ops.map erase = aops ∧ (∀ op ∈ ops, O op) ∧ aops.foldl stepA s = ops.foldl step s ∧
        R s aops ops := by
  induction aops with
  | nil => exact fun s _ _ => ⟨[], rfl, fun _ h => absurd h List.not_mem_nil, rfl, hnil s⟩
  | cons a aops ih =>
      intro s hP hA
      obtain ⟨op, he, hO, hst, hR⟩ := hsim s hP a (hA a List.mem_cons_self)
      obtain ⟨ops, h1, h2, h3, h4⟩ :=
        ih (step s op) (hstep s hP op hO) (fun b hb => hA b (List.mem_cons_of_mem _ hb))
      refine ⟨op :: ops, by rw [List.map_cons, he, h1], List.forall_mem_cons.mpr ⟨hO, h2⟩, ?_, hR aops ops h4⟩
      rw [List.foldl_cons, List.foldl_cons, hst]
      exact h3

theorem foldl_invariant_count {σ ω : Type} (step : σ → ω → σ) (Φ : σ → Nat → Prop) (p : ω → Bool)
    (ops : List ω) (hstep : ∀ s n, Φ s n → ∀ op ∈ ops, Φ (step s op) (n + if p op then 1 else 0))
    (s : σ) (n : Nat) (h0 : Φ s n) : Φ (ops.foldl step s) (n + ops.countP p) := by
  induction ops generalizing s n with
  | nil => exact h0
  | cons op ops ih =>
      rw [List.foldl_cons, List.countP_cons, Nat.add_comm (ops.countP p), ← Nat.add_assoc]
      exact ih (fun s' n' h' o ho => hstep s' n' h' o (List.mem_cons_of_mem _ ho)) (step s op) _
        (hstep s n h0 op List.mem_cons_self)

theorem foldl_map_comm {α β ω ω' : Type} (f : α → β) (g : ω → ω') (s : α → ω → α) (s' : β → ω' → β)
    (h : ∀ a o, s' (f a) (g o) = f (s a o)) (ops : List ω) (a : α) :
    (ops.map g).foldl s' (f a) = f (ops.foldl s a) := by
  induction ops generalizing a with
  | nil => rfl
  | cons o ops ih => rw [List.map_cons, List.foldl_cons, List.foldl_cons, h, ih]

/-- Histories with steps that can fail.  `run` is the strict run of `step` (all that is
    needed of it: it stops at the end and continues after a successful step); `core op` is the
    total operation behind a strict step, `none` for a reload, and `t` executes it.  If from every
    state satisfying `I` (indexed by the operations still to come) a step succeeds, does what `t`
    does on its core or nothing at all, and re-establishes `I`, then the strict run succeeds and
    is the total run of the history with the reloads erased. -/
theorem strict_run_eq {σ ω κ ε : Type} (step : σ → ω → Except ε σ) (run : σ → List ω → Except ε σ)
    (core : ω → Option κ) (t : σ → κ → σ) (I : σ → List ω → Prop)
    (run_nil : ∀ s, run s [] = .ok s)
    (run_cons : ∀ s s' op ops, step s op = .ok s' → run s (op :: ops) = run s' ops)
    (hstep : ∀ s op ops, I s (op :: ops) →
      step s op = .ok ((core op).elim s (t s)) ∧ I ((core op).elim s (t s)) ops)
    (s : σ) (ops : List ω) (h : I s ops) :
    run s ops = .ok ((ops.filterMap core).foldl t s) ∧ I ((ops.filterMap core).foldl t s) [] := by
  induction ops generalizing s with
  | nil => exact ⟨run_nil s, h⟩
  | cons op ops ih =>
      obtain ⟨hs, hi⟩ := hstep s op ops h
      rw [run_cons s _ op ops hs, List.filterMap_cons]
      cases hc : core op with
      | none => rw [hc] at hi; exact ih _ hi
      | some c => rw [hc] at hi; exact ih _ hi

end PyProb
