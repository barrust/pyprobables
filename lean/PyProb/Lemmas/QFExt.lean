/-
  Extensional tools for the linear view `QFLin.Lin`, shared by the write-path proofs.
  `QFRem.LinX` is `Lin` together with what it leaves open (array lengths; remainders are zero
  outside the cells), so that it determines the four arrays (`lin_ext`).  `rebase` changes the empty
  slot: a table in the view from slot `e` is also in the view from any other slot `io n e c` that
  stays empty, the element sequence being cut at `c` and its two parts exchanged (`Cut`).  Hence the
  canonical layout is in the view from ANY slot nothing hashes to and in front of which the
  placement fits (`Spec.layout_lin_at`), not only from `Spec.emptySlot`, and the canonical tables
  of a set and of the set with one more element are both in the view from the empty slot of the
  larger (`Spec.layout_pair`), where both write paths start.

  `LinX` (like `del` in `QFSeq.lean`) is in the namespace `QFRem` although insertion uses it too:
  the statements of the removal chain (`QFRem.Ctx`) are written with these names.
-/
import PyProb.Lemmas.QFLin
import PyProb.Lemmas.QFLinHashes
import PyProb.Lemmas.QFReadLayout
import PyProb.Lemmas.QFSeq

namespace PyProb.QFRem
open PyProb PyProb.QF PyProb.QFLin PyProb.Spec

structure LinX (s : QF) (n e m : Nat) (d r : Nat → Nat) : Prop where
  lin : Lin s n e m d r
  lrem : s.rem.length = n
  locc : s.occ.length = n
  lcont : s.cont.length = n
  lshift : s.shift.length = n
  rem0 : ∀ x, x < n → (∀ i, i < m → posF d i ≠ x) → s.remAt (io n e x) = 0

end PyProb.QFRem

namespace PyProb.QFLin
open PyProb PyProb.QF PyProb.QFRem

section ext
variable {s s' : QF} {n e m : Nat} {d r d' r' : Nat → Nat}

theorem lin_congr (L : Lin s n e m d r) (hd : ∀ i, i < m → d i = d' i) (hr : ∀ i, i < m → r i = r' i) :
    Lin s n e m d' r' := by
  have hp : ∀ i, i < m → posF d i = posF d' i := fun i hi => posF_congr d d' i (fun k hk => hd k (by omega))
  refine ⟨L.n2, L.size, L.he, ?_, ?_, ?_, ?_, ?_, ?_, ?_⟩
  · intro i hi
    rw [← hd i (by omega), ← hd (i + 1) hi, ← hr i (by omega), ← hr (i + 1) hi]
    exact L.sorted i hi
  · intro i hi; rw [← hp i hi]; exact L.fit i hi
  · intro i hi
    rw [← hp i hi, L.cont i hi, hd i hi]
    by_cases h0 : i = 0
    · simp [h0]
    · rw [hd (i - 1) (by omega)]
  · intro i hi; rw [← hp i hi, ← hd i hi]; exact L.shift i hi
  · intro i hi; rw [← hp i hi, ← hr i hi]; exact L.rem i hi
  · intro x hx h
    exact L.nocell x hx (fun i hi => by rw [hp i hi]; exact h i hi)
  · intro x hx
    rw [L.occ x hx]
    constructor
    · rintro ⟨i, hi, h⟩; exact ⟨i, hi, by rw [← hd i hi]; exact h⟩
    · rintro ⟨i, hi, h⟩; exact ⟨i, hi, by rw [hd i hi]; exact h⟩

theorem linX_congr (X : LinX s n e m d r) (hd : ∀ i, i < m → d i = d' i) (hr : ∀ i, i < m → r i = r' i) :
    LinX s n e m d' r' := by
  refine ⟨lin_congr X.lin hd hr, X.lrem, X.locc, X.lcont, X.lshift, fun x hx h => X.rem0 x hx fun i hi => ?_⟩
  rw [posF_congr d d' i (fun k hk => hd k (by omega))]
  exact h i hi

theorem linX_count (X : LinX s n e m d r) (c : Int) : LinX { s with count := c } n e m d r :=
  ⟨⟨X.lin.n2, X.lin.size, X.lin.he, X.lin.sorted, X.lin.fit, X.lin.cont, X.lin.shift, X.lin.rem, X.lin.nocell,
    X.lin.occ⟩, X.lrem, X.locc, X.lcont, X.lshift, X.rem0⟩

theorem lin_ext (X : LinX s n e m d r) (X' : LinX s' n e m d r) (hq : s.q = s'.q) (hc : s.count = s'.count)
    (ha : s.auto = s'.auto) : s = s' := by
  have L := X.lin
  have L' := X'.lin
  apply qf_ext_io s s' n e L.he hq ha hc X.lrem X.locc X.lcont X.lshift X'.lrem X'.locc X'.lcont X'.lshift
  intro y hy
  have hocc : bit s.occ (io n e y) = bit s'.occ (io n e y) :=
    Bool.eq_iff_iff.2 ((L.occ y hy).trans (L'.occ y hy).symm)
  by_cases hcell : ∃ i, i < m ∧ posF d i = y
  · obtain ⟨i, hi, rfl⟩ := hcell
    exact ⟨by rw [L.rem i hi, L'.rem i hi], hocc, by rw [L.cont i hi, L'.cont i hi],
      by rw [L.shift i hi, L'.shift i hi]⟩
  · have hno : ∀ i, i < m → posF d i ≠ y := fun i hi h => hcell ⟨i, hi, h⟩
    have h1 := L.nocell y hy hno
    have h2 := L'.nocell y hy hno
    exact ⟨by rw [X.rem0 y hy hno, X'.rem0 y hy hno], hocc, by rw [h1.1, h2.1], by rw [h1.2, h2.2]⟩

end ext

/-! ### a shifted copy of a sequence

  When the block of `d'` that starts at index `j` is the beginning of `d` shifted by `t`, and it
  starts where `d'` was free, then positions and continuation flags of the block are those of `d`. -/

theorem posF_seg (d d' : Nat → Nat) (j t i : Nat) (hstart : j = 0 ∨ posF d' (j - 1) < d 0 + t)
    (hd : ∀ k, k ≤ i → d' (j + k) = d k + t) : posF d' (j + i) = posF d i + t := by
  induction i with
  | zero =>
      have h0 := hd 0 (Nat.le_refl 0)
      cases j with
      | zero => exact h0
      | succ j =>
          rw [Nat.add_zero] at h0 ⊢
          rw [show posF d' (j + 1) = max (posF d' j + 1) (d' (j + 1)) from rfl, h0]
          exact Nat.max_eq_right (hstart.resolve_left (Nat.succ_ne_zero j))
  | succ i ih =>
      have h1 := hd (i + 1) (Nat.le_refl _)
      have h2 := ih (fun k hk => hd k (Nat.le_succ_of_le hk))
      rw [← Nat.add_assoc] at h1 ⊢
      rw [posF, posF, h1, h2, Nat.add_right_comm, Nat.add_max_add_right]

theorem contF_seg (d d' : Nat → Nat) (j t i : Nat) (hstart : j = 0 ∨ posF d' (j - 1) < d 0 + t)
    (hd : ∀ k, k ≤ i → d' (j + k) = d k + t) : contF d' (j + i) = contF d i := by
  cases i with
  | zero =>
      rw [contF_zero]
      cases j with
      | zero => exact contF_zero d'
      | succ j =>
          have h0 := hd 0 (Nat.le_refl _)
          have := p_ge_d d' j
          rw [Nat.add_zero] at h0 ⊢
          rw [contF_succ]
          simp only [Nat.add_sub_cancel] at hstart
          exact decide_eq_false (by omega)
  | succ i =>
      have h1 := hd i (Nat.le_succ i)
      have h2 := hd (i + 1) (Nat.le_refl _)
      rw [← Nat.add_assoc] at h2 ⊢
      rw [contF_succ, contF_succ, h1, h2, decide_eq_decide]
      exact Nat.add_right_cancel_iff

/-- without the condition on the start, the block is placed at least as far out -/
theorem posF_seg_le (d d' : Nat → Nat) (j t i : Nat) (hd : ∀ k, k ≤ i → d k + t ≤ d' (j + k)) :
    posF d i + t ≤ posF d' (j + i) := by
  induction i with
  | zero =>
      have h0 := hd 0 (Nat.le_refl 0)
      have := p_ge_d d' (j + 0)
      simp only [posF]
      omega
  | succ i ih =>
      have h1 := hd (i + 1) (Nat.le_refl _)
      have h2 := ih (fun k hk => hd k (Nat.le_succ_of_le hk))
      rw [← Nat.add_assoc] at h1 ⊢
      simp only [posF]
      omega

/-- The sequence `d`, `r` (read from behind slot `e`) cut at distance `c`, and `d'`, `r'` the same
    elements read from behind slot `io n e c`: the `m - a` elements whose home is behind `c` come
    first, `c + 1` nearer; the `a` elements whose home is in front of `c` follow, `n - 1 - c`
    further out.  Both sequences fit. -/
structure Cut (n m a c : Nat) (d r d' r' : Nat → Nat) : Prop where
  am : a ≤ m
  cn : c < n
  front : ∀ u, u < a → d u < c ∧ d' (m - a + u) = d u + (n - 1 - c) ∧ r' (m - a + u) = r u
  back : ∀ i, i < m - a → c < d (a + i) ∧ d (a + i) = d' i + (c + 1) ∧ r' i = r (a + i)
  fit : ∀ i, i < m → posF d i + 2 ≤ n
  fit' : ∀ i, i < m → posF d' i + 2 ≤ n

section rebase
variable {s : QF} {n e m a c : Nat} {d r d' r' : Nat → Nat}

/-- the front part is placed in front of `c`: otherwise it would not fit behind the back part -/
theorem Cut.pos_lt (C : Cut n m a c d r d' r') (u : Nat) (hu : u < a) : posF d u < c := by
  have h1 := posF_seg_le d d' (m - a) (n - 1 - c) u
    (fun k hk => Nat.le_of_eq (C.front k (by omega)).2.1.symm)
  have h2 := C.fit' (m - a + u) (by have := C.am; omega)
  have := C.cn
  omega

theorem Cut.start_back (C : Cut n m a c d r d' r') (h : 0 < m - a) :
    a = 0 ∨ posF d (a - 1) < d' 0 + (c + 1) := by
  rcases Nat.eq_zero_or_pos a with h0 | h0
  · exact Or.inl h0
  · have h1 := C.pos_lt (a - 1) (by omega)
    have h2 := C.back 0 h
    exact Or.inr (by omega)

theorem Cut.pos_back (C : Cut n m a c d r d' r') (i : Nat) (hi : i < m - a) :
    posF d (a + i) = posF d' i + (c + 1) :=
  posF_seg d' d a (c + 1) i (C.start_back (by omega)) (fun k hk => (C.back k (by omega)).2.1)

theorem Cut.contF_back (C : Cut n m a c d r d' r') (i : Nat) (hi : i < m - a) :
    contF d (a + i) = contF d' i :=
  contF_seg d' d a (c + 1) i (C.start_back (by omega)) (fun k hk => (C.back k (by omega)).2.1)

theorem Cut.start_front (C : Cut n m a c d r d' r') :
    m - a = 0 ∨ posF d' (m - a - 1) < d 0 + (n - 1 - c) := by
  rcases Nat.eq_zero_or_pos (m - a) with h0 | h0
  · exact Or.inl h0
  · have h1 := C.pos_back (m - a - 1) (by omega)
    have h2 := C.fit (a + (m - a - 1)) (by omega)
    have := C.cn
    exact Or.inr (by omega)

theorem Cut.pos_front (C : Cut n m a c d r d' r') (u : Nat) (hu : u < a) :
    posF d' (m - a + u) = posF d u + (n - 1 - c) :=
  posF_seg d d' (m - a) (n - 1 - c) u C.start_front (fun k hk => (C.front k (by omega)).2.1)

theorem Cut.contF_front (C : Cut n m a c d r d' r') (u : Nat) (hu : u < a) :
    contF d' (m - a + u) = contF d u :=
  contF_seg d d' (m - a) (n - 1 - c) u C.start_front (fun k hk => (C.front k (by omega)).2.1)

/-- Element `k` of the old sequence is element `i` of the new one: position and home are the same
    slots in both views, remainder and flags are the same. -/
structure Same (n e c : Nat) (d r d' r' : Nat → Nat) (k i : Nat) : Prop where
  slot : io n (io n e c) (posF d' i) = io n e (posF d k)
  home : io n (io n e c) (d' i) = io n e (d k)
  rem : r' i = r k
  cont : contF d' i = contF d k
  shift : decide (posF d' i ≠ d' i) = decide (posF d k ≠ d k)

theorem Cut.same_back (C : Cut n m a c d r d' r') (e i : Nat) (hi : i < m - a) :
    Same n e c d r d' r' (a + i) i := by
  have b := (C.back i hi).2
  refine ⟨?_, ?_, b.2, (C.contF_back i hi).symm, ?_⟩
  · rw [C.pos_back i hi, io_cut_back]
  · rw [b.1, io_cut_back]
  · rw [C.pos_back i hi, b.1]
    simp only [ne_eq, Nat.add_right_cancel_iff]

theorem Cut.same_front (C : Cut n m a c d r d' r') (e u : Nat) (hu : u < a) :
    Same n e c d r d' r' u (m - a + u) := by
  have f := (C.front u hu).2
  refine ⟨?_, ?_, f.2, C.contF_front u hu, ?_⟩
  · rw [C.pos_front u hu, io_cut_front n e c _ C.cn]
  · rw [f.1, io_cut_front n e c _ C.cn]
  · rw [C.pos_front u hu, f.1]
    simp only [ne_eq, Nat.add_right_cancel_iff]

theorem Cut.new_old (C : Cut n m a c d r d' r') (e : Nat) {i : Nat} (hi : i < m) :
    ∃ k, k < m ∧ Same n e c d r d' r' k i := by
  have := C.am
  rcases Nat.lt_or_ge i (m - a) with h | h
  · exact ⟨a + i, Nat.add_lt_of_lt_sub' h, C.same_back e i h⟩
  · obtain ⟨u, rfl⟩ : ∃ u, i = m - a + u := ⟨i - (m - a), by omega⟩
    exact ⟨u, by omega, C.same_front e u (by omega)⟩

theorem Cut.old_new (C : Cut n m a c d r d' r') (e : Nat) {k : Nat} (hk : k < m) :
    ∃ i, i < m ∧ Same n e c d r d' r' k i := by
  have := C.am
  rcases Nat.lt_or_ge k a with h | h
  · exact ⟨m - a + k, by omega, C.same_front e k h⟩
  · obtain ⟨i, rfl⟩ : ∃ i, k = a + i := ⟨k - a, by omega⟩
    exact ⟨i, by omega, C.same_back e i (by omega)⟩

theorem Cut.nocell (C : Cut n m a c d r d' r') (e : Nat) (he : e < n) (y : Nat) (hy : y < n)
    (hno : ∀ i, i < m → posF d' i ≠ y) :
    ∃ x, x < n ∧ io n e x = io n (io n e c) y ∧ ∀ k, k < m → posF d k ≠ x := by
  obtain ⟨x, hx, hxy⟩ := io_surj n e _ he (io_lt n (io n e c) y (by omega))
  refine ⟨x, hx, hxy, ?_⟩
  intro k hk hkx
  obtain ⟨i, hi, h⟩ := C.old_new e hk
  have hf := C.fit' i hi
  refine hno i hi (io_inj n (io n e c) _ _ (by omega) hy ?_)
  rw [h.slot, hkx, hxy]

theorem rebase (L : Lin s n e m d r) (C : Cut n m a c d r d' r') :
    Lin s n (io n e c) m d' r' := by
  have hn : 0 < n := by have := L.n2; omega
  have ham := C.am
  have hdn : ∀ k, k < m → d k < n := fun k hk =>
    Nat.lt_of_le_of_lt (p_ge_d d k) (Nat.lt_of_succ_lt (C.fit k hk))
  have hdn' : ∀ i, i < m → d' i < n := fun i hi =>
    Nat.lt_of_le_of_lt (p_ge_d d' i) (Nat.lt_of_succ_lt (C.fit' i hi))
  refine ⟨L.n2, L.size, io_lt n e c hn, ?_, C.fit', ?_, ?_, ?_, ?_, ?_⟩
  · -- sorted: inside either part as before; the last of the back part is in front of `n - 1 - c`
    intro i hi
    rcases Nat.lt_trichotomy (i + 1) (m - a) with h | h | h
    · have b1 := C.back i (Nat.lt_of_succ_lt h)
      have b2 := C.back (i + 1) h
      have hs := L.sorted (a + i) (by omega)
      rw [← Nat.add_assoc] at b2
      rw [b1.2.1, b2.2.1, ← b1.2.2, ← b2.2.2] at hs
      simpa only [Nat.add_lt_add_iff_right, Nat.add_right_cancel_iff] using hs
    · have hi' : i < m - a := h ▸ Nat.lt_succ_self i
      have b1 := C.back i hi'
      have f0 := C.front 0 (by omega)
      have := hdn (a + i) (Nat.add_lt_of_lt_sub' hi')
      have := C.cn
      rw [Nat.add_zero, ← h] at f0
      exact Or.inl (by omega)
    · obtain ⟨u, rfl⟩ : ∃ u, i = m - a + u := ⟨i - (m - a), by omega⟩
      have f1 := C.front u (by omega)
      have f2 := C.front (u + 1) (by omega)
      have hs := L.sorted u (by omega)
      rw [← Nat.add_assoc] at f2
      rw [f1.2.1, f2.2.1, f1.2.2, f2.2.2]
      simpa only [Nat.add_lt_add_iff_right, Nat.add_right_cancel_iff] using hs
  · -- continuation bits
    intro i hi
    obtain ⟨k, hk, h⟩ := C.new_old e hi
    rw [h.slot, L.cont k hk]
    exact h.cont.symm
  · -- shifted bits
    intro i hi
    obtain ⟨k, hk, h⟩ := C.new_old e hi
    rw [h.slot, L.shift k hk, h.shift]
  · -- remainders
    intro i hi
    obtain ⟨k, hk, h⟩ := C.new_old e hi
    rw [h.slot, L.rem k hk, h.rem]
  · -- slots without an element
    intro y hy hno
    obtain ⟨x, hx, hxy, hnox⟩ := C.nocell e L.he y hy hno
    rw [← hxy]
    exact L.nocell x hx hnox
  · -- occupied bits: the home slots are the same
    intro y hy
    obtain ⟨x, hx, hxy⟩ := io_surj n e _ L.he (io_lt n (io n e c) y hn)
    rw [← hxy, L.occ x hx]
    constructor
    · rintro ⟨k, hk, rfl⟩
      obtain ⟨i, hi, h⟩ := C.old_new e hk
      exact ⟨i, hi, io_inj n (io n e c) _ _ (hdn' i hi) hy (h.home.trans hxy)⟩
    · rintro ⟨i, hi, rfl⟩
      obtain ⟨k, hk, h⟩ := C.new_old e hi
      exact ⟨k, hk, io_inj n e _ _ (hdn k hk) hx (h.home.symm.trans hxy.symm)⟩

theorem rebaseX (X : LinX s n e m d r) (C : Cut n m a c d r d' r') : LinX s n (io n e c) m d' r' := by
  refine ⟨rebase X.lin C, X.lrem, X.locc, X.lcont, X.lshift, ?_⟩
  intro y hy hno
  obtain ⟨x, hx, hxy, hnox⟩ := C.nocell e X.lin.he y hy hno
  rw [← hxy]
  exact X.rem0 x hx hnox

end rebase

end PyProb.QFLin

namespace PyProb.Spec
open PyProb PyProb.QF PyProb.QFLin PyProb.QFRem

theorem layout_linX (q : Nat) (hq1 : 1 ≤ q) (auto : Bool) (S : List Elem) (hS : Sorted S)
    (hq : ∀ x ∈ S, x.1 < 2 ^ q) (hlen : S.length < 2 ^ q) :
    LinX (layout q auto S) (2 ^ q) (emptySlot (2 ^ q) S) S.length
      (dOf (2 ^ q) (emptySlot (2 ^ q) S) (rot (emptySlot (2 ^ q) S) S))
      (rOf (rot (emptySlot (2 ^ q) S) S)) := by
  have hF := canon_fits (2 ^ q) S hS hq hlen
  have hlenT := length_rot _ S ((cnt_zero_iff S _).1 hF.2.1)
  refine ⟨layout_lin q hq1 auto S hS hq hF, layout_rem_length q auto S, layout_occ_length q auto S,
    layout_cont_length q auto S, layout_shift_length q auto S, fun x hx hno => ?_⟩
  rw [remAt, layout_rem_eq]
  exact arrOf_off_pos _ 0 (2 ^ q) _ _ (fun i hi => Nat.lt_of_succ_lt (hF.2.2 i (hlenT ▸ hi))) x hx
    (fun i hi => hno i (hlenT ▸ hi))

theorem ltRot_cut (n e0 c : Nat) (x y : Elem) (he0 : e0 < n) (hc : c < n) (hx : x.1 < n) (hy : y.1 < n) :
    (c < off n e0 x.1 → c < off n e0 y.1 → ltRot n e0 x y → ltRot n (io n e0 c) x y) ∧
    (off n e0 x.1 < c → off n e0 y.1 < c → ltRot n e0 x y → ltRot n (io n e0 c) x y) ∧
    (c < off n e0 x.1 → off n e0 y.1 < c → ltRot n (io n e0 c) x y) := by
  have hx' := off_cut n e0 c x.1 he0 hc hx
  have hy' := off_cut n e0 c y.1 he0 hc hy
  unfold ltRot
  refine ⟨fun h1 h2 hxy => ?_, fun h1 h2 hxy => ?_, fun h1 h2 => Or.inl ?_⟩
  · rw [hx'.1 h1, hy'.1 h2] at hxy
    simpa only [Nat.add_lt_add_iff_right, Nat.add_right_cancel_iff] using hxy
  · rw [hx'.2 h1, hy'.2 h2]
    simpa only [Nat.add_lt_add_iff_right, Nat.add_right_cancel_iff] using hxy
  · have := hx'.1 h1
    have := hy'.2 h2
    have := off_lt_n n e0 x.1 (by omega)
    omega

/-- A list sorted from behind slot `e0`, with its homes in front of distance `c` for the first `a` elements
    and behind `c` for the others, is sorted from behind slot `io n e0 c` once those `a` elements go last. -/
theorem ltRot_rotate (n e0 c a : Nat) (T0 : List Elem) (he0 : e0 < n) (hc : c < n) (hq : ∀ x ∈ T0, x.1 < n)
    (hs0 : T0.Pairwise (ltRot n e0)) (hlo : ∀ i, i < a → dOf n e0 T0 i < c)
    (hhi : ∀ i, a ≤ i → i < T0.length → c < dOf n e0 T0 i) :
    (T0.drop a ++ T0.take a).Pairwise (ltRot n (io n e0 c)) := by
  have hd0 : ∀ i (hi : i < T0.length), off n e0 (T0[i]).1 = dOf n e0 T0 i := by
    intro i hi
    simp only [dOf, getD_eq_getElem_of_lt T0 i hi]
  have hlo' : ∀ x ∈ T0.take a, off n e0 x.1 < c := by
    intro x hx
    obtain ⟨i, hi, rfl⟩ := List.mem_take_iff_getElem.1 hx
    rw [hd0]
    exact hlo i (by omega)
  have hhi' : ∀ x ∈ T0.drop a, c < off n e0 x.1 := by
    intro x hx
    obtain ⟨i, hi, rfl⟩ := List.mem_drop_iff_getElem.1 hx
    rw [hd0]
    exact hhi (a + i) (by omega) (by omega)
  have hcut := fun x y hx hy => ltRot_cut n e0 c x y he0 hc (hq x hx) (hq y hy)
  rw [List.pairwise_append]
  refine ⟨?_, ?_, ?_⟩
  · refine (hs0.sublist (List.drop_sublist a T0)).imp_of_mem ?_
    intro x y hx hy
    exact (hcut x y (List.mem_of_mem_drop hx) (List.mem_of_mem_drop hy)).1 (hhi' x hx) (hhi' y hy)
  · refine (hs0.sublist (List.take_sublist a T0)).imp_of_mem ?_
    intro x y hx hy
    exact (hcut x y (List.mem_of_mem_take hx) (List.mem_of_mem_take hy)).2.1 (hlo' x hx) (hlo' y hy)
  · intro x hx y hy
    exact (hcut x y (List.mem_of_mem_drop hx) (List.mem_of_mem_take hy)).2.2 (hhi' x hx) (hlo' y hy)

/-- Two readings `T0` (from behind slot `e0`) and `T` (from behind slot `e`) of the same elements:
    `T` is `T0` cut at the distance of `e`. -/
theorem cut_of_readings {s : QF} {n e0 e : Nat} {T0 T : List Elem} (he0 : e0 < n) (he : e < n)
    (L0 : Lin s n e0 T0.length (dOf n e0 T0) (rOf T0)) (hperm : T0.Perm T)
    (hs0 : T0.Pairwise (ltRot n e0)) (hs : T.Pairwise (ltRot n e)) (hq : ∀ x ∈ T0, x.1 < n)
    (hno : ∀ x ∈ T0, x.1 ≠ e) (hfit : ∀ i, i < T0.length → posF (dOf n e T) i + 2 ≤ n) :
    ∃ a c, io n e0 c = e ∧ Cut n T0.length a c (dOf n e0 T0) (rOf T0) (dOf n e T) (rOf T) := by
  have hn0 : 0 < n := by omega
  -- the new empty slot, seen from the old one
  generalize hc : off n e0 e = c
  have hcn : c < n := by rw [← hc]; exact off_lt_n n e0 e hn0
  have hioc : io n e0 c = e := by rw [← hc]; exact io_off n e0 e he0 he
  generalize hm : T0.length = m at L0 hfit
  -- the homes in `T0` are in front of `c` for the first `a` elements, behind `c` for the others
  generalize ha : Bfn (dOf n e0 T0) m c = a
  have ham : a ≤ m := by rw [← ha]; exact B_le_m _ m c
  have hlo : ∀ i, i < a → dOf n e0 T0 i < c := fun i hia =>
    (B_char L0 c i (Nat.lt_of_lt_of_le hia ham)).1 (by rw [ha]; exact hia)
  have hhi : ∀ i, a ≤ i → i < m → c < dOf n e0 T0 i := by
    intro i hai him
    have hmem := getD_mem T0 i (by omega) (0, 0)
    have h1 : ¬ dOf n e0 T0 i < c := fun h => by
      have := (B_char L0 c i him).2 h
      rw [ha] at this
      omega
    have h2 : dOf n e0 T0 i ≠ c := fun h =>
      hno _ hmem (off_inj n e0 _ _ he0 (hq _ hmem) he (h.trans hc.symm))
    omega
  subst hioc
  -- `T` is `T0` with its first `a` elements moved to the end
  have hT : T0.drop a ++ T0.take a = T := by
    apply pw_ext (R := ltRot n (io n e0 c)) _ _ _ hs
    · intro y
      rw [← hperm.mem_iff, List.mem_append, Or.comm, ← List.mem_append, List.take_append_drop]
    · exact fun x y _ _ => ltRot_asymm n (io n e0 c) x y
    · exact ltRot_rotate n e0 c a T0 he0 hcn hq hs0 hlo fun i hai hi => hhi i hai (hm ▸ hi)
  have hoc := fun i (hi : i < m) => off_cut n e0 c _ he0 hcn (hq _ (getD_mem T0 i (hm ▸ hi) (0, 0)))
  refine ⟨a, c, rfl, ham, hcn, ?_, ?_, L0.fit, hfit⟩
  · intro u hu
    have hg := getD_drop_append_take_front T0 a u (0, 0) hu
    rw [hT, hm] at hg
    refine ⟨hlo u hu, ?_, by simp only [rOf, hg]⟩
    simp only [dOf, hg]
    exact (hoc u (by omega)).2 (hlo u hu)
  · intro i hi
    have hg := getD_drop_append_take_back T0 a i (0, 0) (by omega)
    rw [hT] at hg
    have h1 := hhi (a + i) (by omega) (by omega)
    refine ⟨h1, ?_, by simp only [rOf, hg]⟩
    simp only [dOf, hg]
    exact (hoc (a + i) (by omega)).1 h1

theorem layout_lin_at (q : Nat) (hq1 : 1 ≤ q) (auto : Bool) (S : List Elem) (hS : Sorted S)
    (hq : ∀ x ∈ S, x.1 < 2 ^ q) (hlen : S.length < 2 ^ q) (e : Nat) (he : e < 2 ^ q)
    (hno : NoQuot e S)
    (hfit : ∀ i, i < S.length → posF (dOf (2 ^ q) e (rot e S)) i + 2 ≤ 2 ^ q) :
    LinX (layout q auto S) (2 ^ q) e S.length (dOf (2 ^ q) e (rot e S)) (rOf (rot e S)) := by
  have X0 := layout_linX q hq1 auto S hS hq hlen
  obtain ⟨he0, hcnt0, _⟩ := canon_fits (2 ^ q) S hS hq hlen
  have hno0 : NoQuot (emptySlot (2 ^ q) S) S := (cnt_zero_iff S _).1 hcnt0
  have hperm0 := rot_perm (emptySlot (2 ^ q) S) S hno0
  rw [← hperm0.length_eq] at X0 hfit ⊢
  obtain ⟨a, c, hioc, C⟩ := cut_of_readings he0 he X0.lin (hperm0.trans (rot_perm e S hno).symm)
    (rot_sorted _ _ he0 S hS hq) (rot_sorted _ e he S hS hq)
    (fun x hx => hq x (hperm0.mem_iff.1 hx)) (fun x hx => hno x (hperm0.mem_iff.1 hx)) hfit
  have X := rebaseX X0 C
  rwa [hioc] at X

theorem getD_insert_map {α : Type} (g : α → Nat) (l1 l2 : List α) (x dflt : α) :
    (fun i => g ((l1 ++ x :: l2).getD i dflt)) =
      insAt l1.length (g x) (fun i => g ((l1 ++ l2).getD i dflt)) := by
  funext i
  simp only [getD_insert, insAt, apply_ite g]

theorem rot_insert (n e : Nat) (he : e < n) (S : List Elem) (x : Elem) (hS : Sorted S)
    (hq : ∀ y ∈ S, y.1 < n) (hx : x.1 < n) (hnew : x ∉ S) (hno' : NoQuot e (insert x S)) :
    ∃ l1 l2, rot e (insert x S) = l1 ++ x :: l2 ∧ rot e S = l1 ++ l2 := by
  have hS' : Sorted (insert x S) := sorted_insertBy ltE_total x S hS
  have hq' : ∀ y ∈ insert x S, y.1 < n := by
    intro y hy
    rcases (mem_insertBy x y S).1 hy with h | h
    · rw [h]; exact hx
    · exact hq y h
  have hno : NoQuot e S := fun y hy => hno' y ((mem_insertBy x y S).2 (Or.inr hy))
  have hsorted' := rot_sorted n e he (insert x S) hS' hq'
  obtain ⟨l1, l2, hl⟩ :=
    List.append_of_mem ((mem_rot e _ hno' x).2 ((mem_insertBy x x S).2 (Or.inl rfl)))
  refine ⟨l1, l2, hl, ?_⟩
  rw [hl] at hsorted'
  have hmem : ∀ y, y = x ∨ y ∈ l1 ++ l2 ↔ y = x ∨ y ∈ S := fun y => by
    have h := (mem_rot e _ hno' y).trans (mem_insertBy x y S)
    rw [hl] at h
    rw [← h]
    simp only [List.mem_append, List.mem_cons, or_left_comm]
  -- `x` occurs once in a list sorted by an irreflexive order
  have hx12 : x ∉ l1 ++ l2 := by
    rw [List.pairwise_append, List.pairwise_cons] at hsorted'
    intro h
    rcases List.mem_append.1 h with h | h
    · exact ltRot_irrefl n e x (hsorted'.2.2 x h x List.mem_cons_self)
    · exact ltRot_irrefl n e x (hsorted'.2.1.1 x h)
  symm
  apply pw_ext (R := ltRot n e) _ _ (hsorted'.sublist ((List.sublist_cons_self x l2).append_left l1))
    (rot_sorted n e he S hS hq)
  · intro y
    rw [mem_rot e S hno y]
    exact ⟨fun hy => ((hmem y).1 (Or.inr hy)).resolve_left fun h => hx12 (h ▸ hy),
      fun hy => ((hmem y).2 (Or.inr hy)).resolve_left fun h => hnew (h ▸ hy)⟩
  · exact fun a b _ _ => ltRot_asymm n e a b

/-- **A set and the set with one more element, in one view.**  From the empty slot `e` of
    `insert x S` both canonical tables are in the linear view (`e` is empty in the smaller table as
    well, and what fits in front of `e` with `x` fits without it), and the element sequence of the
    larger set is that of `S` with `x` inserted at some index `j`.  Insertion runs `_add` on the
    first view and identifies its result with the second (`lin_ext`); removal runs
    `_remove_element` on the second and is handed the first. -/
theorem layout_pair (q : Nat) (hq1 : 1 ≤ q) (auto : Bool) (S : List Elem) (x : Elem) (hS : Sorted S)
    (hqS : ∀ y ∈ S, y.1 < 2 ^ q) (hx : x.1 < 2 ^ q) (hroom : S.length + 1 < 2 ^ q) (hnew : x ∉ S) :
    ∃ e j d r, e < 2 ^ q ∧ j ≤ S.length ∧ LinX (layout q auto S) (2 ^ q) e S.length d r ∧
      LinX (layout q auto (insert x S)) (2 ^ q) e (S.length + 1)
        (insAt j (off (2 ^ q) e x.1) d) (insAt j x.2 r) := by
  have hS' : Sorted (insert x S) := sorted_insertBy ltE_total x S hS
  have hlen' : (insert x S).length = S.length + 1 := length_insertBy_of_not_mem x S hnew
  have hqS' : ∀ y ∈ insert x S, y.1 < 2 ^ q := by
    intro y hy
    rcases (mem_insertBy x y S).1 hy with h | h
    · rw [h]; exact hx
    · exact hqS y h
  have X' := layout_linX q hq1 auto (insert x S) hS' hqS' (by omega)
  obtain ⟨he, hcnt', _⟩ := canon_fits (2 ^ q) (insert x S) hS' hqS' (by omega)
  generalize emptySlot (2 ^ q) (insert x S) = e at *
  have hno' : NoQuot e (insert x S) := (cnt_zero_iff _ e).1 hcnt'
  have hno : NoQuot e S := fun y hy => hno' y ((mem_insertBy x y S).2 (Or.inr hy))
  obtain ⟨l1, l2, hT', hT⟩ := rot_insert (2 ^ q) e he S x hS hqS hx hnew hno'
  have hd : dOf (2 ^ q) e (rot e (insert x S)) =
      insAt l1.length (off (2 ^ q) e x.1) (dOf (2 ^ q) e (rot e S)) := by
    rw [hT', hT]
    exact getD_insert_map (fun y => off (2 ^ q) e y.1) l1 l2 x (0, 0)
  have hr : rOf (rot e (insert x S)) = insAt l1.length x.2 (rOf (rot e S)) := by
    rw [hT', hT]
    exact getD_insert_map (fun y => y.2) l1 l2 x (0, 0)
  rw [hd, hr, hlen'] at X'
  have hj : l1.length ≤ S.length := by
    have := length_rot e S hno
    rw [hT, List.length_append] at this
    omega
  have hfit : ∀ i, i < S.length → posF (dOf (2 ^ q) e (rot e S)) i + 2 ≤ 2 ^ q := by
    intro i hi
    exact Nat.le_trans (Nat.add_le_add_right (pos_ins_ge l1.length (off (2 ^ q) e x.1) _ i) 2)
      (X'.lin.fit (i + 1) (Nat.succ_lt_succ hi))
  exact ⟨e, l1.length, _, _, he, hj,
    layout_lin_at q hq1 auto S hS hqS (Nat.lt_of_succ_lt hroom) e he hno hfit, X'⟩

end PyProb.Spec
