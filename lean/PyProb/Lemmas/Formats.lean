/-
  Lemmas on the export formats: closed forms of `struct.pack` for the layouts extracted from the
  source (`Generated/Repo.lean`), footer parsing, sub-filter and bucket parsing.

  One module per data-structure family, so that a change of one family's extracted layout does not
  invalidate the others; this module gathers them for the library root, the property files import
  the family modules.
-/
import PyProb.Lemmas.FormatsBloom
import PyProb.Lemmas.FormatsCms
import PyProb.Lemmas.FormatsCuckoo
