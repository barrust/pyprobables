/-
  The counting Bloom filter (`Model/Bloom.lean`, structure `CBF`) beyond single calls.
  Histories of `add_alt` calls and the exact, unclamped count `cbfTot k len j xs` they stand for in
  cell `j`: `n` per occurrence of `j` among the `k` indices of a call (`cbfInc_eq`), additive in the
  history, at most `k` times the sum of the amounts (`cbfTot_le_amt`).  What `union` and
  `intersection` return when they return, and when `check_alt` answers with a positive count.
  C12 and C13 are stated in these terms.
-/
import PyProb.Lemmas.CbfCore

namespace PyProb

/-- the indices of a hash list: `hashes[i] % len` for `i < k`.  The model's `CBF.indices` returns
    this list with `len = c.cells.length`; `Counters.touched c hs` is `cbfIdx c.k c.cells.length hs` and
    `C16.positions c hs` is `cbfIdx c.k c.m hs`, each by `rfl`. -/
def cbfIdx (k len : Nat) (hs : List Nat) : List Nat := (hs.take k).map (· % len)

theorem cbfIdx_length_le (k len : Nat) (hs : List Nat) : (cbfIdx k len hs).length ≤ k := by
  simp [cbfIdx]; omega

def cbfInc (n : Int) (j : Nat) : List Nat → Int
  | [] => 0
  | i :: is => (if i = j then n else 0) + cbfInc n j is

theorem cbfInc_eq (n : Int) (j : Nat) (is : List Nat) : cbfInc n j is = (is.count j : Int) * n := by
  induction is with
  | nil => simp [cbfInc]
  | cons i is ih =>
      rw [cbfInc, ih, List.count_cons]
      by_cases e : i = j
      · simp only [e, if_true, beq_self_eq_true, Int.natCast_add, Int.add_mul]; omega
      · simp [e]

theorem cbfInc_nonneg (n : Int) (hn : 0 ≤ n) (j : Nat) (is : List Nat) : 0 ≤ cbfInc n j is := by
  rw [cbfInc_eq]; exact Int.mul_nonneg (Int.natCast_nonneg _) hn

theorem cbfInc_le (n : Int) (hn : 0 ≤ n) (j k : Nat) (is : List Nat) (hk : is.length ≤ k) :
    cbfInc n j is ≤ k * n := by
  rw [cbfInc_eq]
  exact Int.mul_le_mul_of_nonneg_right (Int.ofNat_le.mpr (Nat.le_trans List.count_le_length hk)) hn

/-- a history of `add_alt(hashes, num_els)` calls; a failed call leaves what it has stored -/
def CBF.runAdds (c : CBF) (xs : List (List Nat × Int)) : CBF :=
  xs.foldl (fun c p => (c.addAlt p.1 p.2).1) c

/-- the exact (unclamped) count a history contributes to cell `j`; calls with too few hashes raise
    IndexError before anything is stored and contribute nothing -/
def cbfTot (k len j : Nat) : List (List Nat × Int) → Int
  | [] => 0
  | p :: xs => (if k ≤ p.1.length then cbfInc p.2 j (cbfIdx k len p.1) else 0) + cbfTot k len j xs

theorem cbfTot_append (k len j : Nat) (xs ys : List (List Nat × Int)) :
    cbfTot k len j (xs ++ ys) = cbfTot k len j xs + cbfTot k len j ys := by
  induction xs with
  | nil => simp [cbfTot]
  | cons p xs ih => simp only [List.cons_append, cbfTot, ih]; omega

theorem cbfTot_nonneg (k len j : Nat) (xs : List (List Nat × Int)) (hn : ∀ p ∈ xs, 0 ≤ p.2) :
    0 ≤ cbfTot k len j xs := by
  induction xs with
  | nil => simp [cbfTot]
  | cons p xs ih =>
      have := ih (fun q hq => hn q (by simp [hq]))
      have h2 := cbfInc_nonneg p.2 (hn p (by simp)) j (cbfIdx k len p.1)
      simp only [cbfTot]; split <;> omega

def cbfAmt : List (List Nat × Int) → Int
  | [] => 0
  | p :: xs => p.2 + cbfAmt xs

theorem cbfAmt_append (xs ys : List (List Nat × Int)) : cbfAmt (xs ++ ys) = cbfAmt xs + cbfAmt ys := by
  induction xs with
  | nil => simp [cbfAmt]
  | cons p xs ih => simp only [List.cons_append, cbfAmt, ih]; omega

theorem cbfTot_le_amt (k len j : Nat) (xs : List (List Nat × Int)) (hn : ∀ p ∈ xs, 0 ≤ p.2) :
    cbfTot k len j xs ≤ k * cbfAmt xs := by
  induction xs with
  | nil => simp [cbfTot, cbfAmt]
  | cons p xs ih =>
      have := ih (fun q hq => hn q (by simp [hq]))
      have hp : 0 ≤ p.2 := hn p (by simp)
      have h1 := cbfInc_le p.2 hp j k (cbfIdx k len p.1) (cbfIdx_length_le k len p.1)
      have h3 : 0 ≤ (k : Int) * p.2 := Int.mul_nonneg (by omega) hp
      simp only [cbfTot, cbfAmt, Int.mul_add]
      split <;> omega

theorem CBF.similar_iff (a b : CBF) (same : Bool) :
    a.similar b same = true ↔ a.k = b.k ∧ a.m = b.m ∧ same = true := by
  simp [CBF.similar, and_assoc]

theorem CBF.union_eq_some (est : Estimator) (a b r : CBF) (same : Bool)
    (h : CBF.union est a b same = some r) :
    a.similar b same = true ∧ r.k = a.k ∧ r.m = a.m ∧ r.est = a.est ∧ r.fpr32 = a.fpr32 ∧
      r.cells = (List.range a.cells.length).map fun i => CBF.clampCell (a.cells.getD i 0 + b.cells.getD i 0) := by
  unfold CBF.union at h
  split at h
  · cases h
  · rename_i hs
    injection h with h; subst h
    simp at hs
    exact ⟨hs, rfl, rfl, rfl, rfl, rfl⟩

theorem CBF.union_of_similar (est : Estimator) (a b : CBF) (same : Bool) (h : a.similar b same = true) :
    ∃ r, CBF.union est a b same = some r := by
  simp [CBF.union, h]

theorem CBF.intersection_eq_some (est : Estimator) (a b r : CBF) (same : Bool)
    (h : CBF.intersection est a b same = some r) :
    a.similar b same = true ∧ r.k = a.k ∧ r.m = a.m ∧ r.est = a.est ∧ r.fpr32 = a.fpr32 ∧
      r.cells = (List.range a.cells.length).map fun i =>
        if a.cells.getD i 0 > 0 ∧ b.cells.getD i 0 > 0
        then CBF.clampCell (a.cells.getD i 0 + b.cells.getD i 0) else 0 := by
  unfold CBF.intersection at h
  split at h
  · cases h
  · rename_i hs
    injection h with h; subst h
    simp at hs
    exact ⟨hs, rfl, rfl, rfl, rfl, rfl⟩

theorem clampCell_pos (v : Int) : 0 < CBF.clampCell v ↔ 0 < v := by
  unfold CBF.clampCell
  have : (Gen.uint32Max : Int) = 4294967295 := rfl
  split <;> omega

def CBF.WF (c : CBF) : Prop := c.cells.length = c.m ∧ 0 < c.m

theorem CBF.new_wf (e f k m : Nat) (hm : 0 < m) : (CBF.new e f k m).WF := by
  simp [CBF.WF, CBF.new, hm]

theorem CBF.checkAlt_pos_iff (c : CBF) (hs : List Nat) :
    (∃ v, c.checkAlt hs = .ok v ∧ 0 < v) ↔ hs ≠ [] ∧ ∀ h ∈ hs, 0 < c.cells.getD (h % c.m) 0 := by
  cases hs with
  | nil => simp [CBF.checkAlt]
  | cons x xs =>
      have hpos := Cbf.minList_pos ((x :: xs).map fun h => c.cells.getD (h % c.m) 0) (by simp)
      rw [List.forall_mem_map] at hpos
      simp only [CBF.checkAlt, ne_eq, reduceCtorEq, not_false_eq_true, true_and, ← hpos]
      constructor
      · rintro ⟨v, hv, hp⟩
        injection hv with hv
        rwa [hv]
      · exact fun h => ⟨_, rfl, h⟩

end PyProb
