/-
  Lemmas relating the model's Bloom, counting-Bloom and count-min operations under the default
  hashing strategy to the documented hashing rule and the reference reader / writer of
  `Spec/Layout.lean`.

  One module per data-structure family (plus a family-independent one); this module gathers them,
  together with `Lemmas/LayoutSpec.lean`.
-/
import PyProb.Lemmas.LayoutSpec
import PyProb.Lemmas.ReferenceCommon
import PyProb.Lemmas.ReferenceBloom
import PyProb.Lemmas.ReferenceCms
