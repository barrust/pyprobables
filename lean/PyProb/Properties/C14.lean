/-
  C14 — `elements_added` tracks the documented quantity through every operation: per structure,
  over unbounded histories and all oracles.

  * Bloom filter (`C14_bloom_*`): `count` = completed `add_alt` calls since the last `clear` (a call
    with too few hashes raises and is not counted); `union` / `intersection` results carry the
    estimate of their own set bits.
  * On-disk Bloom filter (`C14_ondisk_*`, from `C11_history`): the in-memory counter and the one
    stored in the file agree and equal the adds since creation / the last `clear`, across
    close/reopen.
  * Expanding / rotating (`C14_expanding_*`, `C14_rotating_*`): `added = initial + number of add
    calls` for arbitrary membership answers (suppressed duplicates and forced adds are counted),
    with `push` / `pop` in the history; for the real `add_alt` with no hypothesis at all (calls that
    raise are counted too, as in Python).
  * Counting Bloom filter (`C14_cbf_*`): a returning `add_alt` clamps at 2^64−1; a returning
    `remove_alt` lowers the counter by exactly what the key's reported value (`check_alt` on exactly
    `k` hashes, as `remove(key)` passes) goes down; a raising call leaves it alone.  Over histories
    in which no call raised, adds stay below the clamp and removals do not exceed the reported value
    (implied by C08's `Legit` / `Unsat`, via `C08_cbf_lower`): `count = initial + Σ added − Σ removed`.
  * Count-min family (`C14_cms_*`): while the running value (Σ added − Σ removed, `join` adds the
    other sketch's total, `clear` resets) stays inside int64, `total` equals it; the clamped
    single steps are `C16_cms_add_state`, `C16_cms_remove_state`, `C16_cms_join`.
  * Cuckoo / counting cuckoo filter (`C14_cuckoo_*`): `CountInv` holds for `new`, is preserved by
    `add`, `remove`, `expand` for ALL fingerprint hashes `G` and ALL oracles (kick chains, automatic
    expansion, failed adds, failed expansions) and re-established by `load`; the numerator of
    `load_factor` is the number of occupied slots.
  * Quotient filter (`C14_qf_*`): single steps ±1, restating C04; that the counter is the number of
    stored hashes over whole histories (`resize`, `merge` included) is `C14_qf_count_history` in
    `C14_history.lean`.
  * Statistics at the `ℝ` instance (`C14_stats_*`): closed forms of `estimate_elements` and
    `current_false_positive_rate`.
-/
import PyProb.Lemmas.CuckooCount
import PyProb.Lemmas.Counters
import PyProb.Properties.C15
import PyProb.Properties.C02
import PyProb.Properties.C16
import PyProb.Properties.C09
import PyProb.Properties.C10
import PyProb.Properties.C11
import PyProb.Properties.C04
import PyProb.Lemmas.RealInst

namespace PyProb.C14
open PyProb

/-- `elements_added` is the sum of all bin counts; `unique_elements` is the number of bins in the
    counting filter and stays 0 in the plain one -/
def CountInv (c : Cuckoo) : Prop :=
  c.count = (((c.buckets.flatten.map (·.2)).sum : Nat) : Int) ∧
  (c.counting = true → c.unique = ((c.buckets.flatten.length : Nat) : Int)) ∧
  (c.counting = false → c.unique = 0)

theorem countInv_iff (c : Cuckoo) : CountInv c ↔ Cuckoo.CountInv c := by
  unfold CountInv Cuckoo.CountInv
  rw [Cuckoo.tsum_wCnt, Cuckoo.tsum_wOne]

theorem C14_cuckoo_init (counting : Bool) (cap b maxSwaps rate : Nat) (auto : Bool) (fpBits : Nat) :
    CountInv (Cuckoo.new counting cap b maxSwaps rate auto fpBits) :=
  (countInv_iff _).mpr (Cuckoo.CountInv_new counting cap b maxSwaps rate auto fpBits)

theorem C14_cuckoo_add (G : Nat → Nat) (c : Cuckoo) (h : Nat) (oracle : List Nat)
    (hinv : C15.Inv G c) (hc : CountInv c) : CountInv (c.add G h oracle).1 :=
  (countInv_iff _).mpr (Cuckoo.add_countInv h oracle ((C15.inv_iff_wf G c).mp hinv) ((countInv_iff c).mp hc))

theorem C14_cuckoo_remove (G : Nat → Nat) (c : Cuckoo) (h : Nat)
    (hinv : C15.Inv G c) (hc : CountInv c) : CountInv (c.remove G h).1 :=
  (countInv_iff _).mpr (Cuckoo.remove_countInv h ((C15.inv_iff_wf G c).mp hinv) ((countInv_iff c).mp hc))

theorem C14_cuckoo_expand (G : Nat → Nat) (c : Cuckoo) (oracle : List Nat)
    (hinv : C15.Inv G c) (hc : CountInv c) : CountInv (Cuckoo.expandLogic G c none oracle).1 := by
  have hw := (C15.inv_iff_wf G c).mp hinv
  exact (countInv_iff _).mpr (Cuckoo.expandLogic_countInv none oracle hw.ts hw.rate_pos ((countInv_iff c).mp hc))

/-- a successful expansion recounts: the counters are right afterwards even if they were wrong
    before (defect D6: every re-inserted bin is counted with its count, not as 1) -/
theorem C14_cuckoo_expand_recounts (G : Nat → Nat) (c : Cuckoo) (extra : Option CBin) (oracle : List Nat)
    (hinv : C15.Inv G c) (hok : (Cuckoo.expandLogic G c extra oracle).2.1 = none) :
    CountInv (Cuckoo.expandLogic G c extra oracle).1 := by
  have hw := (C15.inv_iff_wf G c).mp hinv
  exact (countInv_iff _).mpr (Cuckoo.expandLogic_countInv_of_ok extra oracle hw.ts hw.rate_pos hok)

theorem C14_cuckoo_load (template : Cuckoo) (file : Bytes) (c : Cuckoo)
    (h : Cuckoo.load template file = .ok c) : CountInv c :=
  (countInv_iff _).mpr (Cuckoo.load_countInv template file c h)

theorem C14_cuckoo_add_delta (G : Nat → Nat) (c : Cuckoo) (h : Nat) (oracle : List Nat)
    (hinv : C15.Inv G c) (hc : CountInv c) (hok : (c.add G h oracle).2.1 = none) :
    (c.add G h oracle).1.count = c.count + (if c.counting then 1 else 1 - (c.check G h : Int)) :=
  Cuckoo.add_count_delta h oracle ((C15.inv_iff_wf G c).mp hinv) ((countInv_iff c).mp hc) hok

theorem C14_cuckoo_remove_delta (G : Nat → Nat) (c : Cuckoo) (h : Nat)
    (hinv : C15.Inv G c) (hc : CountInv c) (hret : (c.remove G h).2 = true) :
    (c.remove G h).1.count = c.count - 1 :=
  Cuckoo.remove_count_delta h ((C15.inv_iff_wf G c).mp hinv) ((countInv_iff c).mp hc) hret

theorem C14_cuckoo_step (G : Nat → Nat) (c : Cuckoo) (op : C15.Op × List Nat)
    (hinv : C15.Inv G c) (hc : CountInv c) : CountInv (C15.step G c op) := by
  obtain ⟨op, oracle⟩ := op
  cases op with
  | add h => exact C14_cuckoo_add G c h oracle hinv hc
  | remove h => exact C14_cuckoo_remove G c h hinv hc
  | expand => exact C14_cuckoo_expand G c oracle hinv hc

theorem C14_cuckoo_run (G : Nat → Nat) (c : Cuckoo) (ops : List (C15.Op × List Nat))
    (hinv : C15.Inv G c) (hc : CountInv c) : CountInv (C15.run G c ops) :=
  (foldl_invariant (C15.step G) (fun c => C15.Inv G c ∧ CountInv c) ops c ⟨hinv, hc⟩
    (fun c h op _ => ⟨C15.C15_step G c op h.1, C14_cuckoo_step G c op h.1 h.2⟩)).2

theorem C14_cuckoo_every_step (G : Nat → Nat) (c : Cuckoo) (ops : List (C15.Op × List Nat))
    (hinv : C15.Inv G c) (hc : CountInv c) (n : Nat) : CountInv (C15.run G c (ops.take n)) :=
  C14_cuckoo_run G c (ops.take n) hinv hc

theorem C14_cuckoo_reachable (G : Nat → Nat) (counting : Bool) (cap b maxSwaps rate : Nat) (auto : Bool)
    (fpBits : Nat) (hcap : 1 ≤ cap) (hb : 1 ≤ b) (hrate : 1 ≤ rate) (ops : List (C15.Op × List Nat)) :
    CountInv (C15.run G (Cuckoo.new counting cap b maxSwaps rate auto fpBits) ops) :=
  C14_cuckoo_run G _ ops (C15.C15_init G counting cap b maxSwaps rate auto fpBits hcap hb hrate)
    (C14_cuckoo_init counting cap b maxSwaps rate auto fpBits)

theorem C14_cuckoo_plain (G : Nat → Nat) (c : Cuckoo) (hinv : C15.Inv G c) (hc : CountInv c)
    (hplain : c.counting = false) : c.count = ((c.buckets.flatten.length : Nat) : Int) := by
  rw [hc.1]
  exact congrArg Nat.cast (Cuckoo.bsum_wCnt_of_ones c.buckets.flatten (hinv.2.2.2.2.2.2.2.2 hplain))

theorem C14_ccf_counters (c : Cuckoo) (hc : CountInv c) (hcounting : c.counting = true) :
    c.unique = ((c.buckets.flatten.length : Nat) : Int) ∧
    c.count = (((c.buckets.flatten.map (·.2)).sum : Nat) : Int) := ⟨hc.2.1 hcounting, hc.1⟩

/-- numerator of `load_factor()`: `elements_added` (cuckoo.py:289) resp. `unique_elements`
    (countingcuckoo.py:157); the denominator is `capacity * bucket_size` -/
def loadNum (c : Cuckoo) : Int := if c.counting then c.unique else c.count

theorem C14_cuckoo_load_factor (G : Nat → Nat) (c : Cuckoo) (hinv : C15.Inv G c) (hc : CountInv c) :
    loadNum c = ((c.buckets.flatten.length : Nat) : Int) ∧ c.buckets.flatten.length ≤ c.cap * c.b := by
  refine ⟨?_, ?_⟩
  · unfold loadNum
    cases h : c.counting
    · exact C14_cuckoo_plain G c hinv hc h
    · exact hc.2.1 h
  · -- `cap` buckets of at most `b` bins each
    obtain ⟨hlen, _, _, _, hsize, _⟩ := hinv
    have := List.sum_le_card_nsmul (c.buckets.map List.length) c.b (List.forall_mem_map.mpr hsize)
    rwa [List.length_map, smul_eq_mul, ← List.length_flatten, hlen] at this

inductive BOp
  | add (hs : List Nat)
  | clear
  deriving DecidableEq, Repr

/-- an `add_alt` that raises IndexError leaves the partially updated filter -/
def bstep (b : Bloom) : BOp → Bloom
  | .add hs => (b.addAlt hs).1
  | .clear => b.clear

def brun (b : Bloom) (ops : List BOp) : Bloom := ops.foldl bstep b

/-- the documented counter: completed `add` calls since the last `clear` -/
def bdoc (k : Nat) : Int → List BOp → Int
  | c, [] => c
  | c, .add hs :: r => bdoc k (if k ≤ hs.length then c + 1 else c) r
  | _, .clear :: r => bdoc k 0 r

theorem C14_bloom_add (b : Bloom) (hs : List Nat) (hk : b.k ≤ hs.length) :
    (b.addAlt hs).2 = none ∧ (b.addAlt hs).1.count = b.count + 1 :=
  ⟨Bloom.addAlt_err_of_le b hs hk, Bloom.addAlt_count_of_le b hs hk⟩

theorem C14_bloom_add_short (b : Bloom) (hs : List Nat) (hk : hs.length < b.k) :
    (b.addAlt hs).2 = some .indexError ∧ (b.addAlt hs).1.count = b.count := by
  rw [Bloom.addAlt_err, Bloom.addAlt_count, if_pos hk, if_pos hk]
  exact ⟨rfl, rfl⟩

theorem C14_bloom_clear (b : Bloom) : b.clear.count = 0 := rfl

theorem C14_bloom_history (b : Bloom) (ops : List BOp) : (brun b ops).count = bdoc b.k b.count ops := by
  unfold brun
  induction ops generalizing b with
  | nil => rfl
  | cons op ops ih =>
    cases op with
    | add hs =>
      rw [List.foldl_cons, ih, bdoc, bstep, Bloom.addAlt_k, Bloom.addAlt_count]
      simp only [← Nat.not_le, ite_not]
    | clear => exact ih b.clear

theorem C14_bloom_adds (b : Bloom) (hss : List (List Nat)) (hk : ∀ hs ∈ hss, b.k ≤ hs.length) :
    (brun b (hss.map BOp.add)).count = b.count + hss.length := by
  rw [C14_bloom_history]
  generalize b.count = c
  induction hss generalizing c with
  | nil => exact (Int.add_zero c).symm
  | cons hs hss ih =>
    rw [List.map_cons, bdoc, if_pos (hk hs List.mem_cons_self),
      ih (fun x hx => hk x (List.mem_cons_of_mem hs hx)), List.length_cons, Int.natCast_add, Int.add_assoc,
      Int.add_comm 1]
    rfl

theorem eq_of_ite_none_some {α : Type} {p : Prop} [Decidable p] {x r : α}
    (h : (if p then none else some x) = some r) : r = x := by
  split at h
  · cases h
  · exact (Option.some.inj h).symm

/-- all four set operations have the shape
    `if ¬similar then none else some { r with count := est r.m r.k r.setBits }` -/
theorem C14_bloom_union_count (est : Estimator) (a b r : Bloom) (same : Bool)
    (h : Bloom.union est a b same = some r) : r.count = est r.m r.k r.setBits := by
  cases eq_of_ite_none_some h
  rfl

theorem C14_bloom_intersection_count (est : Estimator) (a b r : Bloom) (same : Bool)
    (h : Bloom.intersection est a b same = some r) : r.count = est r.m r.k r.setBits := by
  cases eq_of_ite_none_some h
  rfl

theorem C14_cbf_union_count (est : Estimator) (a b r : CBF) (same : Bool)
    (h : CBF.union est a b same = some r) : r.count = est r.m r.k r.setBits := by
  cases eq_of_ite_none_some h
  rfl

theorem C14_cbf_intersection_count (est : Estimator) (a b r : CBF) (same : Bool)
    (h : CBF.intersection est a b same = some r) : r.count = est r.m r.k r.setBits := by
  cases eq_of_ite_none_some h
  rfl

theorem C14_ondisk_history (geom : Geom) (o₀ : OnDisk) (bits₀ : Bytes) (ops : List C11.Op)
    (h : C11.Shape o₀ bits₀ o₀.count) (hg : geom o₀.est o₀.fpr32 = .ok (o₀.fpr32, o₀.k, o₀.m))
    (he : o₀.est < 2 ^ 64) (hf : o₀.fpr32 < 2 ^ 32) (hc0 : 0 ≤ o₀.count)
    (hc : o₀.count + (C11.adds ops : Int) < 2 ^ 64) :
    (ops.foldl (C11.step geom) o₀).count = o₀.count + (C11.adds ops : Int) ∧
    ∃ bits, (ops.foldl (C11.step geom) o₀).file
      = fileOf bits o₀.est (o₀.count + (C11.adds ops : Int)) o₀.fpr32 := by
  obtain ⟨⟨bits, hsh, _⟩, gc, ge, gf, _, _⟩ := C11.C11_history geom o₀ bits₀ ops h hg he hf hc0 hc
  refine ⟨gc, bits, ?_⟩
  rw [hsh.file, ge, gf, gc]

theorem C14_ondisk_from_create (geom : Geom) (est fpr32 k m : Nat) (hm : 0 < m) (he : est < 2 ^ 64)
    (hf : fpr32 < 2 ^ 32) (hg : geom est fpr32 = .ok (fpr32, k, m)) (ops : List C11.Op)
    (hc : (C11.adds ops : Int) < 2 ^ 64) :
    ∃ o₀, OnDisk.create est fpr32 k m = .ok o₀ ∧
      (ops.foldl (C11.step geom) o₀).count = (C11.adds ops : Int) ∧
      ∃ bits, (ops.foldl (C11.step geom) o₀).file = fileOf bits est (C11.adds ops : Int) fpr32 := by
  obtain ⟨o₀, hcr, hsh, h0, rfl, rfl, rfl, rfl⟩ := C11.C11_create est fpr32 k m hm he hf
  rw [← h0] at hsh
  have e : (C11.adds ops : Int) = o₀.count + C11.adds ops := by rw [h0, Int.zero_add]
  rw [e] at hc ⊢
  exact ⟨o₀, hcr, C14_ondisk_history geom o₀ _ ops hsh hg he hf (Int.le_of_eq h0.symm) hc⟩

theorem C14_ondisk_add (o : OnDisk) (hs : List Nat) : (o.addAlt hs).count = o.count + 1 := rfl

theorem C14_ondisk_clear_file (o : OnDisk) (bits : Bytes) (c : Int) (h : C11.Shape o bits c) :
    C11.Shape o.clear (List.replicate ((o.m + 7) / 8) 0) 0 ∧ o.clear.count = 0 := by
  refine ⟨⟨?_, List.length_replicate, h.mpos⟩, rfl⟩
  rw [← h.len]
  exact clear_file o bits c h.file h.len.symm

inductive DOp
  | add (hs : List Nat)
  | cycle
  | clear

def dstep (geom : Geom) (o : OnDisk) : DOp → OnDisk
  | .add hs => C11.step geom o (.add hs)
  | .cycle => C11.step geom o .cycle
  | .clear => o.clear

def ddocStep (c : Int) : DOp → Int
  | .add _ => c + 1
  | .cycle => c
  | .clear => 0

def ddoc (c : Int) (ops : List DOp) : Int := ops.foldl ddocStep c

/-- the counter is stored in an unsigned 64-bit field -/
def DFits : Int → List DOp → Prop
  | _, [] => True
  | c, op :: r => ddocStep c op < 2 ^ 64 ∧ DFits (ddocStep c op) r

structure DGood (o₀ o : OnDisk) : Prop where
  shape : ∃ bits, C11.Shape o bits o.count
  nonneg : 0 ≤ o.count
  est : o.est = o₀.est
  fpr : o.fpr32 = o₀.fpr32
  k : o.k = o₀.k
  m : o.m = o₀.m

theorem dstep_good (geom : Geom) {o₀ o : OnDisk} (op : DOp) {c : Int}
    (hg : geom o₀.est o₀.fpr32 = .ok (o₀.fpr32, o₀.k, o₀.m)) (he : o₀.est < 2 ^ 64) (hf : o₀.fpr32 < 2 ^ 32)
    (g : DGood o₀ o) (hc : o.count = c) (hfit : ddocStep c op < 2 ^ 64) :
    DGood o₀ (dstep geom o op) ∧ (dstep geom o op).count = ddocStep c op := by
  subst hc
  obtain ⟨⟨bits, hsh⟩, h0, ge, gf, gk, gm⟩ := g
  cases op with
  | add hs =>
    exact ⟨⟨⟨_, (C11.C11_add_shape o bits hs hsh).1⟩, Int.add_nonneg h0 (by decide), ge, gf, gk, gm⟩, rfl⟩
  | cycle =>
    -- the reopened object is the old one: the loader reads back the stored count and parameters
    have e : dstep geom o .cycle = { o with closed := false } :=
      C11.step_cycle geom o bits hsh (by rw [ge, gf, gk, gm]; exact hg) (ge ▸ he) h0 hfit (gf ▸ hf)
    rw [e]
    exact ⟨⟨⟨bits, hsh.file, hsh.len, hsh.mpos⟩, h0, ge, gf, gk, gm⟩, rfl⟩
  | clear =>
    exact ⟨⟨⟨_, (C14_ondisk_clear_file o bits o.count hsh).1⟩, Int.le_refl 0, ge, gf, gk, gm⟩, rfl⟩

theorem C14_ondisk_history_clear (geom : Geom) (o₀ : OnDisk) (bits₀ : Bytes) (ops : List DOp)
    (h : C11.Shape o₀ bits₀ o₀.count) (hg : geom o₀.est o₀.fpr32 = .ok (o₀.fpr32, o₀.k, o₀.m))
    (he : o₀.est < 2 ^ 64) (hf : o₀.fpr32 < 2 ^ 32) (hc0 : 0 ≤ o₀.count) (hfit : DFits o₀.count ops) :
    (ops.foldl (dstep geom) o₀).count = ddoc o₀.count ops ∧
    ∃ bits, (ops.foldl (dstep geom) o₀).file = fileOf bits o₀.est (ddoc o₀.count ops) o₀.fpr32 := by
  suffices H : ∀ (ops : List DOp) (o : OnDisk) (c : Int), DGood o₀ o → o.count = c → DFits c ops →
      DGood o₀ (ops.foldl (dstep geom) o) ∧ (ops.foldl (dstep geom) o).count = ddoc c ops by
    obtain ⟨⟨⟨bits, hsh⟩, _, ge, gf, _, _⟩, gc⟩ := H ops o₀ _ ⟨⟨bits₀, h⟩, hc0, rfl, rfl, rfl, rfl⟩ rfl hfit
    refine ⟨gc, bits, ?_⟩
    rw [hsh.file, ge, gf, gc]
  intro ops
  induction ops with
  | nil => exact fun o c g hc _ => ⟨g, hc⟩
  | cons op ops ih =>
    intro o c g hc ⟨f1, f2⟩
    obtain ⟨g', hc'⟩ := dstep_good geom op hg he hf g hc f1
    exact ih _ _ g' hc' f2

theorem C14_expanding_counted (e : Expanding) (ops : List C09.Op) :
    (C09.run e ops).added = e.added + C09.addCount ops := C09.C09_counted e ops

def eIsAdd : C09.AOp → Bool
  | .add .. => true
  | .push => false

theorem C14_expanding_counted_api (e : Expanding) (aops : List C09.AOp) :
    (C09.runA e aops).added = e.added + aops.countP eIsAdd := by
  refine foldl_count C09.stepA (·.added) eIsAdd (fun e a => ?_) aops e
  cases a with
  | add hs f => exact Counters.expanding_addAlt_added e hs f
  | push => exact (Int.add_zero e.added).symm

theorem C14_rotating_counted (r : Rotating) (ops : List C10.Op) :
    (C10.run r ops).added = r.added + ops.countP C10.Op.isAdd := by
  refine foldl_count C10.step (·.added) C10.Op.isAdd (fun r op => ?_) ops r
  cases op with
  | add p hs f => exact (Rotating.addCore_static r p hs f).2.2.2.2.1
  | push => exact (Rotating.push_static r).2.2.2.2.1.trans (Int.add_zero r.added).symm
  | pop => exact (Counters.rotating_pop_added r).trans (Int.add_zero r.added).symm

theorem C14_rotating_counted_api (r : Rotating) (aops : List C10.AOp) :
    (C10.runA r aops).added = r.added + aops.countP C10.AOp.isAdd := by
  refine foldl_count C10.stepA (·.added) C10.AOp.isAdd (fun r a => ?_) aops r
  cases a with
  | add hs f => exact Counters.rotating_addAlt_added r hs f
  | push => exact (Rotating.push_static r).2.2.2.2.1.trans (Int.add_zero r.added).symm
  | pop => exact (Counters.rotating_pop_added r).trans (Int.add_zero r.added).symm

theorem C14_cbf_add (c : CBF) (hs : List Nat) (n v : Int) (h : (c.addAlt hs n).2 = .ok v) :
    (c.addAlt hs n).1.count = min (c.count + n) Gen.uint64Max :=
  (Counters.cbf_add_count c hs n).1 v h

theorem C14_cbf_add_error (c : CBF) (hs : List Nat) (n : Int) (e : Err) (h : (c.addAlt hs n).2 = .error e) :
    (c.addAlt hs n).1.count = c.count :=
  (Counters.cbf_add_count c hs n).2 e h

theorem C14_cbf_remove (c : CBF) (hs : List Nat) (n v : Int) (h : (c.removeAlt hs n).2 = .ok v) :
    c.k ≤ hs.length ∧
    ((Counters.touchedMin c hs = Gen.uint32Max ∧ v = Gen.uint32Max ∧ (c.removeAlt hs n).1 = c) ∨
     (Counters.touchedMin c hs = 0 ∧ v = 0 ∧ (c.removeAlt hs n).1 = c) ∨
     (Counters.touchedMin c hs ≠ Gen.uint32Max ∧ Counters.touchedMin c hs ≠ 0 ∧
       v = Counters.touchedMin c hs - min n (Counters.touchedMin c hs) ∧
       (c.removeAlt hs n).1.count = c.count - min n (Counters.touchedMin c hs))) := by
  have := Counters.cbf_remove_outcome c hs n
  rw [h] at this
  exact this

theorem C14_cbf_remove_by_return (c : CBF) (hs : List Nat) (n v : Int) (h : (c.removeAlt hs n).2 = .ok v) :
    (c.removeAlt hs n).1.count = c.count - (Counters.touchedMin c hs - v) := by
  obtain ⟨_, ⟨a, b, e⟩ | ⟨a, b, e⟩ | ⟨_, _, b, e⟩⟩ := C14_cbf_remove c hs n v h
  · rw [e, a, b, Int.sub_self, Int.sub_zero]
  · rw [e, a, b, Int.sub_self, Int.sub_zero]
  · rw [e, b, Int.sub_sub_self]

theorem C14_cbf_remove_error (c : CBF) (hs : List Nat) (n : Int) (e : Err)
    (h : (c.removeAlt hs n).2 = .error e) : (c.removeAlt hs n).1.count = c.count := by
  have := Counters.cbf_remove_outcome c hs n
  rw [h] at this
  exact this

theorem C14_cbf_clear (c : CBF) : c.clear.count = 0 := rfl

inductive CbfOp
  | add (hs : List Nat) (n : Int)
  | remove (hs : List Nat) (n : Int)
  deriving DecidableEq, Repr

def CbfOp.signed : CbfOp → Int
  | .add _ n => n
  | .remove _ n => -n

def cbfStep (c : CBF) : CbfOp → CBF × R Int
  | .add hs n => c.addAlt hs n
  | .remove hs n => c.removeAlt hs n

def cbfRun (c : CBF) (ops : List CbfOp) : CBF := ops.foldl (fun c op => (cbfStep c op).1) c

def CbfOp.Below (c : CBF) : CbfOp → Prop
  | .add _ n => c.count + n ≤ Gen.uint64Max
  | .remove hs n => 1 ≤ n ∧ n ≤ Counters.touchedMin c hs ∧ Counters.touchedMin c hs < Gen.uint32Max

def CbfFine : CBF → List CbfOp → Prop
  | _, [] => True
  | c, op :: r => (∃ v, (cbfStep c op).2 = .ok v) ∧ op.Below c ∧ CbfFine (cbfStep c op).1 r

theorem C14_cbf_step (c : CBF) (op : CbfOp) (hok : ∃ v, (cbfStep c op).2 = .ok v) (hb : op.Below c) :
    (cbfStep c op).1.count = c.count + op.signed := by
  obtain ⟨v, hv⟩ := hok
  cases op with
  | add hs n => exact (C14_cbf_add c hs n v hv).trans (Int.min_eq_left hb)
  | remove hs n =>
    -- `Below` excludes the saturated and the absent key, and makes the amount `min n mn = n`
    obtain ⟨h1, h2, h3⟩ := hb
    obtain ⟨_, ⟨g, _⟩ | ⟨g, _⟩ | ⟨_, _, _, g⟩⟩ := C14_cbf_remove c hs n v hv
    · exact absurd g (Int.ne_of_lt h3)
    · exact absurd (Int.le_trans h1 (g ▸ h2)) (by decide)
    · rw [Int.min_eq_left h2] at g
      exact g.trans (Int.sub_eq_add_neg)

theorem C14_cbf_history (c : CBF) (ops : List CbfOp) (h : CbfFine c ops) :
    (cbfRun c ops).count = c.count + (ops.map CbfOp.signed).sum := by
  unfold cbfRun
  induction ops generalizing c with
  | nil => exact (Int.add_zero c.count).symm
  | cons op ops ih =>
    obtain ⟨hok, hb, hr⟩ := h
    rw [List.foldl_cons, ih _ hr, C14_cbf_step c op hok hb, List.map_cons, List.sum_cons, Int.add_assoc]

def cmsDocStep (w d : Nat) (t : Int) : C16.Op → Int
  | .add _ n => t + n
  | .remove _ n => t - n
  | .join o p => if w = o.w ∧ d = o.d ∧ p = true then t + o.total else t
  | .clear => 0

def cmsDoc (w d : Nat) (t : Int) (ops : List C16.Op) : Int := ops.foldl (cmsDocStep w d) t

/-- so that no call raises -/
def CmsOpOK (d : Nat) : C16.Op → Prop
  | .add hs n => hs.length = d ∧ 1 ≤ n
  | .remove hs n => hs.length = d ∧ 1 ≤ n
  | _ => True

def CmsFits (w d : Nat) : Int → List C16.Op → Prop
  | _, [] => True
  | t, op :: r => Gen.int64Min ≤ cmsDocStep w d t op ∧ cmsDocStep w d t op ≤ Gen.int64Max ∧
      CmsFits w d (cmsDocStep w d t op) r

theorem C14_cms_step (c : CMS) (op : C16.Op) (hI : C16.Inv c) (hw : 0 < c.w) (hop : CmsOpOK c.d op) :
    (C16.step c op).total =
      max Gen.int64Min (min Gen.int64Max (cmsDocStep c.w c.d c.total op)) := by
  cases op with
  | add hs n => exact (C16.C16_cms_add_state c hs n hI hw hop.1 hop.2).2.2.2.2.2
  | remove hs n => exact (C16.C16_cms_remove_state c hs n hI hw hop.1 hop.2).2.2.2.2.2
  | join o p =>
    simp only [C16.step, cmsDocStep]
    by_cases hc : c.w = o.w ∧ c.d = o.d ∧ p = true
    · obtain ⟨h1, h2, rfl⟩ := hc
      obtain ⟨r, hr, _, _, _, _, _, ht⟩ := C16.C16_cms_join c o hI h1 h2
      rw [hr, if_pos ⟨h1, h2, rfl⟩]
      exact ht
    · -- a refused join raises and leaves the sketch, whose total is in range already
      have hm : c.w ≠ o.w ∨ c.d ≠ o.d ∨ p = false := by
        simpa only [not_and_or, Bool.not_eq_true] using hc
      rw [if_neg hc, C16.C16_cms_join_mismatch c o p hm]
      exact (CmsCore.clamp_of_mem hI.2.2.1 hI.2.2.2).symm
  | clear => exact (CmsCore.clamp_of_mem (t := 0) (by decide) (by decide)).symm

theorem CmsOpOK.amountOK {d : Nat} : ∀ {op : C16.Op}, CmsOpOK d op → op.AmountOK
  | .add .., h | .remove .., h => h.2
  | .join .., _ | .clear, _ => trivial

theorem C14_cms_history (c : CMS) (ops : List C16.Op) (hI : C16.Inv c) (hw : 0 < c.w)
    (hops : ∀ op ∈ ops, CmsOpOK c.d op) (hfit : CmsFits c.w c.d c.total ops) :
    (C16.run c ops).total = cmsDoc c.w c.d c.total ops := by
  unfold C16.run cmsDoc
  induction ops generalizing c with
  | nil => rfl
  | cons op ops ih =>
    obtain ⟨f1, f2, f3⟩ := hfit
    have hop := hops op List.mem_cons_self
    have htot : (C16.step c op).total = cmsDocStep c.w c.d c.total op :=
      (C14_cms_step c op hI hw hop).trans (CmsCore.clamp_of_mem f1 f2)
    obtain ⟨hI', hw', hd'⟩ := C16.C16_cms_step c op hI hop.amountOK
    rw [← htot, ← hw', ← hd'] at f3
    rw [List.foldl_cons, List.foldl_cons, ← htot, ← hw', ← hd']
    exact ih (C16.step c op) hI' (hw' ▸ hw) (fun o ho => hd' ▸ hops o (List.mem_cons_of_mem op ho)) f3

theorem C14_cms_sum (w d : Nat) (t : Int) (ops : List C16.Op)
    (h : ∀ op ∈ ops, (∃ hs n, op = .add hs n) ∨ (∃ hs n, op = .remove hs n)) :
    cmsDoc w d t ops = t + (ops.map fun op => match op with
      | .add _ n => n | .remove _ n => -n | _ => 0).sum := by
  unfold cmsDoc
  induction ops generalizing t with
  | nil => exact (Int.add_zero t).symm
  | cons op ops ih =>
    rw [List.foldl_cons, ih _ (fun o ho => h o (List.mem_cons_of_mem op ho)), List.map_cons, List.sum_cons]
    rcases h op List.mem_cons_self with ⟨hs, n, rfl⟩ | ⟨hs, n, rfl⟩
    · exact Int.add_assoc t n _
    · rw [cmsDocStep, Int.sub_eq_add_neg, Int.add_assoc]

theorem C14_cms_total_legit (w d : Nat) (H : Key → Nat → List Nat) (hw : 0 < w)
    (hH : ∀ key, (H key d).length = d) (mode : Mode) (ops : List C02.Op)
    (hL : C02.Legit ops) (hS : C02.Small ops) :
    (C02.run w d H mode ops).total = C02.totalOf ops ∧
    (C02.run w d H mode ops).total = ((C02.keysOf ops).map (C02.cnt ops)).sum :=
  ⟨(C02.C02_total_is_sum hw hH mode ops hL hS).2, (C02.C02_total_is_sum hw hH mode ops hL hS).1⟩

theorem C14_qf_add (s : QF) (qq rr : Nat) (t : QF) (h : QF.addQR s qq rr = .ok t) :
    t.count = s.count + 1 := C04.C04_count_step_add s qq rr t h

theorem C14_qf_remove (s : QF) (qq rr : Nat) (t : QF) (h : QF.removeQR s qq rr = .ok t) :
    (∃ idx, QF.containedAtLoc s qq rr = .ok (some idx) ∧ t.count = s.count - 1) ∨
    (QF.containedAtLoc s qq rr = .ok none ∧ t = s) := C04.C04_count_step_remove s qq rr t h

theorem C14_qf_add_alt (b : Nat) (s : QF) (h : Nat) (t : QF) (hauto : s.auto = false)
    (hr : QF.addAlt (b + 1) s h = .ok t) :
    (∃ idx, QF.containedAtLoc s (s.quotOf h) (s.remOf h) = .ok (some idx) ∧ t = s) ∨
    (QF.containedAtLoc s (s.quotOf h) (s.remOf h) = .ok none ∧ t.count = s.count + 1) :=
  C04.C04_count_step b s h t hauto hr

/-- the generic formula of `Model/Sizing.lean` at ℝ, with `int(·)` as truncation toward zero -/
theorem estimateElements_real (nr : ℝ → ℝ) (m k x : Nat) :
    @estimateElements ℝ (realLikeWith nr) m k x =
      if x ≥ m then -1
      else if (-1 * ((m : ℝ) / (k : ℝ))) * Real.log (1 - (x : ℝ) / (m : ℝ)) < 0
        then ⌈(-1 * ((m : ℝ) / (k : ℝ))) * Real.log (1 - (x : ℝ) / (m : ℝ))⌉
        else ⌊(-1 * ((m : ℝ) / (k : ℝ))) * Real.log (1 - (x : ℝ) / (m : ℝ))⌋ := by
  simp only [estimateElements, ofNat_real, rl_ofInt, rl_sub, rl_div, rl_mul, rl_log, rl_truncInt,
    Int.cast_neg, Int.cast_one]

theorem C14_stats_estimate_full (m k X : Nat) (h : m ≤ X) : estimateElements (α := ℝ) m k X = -1 :=
  (estimateElements_real id m k X).trans (if_pos h)

theorem C14_stats_estimate_nonneg (m k X : Nat) (h : X < m) :
    0 ≤ -((m : ℝ) / (k : ℝ)) * Real.log (1 - (X : ℝ) / (m : ℝ)) := by
  have hm : (0 : ℝ) < m := Nat.cast_pos.mpr (Nat.zero_lt_of_lt h)
  -- `0 ≤ 1 − X/m ≤ 1`, so the logarithm is `≤ 0`
  have hlog : Real.log (1 - (X : ℝ) / m) ≤ 0 :=
    Real.log_nonpos (sub_nonneg.mpr ((div_le_one hm).mpr (Nat.cast_le.mpr h.le)))
      (sub_le_self 1 (div_nonneg (Nat.cast_nonneg X) hm.le))
  rw [neg_mul]
  exact neg_nonneg.mpr (mul_nonpos_of_nonneg_of_nonpos (div_nonneg hm.le (Nat.cast_nonneg k)) hlog)

/-- `k ≥ 1` is the guard of the real code: with `k = 0` Python raises ZeroDivisionError, whereas
    the totalised division of ℝ would give 0 -/
theorem C14_stats_estimate (m k X : Nat) (h : X < m) (_hk : 1 ≤ k) :
    estimateElements (α := ℝ) m k X = ⌊-((m : ℝ) / (k : ℝ)) * Real.log (1 - (X : ℝ) / (m : ℝ))⌋ := by
  refine (estimateElements_real id m k X).trans ?_
  rw [if_neg (Nat.not_le.mpr h), neg_one_mul, if_neg (not_lt.mpr (C14_stats_estimate_nonneg m k X h))]

theorem C14_stats_fpr (m k : Nat) (n : Int) :
    currentFpr (α := ℝ) m k n = (1 - Real.exp (-((k : ℝ) * (n : ℝ)) / (m : ℝ))) ^ k := by
  refine (currentFpr_real id m k n).trans ?_
  rw [Real.rpow_natCast, Int.cast_mul, Int.cast_mul, Int.cast_neg, Int.cast_one, Int.cast_natCast,
    mul_neg_one, neg_mul]

theorem C14_stats_union_count (a b r : Bloom) (same : Bool)
    (h : Bloom.union (fun m k x => estimateElements (α := ℝ) m k x) a b same = some r) :
    r.count = estimateElements (α := ℝ) r.m r.k r.setBits :=
  C14_bloom_union_count _ a b r same h

section Tests

instance (c : Cuckoo) : Decidable (CountInv c) := by unfold CountInv; infer_instance

example : C15.c2.count = 2 ∧ C15.c2.unique = 0 := by decide
example : CountInv C15.c2 :=
  C14_cuckoo_run C15.G0 C15.c0 _ (C15.C15_init C15.G0 false 2 1 2 2 false 8 (by decide) (by decide) (by decide))
    (C14_cuckoo_init false 2 1 2 2 false 8)
example : ¬ CountInv { C15.c2 with count := 3 } := by decide
example : ¬ CountInv { C15.c2 with unique := 1 } := by decide

/-- the D6 scenario: adds of 2, 4, 4, 6 with auto-expansion; the last one exhausts the swaps and
    expands the table.  Four additions are reported as four, in three bins. -/
def ccfRun : Cuckoo := C15.run C15.G0 (Cuckoo.new true 2 1 2 2 true 8)
    [(.add 2, []), (.add 4, [0, 0]), (.add 4, []), (.add 6, [0, 0, 0])]
theorem ccfRun_eq : ccfRun = { Cuckoo.new true 4 1 2 2 true 8 with
    buckets := [[(4, 2)], [(2, 1)], [(6, 1)], []], count := 4, unique := 3 } := by decide
example : ccfRun.buckets = [[(4, 2)], [(2, 1)], [(6, 1)], []] := by rw [ccfRun_eq]
example : ccfRun.count = 4 ∧ ccfRun.unique = 3 ∧ ccfRun.cap = 4 := by
  rw [ccfRun_eq]
  decide
example : CountInv ccfRun := by
  rw [ccfRun_eq]
  decide
example : CountInv ccfRun :=
  C14_cuckoo_reachable C15.G0 true 2 1 2 2 true 8 (by decide) (by decide) (by decide) _
/-- the defective recount (every re-inserted bin counted as 1) violates the invariant -/
example : ¬ CountInv { ccfRun with count := 3 } := by
  rw [ccfRun_eq]
  decide
example : (C15.run C15.G0 ccfRun [(.remove 4, [])]).count = 3 ∧ (C15.run C15.G0 ccfRun [(.remove 4, [])]).unique = 3 := by
  rw [ccfRun_eq]
  decide
example : (C15.run C15.G0 ccfRun [(.remove 4, []), (.remove 4, [])]).count = 2 ∧
    (C15.run C15.G0 ccfRun [(.remove 4, []), (.remove 4, [])]).unique = 2 := by
  rw [ccfRun_eq]
  decide
example : loadNum ccfRun = 3 ∧ loadNum C15.c2 = 2 := by
  rw [ccfRun_eq]
  decide

def b0 : Bloom := Bloom.new 10 0 2 16
example : (brun b0 [.add [1, 2], .add [3], .add [4, 5, 6]]).count = 2 := by decide
example : bdoc 2 0 [.add [1, 2], .add [3], .add [4, 5, 6], .clear, .add [7, 8]] = 1 := by decide
example : (brun b0 [.add [1, 2], .add [3], .add [4, 5, 6], .clear, .add [7, 8]]).count = 1 := by decide

/-- the two positions of the first key coincide (3 and 7 mod 4): add 5 makes the cell hold 10, the
    call returns the pre-computed 5 -/
def cb0 : CBF := CBF.new 10 0 2 4
def cbOps : List CbfOp := [.add [3, 7] 5, .remove [3, 7] 2, .add [1, 2] 4, .remove [1, 2] 4]
instance (c : CBF) (op : CbfOp) : Decidable (op.Below c) := by
  cases op <;> simp only [CbfOp.Below] <;> infer_instance
example : (cbfStep cb0 (.add [3, 7] 5)).2 = .ok 5 := rfl
example : (cbfRun cb0 cbOps).count = 3 := by decide
example : (cbOps.map CbfOp.signed).sum = 3 := by decide
example : CbfFine cb0 cbOps := by
  refine ⟨⟨_, rfl⟩, by decide, ⟨_, rfl⟩, by decide, ⟨_, rfl⟩, by decide, ⟨_, rfl⟩, by decide, trivial⟩

def cm0 : CMS := CMS.new 4 2 .min
def cmOther : CMS := ⟨4, 2, [10, 0, 0, 0, 0, 10, 0, 0], 10, .min⟩
def cmOps : List C16.Op := [.add [1, 2] 3, .add [5, 6] 5, .remove [1, 2] 2, .join cmOther true]
example : (C16.run cm0 cmOps).total = 16 := by decide
example : cmsDoc 4 2 0 cmOps = 16 := by decide
example : ∀ op ∈ cmOps, CmsOpOK 2 op := by
  unfold cmOps
  simp only [List.forall_mem_cons, List.not_mem_nil, false_imp_iff, implies_true]
  exact ⟨⟨rfl, by decide⟩, ⟨rfl, by decide⟩, ⟨rfl, by decide⟩, trivial, trivial⟩
example : CmsFits 4 2 0 cmOps :=
  ⟨by decide, by decide, by decide, by decide, by decide, by decide, by decide, by decide, trivial⟩

example : estimateElements (α := ℝ) 8 2 8 = -1 := C14_stats_estimate_full 8 2 8 (by decide)
example : estimateElements (α := ℝ) 8 2 0 = 0 := by
  rw [C14_stats_estimate 8 2 0 (by decide) (by decide)]; simp
example : currentFpr (α := ℝ) 8 2 0 = 0 := by
  rw [C14_stats_fpr]; simp

example : (ccfRun.add C15.G0 4 []).2.1 = none ∧ (ccfRun.add C15.G0 4 []).1.count = 5 := by
  rw [ccfRun_eq]
  decide
example : (ccfRun.remove C15.G0 2).2 = true ∧ (ccfRun.remove C15.G0 2).1.count = 3 := by
  rw [ccfRun_eq]
  decide

example : ∃ o₀, OnDisk.create 3 1036831949 2 10 = .ok o₀ ∧
    (([.add [3, 12], .cycle, .add [5, 6]] : List C11.Op).foldl
      (C11.step fun _ _ => .ok (1036831949, 2, 10)) o₀).count
        = (C11.adds [.add [3, 12], .cycle, .add [5, 6]] : Int) ∧
    ∃ bits, (([.add [3, 12], .cycle, .add [5, 6]] : List C11.Op).foldl
      (C11.step fun _ _ => .ok (1036831949, 2, 10)) o₀).file
        = fileOf bits 3 (C11.adds [.add [3, 12], .cycle, .add [5, 6]] : Int) 1036831949 :=
  C14_ondisk_from_create (fun _ _ => .ok (1036831949, 2, 10)) 3 1036831949 2 10 (by decide) (by decide)
    (by decide) rfl [.add [3, 12], .cycle, .add [5, 6]] (by decide)
example : C11.adds [.add [3, 12], .cycle, .add [5, 6]] = 2 := by decide
example : ddoc 0 [.add [3, 12], .add [1, 2], .clear, .cycle, .add [5, 6]] = 1 := by decide
example : DFits 0 [.add [3, 12], .add [1, 2], .clear, .cycle, .add [5, 6]] :=
  ⟨by decide, by decide, by decide, by decide, by decide, trivial⟩

example : (C09.run (Expanding.new 2 0 2 64) C09.sampleOps).added
    = (Expanding.new 2 0 2 64).added + C09.addCount C09.sampleOps :=
  C14_expanding_counted (Expanding.new 2 0 2 64) C09.sampleOps
example : (C10.run C10.r0 C10.sampleOps).added = C10.r0.added + C10.sampleOps.countP C10.Op.isAdd :=
  C14_rotating_counted C10.r0 C10.sampleOps
example : C10.r0.added = 0 ∧ 0 < C10.sampleOps.countP C10.Op.isAdd := by decide
example : (C09.runA (Expanding.new 2 0 2 64) [.add [1, 2] false, .add [1, 2] false, .push, .add [1] true]).added = 3 := by
  decide

end Tests

end PyProb.C14
