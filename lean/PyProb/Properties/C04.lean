/-
  C04 — the quotient filter is an exact set of 32-bit hashes.

  The model (`PyProb/Model/QF.lean`) mirrors the Python code after the repairs D1 and D2 of DESIGN
  §5: `remove` decrements `elements_added`, and `_add` refuses an insertion when `count ≥ size − 1`,
  so that one slot always stays empty.  The specification (`PyProb/Spec/QF.lean`) is the canonical
  layout `layout q auto S` of a sorted duplicate-free set `S` of (quotient, remainder) pairs.

  Everything holds for every table size 3 ≤ q ≤ 31, every set, every history (no bound anywhere).

  * Layer A (read paths): `C04_contained : A1_contained` — `_contained_at_loc` on the canonical
    table of any canonical set terminates within its fuel and finds exactly the stored elements;
    `C04_hashes : A2_hashes` — `get_hashes` terminates and returns a permutation of the set;
    `C04_layout_fits` — the slot chosen by the layout stays empty and the placement ends in front
    of it (the combinatorial core: a cycle lemma); `C04_check_layout`.
  * Layer B (write paths): `C04_B1_add : B1_add` — `_add` maps `layout S` to `layout (S ∪ {x})`
    (proof in `Lemmas/QFWriteAdd*.lean`); `C04_B2_remove : B2_remove` — `_remove_element` maps
    `layout S` to `layout (S ∖ {x})`: the metadata repair pass restores canonical form (proof in
    `Lemmas/QFWriteRemove*.lean`).
  * Layer C (histories) is stated GIVEN the layers, as hypotheses `A1_contained … B2_remove`, so
    that it shows what the induction over histories uses: `C04_partial`, `C04_partial_inv`,
    `C04_partial_remove_total`, `C04_partial_add_outcome` (and the `…_B` forms with Layer A filled in).
    After every history of `add | remove | resize | merge` calls, manual and automatic resize,
    from `QuotientFilter(q, auto)`, in which no call raised: the complete state equals
    `layout q' (set of the history)`, `check_alt` is membership, `get_hashes` is a duplicate-free
    listing of that set, `elements_added` is its size; `remove` never raises or diverges, `add`
    (no auto-resize) succeeds or is refused with `QuotientFilterError` exactly when the hash is new
    and the table is full.  `C04_setOf_spec`, `C04_setOf_sorted`: the specification set is the
    mathematical one.  `C04_run_prefix`: a history that ends in `.ok` contains no call that raised
    or diverged.
  * With the layers filled in: **`C04_exact_set : C04_full_statement`**, `C04_remove_total`,
    `C04_add_outcome`, without hypotheses.
  * `C04_exact_set_universe` (instances `C04_exact_set_bounded`, `C04_exact_set_bounded_B` for the
    universes `QFBounded.UA`, `QFBounded.UB`): the exact-set statement for `add`/`remove` histories of
    any length over a universe of elements of the 8-slot table, from `UniverseOK` alone — the
    Boolean checks of `Lemmas/QFBoundedDefs.lean`, i.e. what evaluating the model on every subset of
    the universe establishes.  `UniverseOK.of_sorted`: the checks succeed for every strictly sorted
    universe, by Layers A and B (`Lemmas/QFBounded.lean`).
  * single calls, no canonical-table hypothesis: `C04_new`, `C04_new_arrays`, `C04_layout_shape`,
    `C04_check_empty`, `C04_add_first`, `C04_add_refused_iff`, `C04_add_refused_unchanged`,
    `C04_remove_absent`, `C04_shape_add`, `C04_shape_remove`, `C04_count_step_add`,
    `C04_count_step_remove`, `C04_count_step`.

  Termination of the budgeted calls (`add_alt` with auto-resize, `resize`, `merge`) is in the
  second module `Properties/C04_termination.lean` (it has to import this file): with the budget the
  driver uses they never report `diverged`.  `Properties/C04_selfmerge.lean`: a filter merged into
  itself.
-/
import PyProb.Lemmas.QFWriteAdd
import PyProb.Lemmas.QFWriteRemove
import PyProb.Lemmas.QFSet
import PyProb.Lemmas.QFBasic
import PyProb.Lemmas.QFLayout
import PyProb.Lemmas.QFReadLayout
import PyProb.Lemmas.QFBounded

namespace PyProb.C04
open PyProb PyProb.Spec PyProb.QF

/-! ### the refinement hypotheses (Layers A and B) -/

/-- an element that fits a table with `2^q` slots and `32 - q` remainder bits -/
def InRange (q : Nat) (x : Elem) : Prop := x.1 < 2 ^ q ∧ x.2 < 2 ^ (32 - q)

instance (q : Nat) (x : Elem) : Decidable (InRange q x) := by unfold InRange; infer_instance

/-- Layer A1: on a canonical table the look-up terminates and finds exactly the stored elements -/
def A1_contained : Prop :=
  ∀ (q : Nat) (auto : Bool) (S : List Elem) (x : Elem), Canon q S → InRange q x →
    ∃ o, containedAtLoc (layout q auto S) x.1 x.2 = .ok o ∧ (o.isSome = true ↔ x ∈ S)

/-- Layer A2: on a canonical table the iteration terminates and yields every stored hash once -/
def A2_hashes : Prop :=
  ∀ (q : Nat) (auto : Bool) (S : List Elem), Canon q S →
    ∃ l, getHashes (layout q auto S) = .ok l ∧ l.Perm (S.map (enc q))

/-- Layer B1: inserting a new element into a canonical table that keeps one slot empty gives the
    canonical table of the larger set (with the counter incremented) -/
def B1_add : Prop :=
  ∀ (q : Nat) (auto : Bool) (S : List Elem) (x : Elem), Canon q S → InRange q x →
    S.length + 1 < 2 ^ q → x ∉ S →
    addQR (layout q auto S) x.1 x.2 = .ok (layout q auto (insert x S))

/-- Layer B2: removing a stored element from a canonical table gives the canonical table of the
    smaller set (with the counter decremented) -/
def B2_remove : Prop :=
  ∀ (q : Nat) (auto : Bool) (S : List Elem) (x : Elem), Canon q S → x ∈ S →
    removeQR (layout q auto S) x.1 x.2 = .ok (layout q auto (erase x S))

/-- the public operations, on pre-hashed values; `merge` is given the hashes of the other filter -/
inductive Op
  | add (h : Nat)
  | remove (h : Nat)
  | resize (quotient : Option Int)
  | merge (hs : List Nat)

/-- all hashes are 32-bit values -/
def Op.InRange : Op → Prop
  | .add h => h < 2 ^ 32
  | .remove h => h < 2 ^ 32
  | .resize _ => True
  | .merge hs => ∀ h ∈ hs, h < 2 ^ 32

/-- one call on the model; `b` is the model's budget for nested resizes (the driver uses
    `QF.budgetOf s = 4·count + 128`; `QF.merge s hs` is `addAll (budgetOf s + 4·|hs|) s hs`).  A `merge` that fails half
    way counts as raised. -/
def step (b : Nat) (s : QF) : Op → R QF
  | .add h => addAlt b s h
  | .remove h => removeAlt s h
  | .resize qn => QF.resize b s qn
  | .merge hs => match addAll b s hs with
      | (t, none) => .ok t
      | (_, some e) => .error e

/-- a history in which no call raised ends in `.ok` -/
def run (b : Nat) : QF → List Op → R QF
  | s, [] => .ok s
  | s, op :: ops => match step b s op with
      | .error e => .error e
      | .ok t => run b t ops

/-- `load_factor >= max_load_factor` for `c` elements in `2^q` slots (the comparison the code makes) -/
def over (q c : Nat) : Bool :=
  Gen.qfResizeCmp.evalInt ((c : Int) * Gen.qfMaxLoadDen) ((Gen.qfMaxLoadNum : Int) * ((2 ^ q : Nat) : Int))

/-- the specification state: the quotient size and the set of hashes (strictly sorted list) -/
structure Abs where
  q : Nat
  H : List Nat
  deriving DecidableEq, Repr

/-- `add`: the table doubles first when auto-resize is on and the load factor is reached -/
def absAdd (auto : Bool) (a : Abs) (h : Nat) : Abs :=
  ⟨if auto && over a.q a.H.length then a.q + 1 else a.q, insertN h a.H⟩

/-- quotient size after re-inserting `k` new hashes into a table holding `c` -/
def qIter (auto : Bool) : Nat → Nat → Nat → Nat
  | q, _, 0 => q
  | q, c, k + 1 => qIter auto (if auto && over q c then q + 1 else q) (c + 1) k

def absStep (auto : Bool) (a : Abs) : Op → Abs
  | .add h => absAdd auto a h
  | .remove h => ⟨a.q, eraseN h a.H⟩
  | .resize qn => ⟨qIter auto (qn.getD (a.q + 1)).toNat 0 a.H.length, a.H⟩
  | .merge hs => hs.foldl (absAdd auto) a

/-- the set of hashes (and the table size) a history leads to -/
def absRun (auto : Bool) (a : Abs) (ops : List Op) : Abs := ops.foldl (absStep auto) a

/-- the set of hashes of a history: added and not removed since -/
def setOf (auto : Bool) (q : Nat) (ops : List Op) : List Nat := (absRun auto ⟨q, []⟩ ops).H

/-- the refinement invariant: the complete state is the canonical table of the set -/
structure Inv (auto : Bool) (s : QF) (a : Abs) : Prop where
  q3 : 3 ≤ a.q
  q31 : a.q ≤ 31
  sorted : SortedN a.H
  range : ∀ h ∈ a.H, h < 2 ^ 32
  room : a.H.length < 2 ^ a.q
  eq : s = layout a.q auto (pairs a.q a.H)

/-- `QuotientFilter(q, auto)`: the canonical table of the empty set for 3 ≤ q ≤ 31 (all-zero
    arrays of length `2^q`, counter 0), `QuotientFilterError` otherwise -/
theorem C04_new (q : Int) (auto : Bool) :
    QF.new q auto = if 3 ≤ q ∧ q ≤ 31 then .ok (layout q.toNat auto []) else .error .qfError := by
  unfold QF.new
  rw [layout_nil]
  by_cases h : 3 ≤ q ∧ q ≤ 31
  · rw [if_pos h, if_neg (by omega)]
  · rw [if_neg h, if_pos (by omega)]

theorem C04_new_arrays (q : Nat) (auto : Bool) :
    layout q auto [] = ⟨q, List.replicate (2 ^ q) 0, List.replicate (2 ^ q) false,
      List.replicate (2 ^ q) false, List.replicate (2 ^ q) false, 0, auto⟩ := by
  rw [layout_nil]; rfl

/-- every canonical table has the shape of its quotient size -/
theorem C04_layout_shape (q : Nat) (auto : Bool) (S : List Elem) :
    let s := layout q auto S
    s.q = q ∧ s.auto = auto ∧ s.count = (S.length : Nat) ∧ s.rem.length = 2 ^ q ∧
      s.occ.length = 2 ^ q ∧ s.cont.length = 2 ^ q ∧ s.shift.length = 2 ^ q := by
  simp

private theorem bit_replicate (n i : Nat) : bit (List.replicate n false) i = false :=
  getD_replicate n i false

/-- nothing is contained in the empty filter -/
theorem C04_check_empty (q : Nat) (auto : Bool) (h : Nat) :
    checkAlt (layout q auto []) h = .ok false := by
  simp [checkAlt, containedAtLoc, layout_nil, QF.empty, bit_replicate]

/-- `_add` refuses with `QuotientFilterError` exactly when only one empty slot is left -/
theorem C04_add_refused_iff (s : QF) (qq rr : Nat) :
    addQR s qq rr = .error .qfError ↔ s.count ≥ (s.size : Int) - 1 := by
  rw [addQR_eq]
  constructor
  · intro h
    split at h
    · assumption
    · split at h
      · rename_i e he
        have := addCore_err _ _ _ _ he
        subst this; cases h
      · cases h
  · intro h; rw [if_pos h]

/-- a refused `_add` makes `add_alt` return the error and nothing else (the model is functional;
    the Python method raises before any store, so the object is as it was) -/
theorem C04_add_refused_unchanged (b : Nat) (s : QF) (h : Nat) (hauto : s.auto = false)
    (hc : containedAtLoc s (s.quotOf h) (s.remOf h) = .ok none)
    (hfull : s.count ≥ (s.size : Int) - 1) : addAlt (b + 1) s h = .error .qfError := by
  rw [addAlt_noresize b s h (by simp [hauto])]
  simp only [addTail, hc]
  exact (C04_add_refused_iff s _ _).2 hfull

/-- removing a hash that the look-up does not find leaves the state unchanged -/
theorem C04_remove_absent (s : QF) (qq rr : Nat) (h : containedAtLoc s qq rr = .ok none) :
    removeQR s qq rr = .ok s := by
  simp [removeQR, h]

/-- a successful `_add` keeps the shape of the table and increments the counter by one -/
theorem C04_shape_add (s : QF) (qq rr : Nat) (t : QF) (h : addQR s qq rr = .ok t) :
    SameShape { s with count := s.count + 1 } t := by
  rw [addQR_eq] at h
  split at h
  · cases h
  · split at h
    · cases h
    · rename_i t' ht'
      cases h
      have := addCore_shape _ _ _ _ ht'
      constructor <;> simp [this.q, this.auto, this.rem, this.occ, this.cont, this.shift, this.count]

theorem C04_count_step_add (s : QF) (qq rr : Nat) (t : QF) (h : addQR s qq rr = .ok t) :
    t.count = s.count + 1 := (C04_shape_add s qq rr t h).count

/-- `_remove_element` keeps the shape of the table; the counter is decremented by one when the
    look-up found the element and unchanged otherwise -/
theorem C04_shape_remove (s : QF) (qq rr : Nat) (t : QF) (h : removeQR s qq rr = .ok t) :
    ∃ o, containedAtLoc s qq rr = .ok o ∧
      SameShape { s with count := if o.isSome then s.count - 1 else s.count } t := by
  cases hc : containedAtLoc s qq rr with
  | error e => simp [removeQR, hc] at h
  | ok o =>
      refine ⟨o, rfl, ?_⟩
      cases o with
      | none =>
          rw [C04_remove_absent s qq rr hc] at h
          cases h; exact SameShape.refl _
      | some idx => exact removeQR_shape_some s qq rr idx t hc h

theorem C04_count_step_remove (s : QF) (qq rr : Nat) (t : QF) (h : removeQR s qq rr = .ok t) :
    (∃ idx, containedAtLoc s qq rr = .ok (some idx) ∧ t.count = s.count - 1) ∨
    (containedAtLoc s qq rr = .ok none ∧ t = s) := by
  obtain ⟨o, ho, hs⟩ := C04_shape_remove s qq rr t h
  cases o with
  | none =>
      right; refine ⟨ho, ?_⟩
      rw [C04_remove_absent s qq rr ho] at h; cases h; rfl
  | some idx => left; exact ⟨idx, ho, hs.count⟩

/-- `add_alt` without auto-resize changes the counter by one exactly when the look-up did not
    find the hash -/
theorem C04_count_step (b : Nat) (s : QF) (h : Nat) (t : QF) (hauto : s.auto = false)
    (hr : addAlt (b + 1) s h = .ok t) :
    (∃ idx, containedAtLoc s (s.quotOf h) (s.remOf h) = .ok (some idx) ∧ t = s) ∨
    (containedAtLoc s (s.quotOf h) (s.remOf h) = .ok none ∧ t.count = s.count + 1) := by
  rw [addAlt_noresize b s h (by simp [hauto])] at hr
  simp only [addTail] at hr
  cases hc : containedAtLoc s (s.quotOf h) (s.remOf h) with
  | error e => simp [hc] at hr
  | ok o =>
      cases o with
      | none =>
          right; simp only [hc] at hr
          exact ⟨rfl, C04_count_step_add _ _ _ _ hr⟩
      | some idx =>
          left; simp only [hc] at hr
          cases hr; exact ⟨idx, rfl, rfl⟩

/-- adding to the empty filter gives the canonical table of one element -/
theorem C04_add_first (q : Nat) (hq : 1 ≤ q) (auto : Bool) (x : Elem) (hx : x.1 < 2 ^ q) :
    addQR (layout q auto []) x.1 x.2 = .ok (layout q auto [x]) := by
  have hn : 2 ≤ 2 ^ q := by
    calc 2 = 2 ^ 1 := rfl
      _ ≤ 2 ^ q := Nat.pow_le_pow_right (by omega) hq
  rw [layout_single q hq auto x hx, layout_nil, addQR_eq]
  have h1 : ¬ ((QF.empty q auto).count ≥ ((QF.empty q auto).size : Int) - 1) := by
    simp only [QF.empty, QF.size]
    have : ((2 ^ q : Nat) : Int) ≥ 2 := by exact_mod_cast hn
    omega
  rw [if_neg h1]
  simp [addCore, QF.isEmpty, QF.empty, bit_replicate]

/-! ### the set of a history is the mathematical set "added and not removed since" -/

theorem mem_foldl_insertN (l : List Nat) (H : List Nat) (x : Nat) :
    x ∈ l.foldl (fun H h => insertN h H) H ↔ x ∈ l ∨ x ∈ H := by
  induction l generalizing H with
  | nil => simp
  | cons h l ih =>
      rw [List.foldl_cons, ih, insertN, mem_insertBy, List.mem_cons]
      constructor
      · rintro (h1 | h1 | h1) <;> simp [h1]
      · rintro ((h1 | h1) | h1) <;> simp [h1]

theorem sorted_foldl_insertN (l : List Nat) (H : List Nat) (hH : SortedN H) :
    SortedN (l.foldl (fun H h => insertN h H) H) := by
  induction l generalizing H with
  | nil => exact hH
  | cons h l ih => rw [List.foldl_cons]; exact ih _ (sorted_insertBy ltN_total h H hH)

private theorem absAdd_H (auto : Bool) (a : Abs) (h : Nat) : (absAdd auto a h).H = insertN h a.H := rfl

theorem foldl_absAdd_H (auto : Bool) (l : List Nat) (a : Abs) :
    (l.foldl (absAdd auto) a).H = l.foldl (fun H h => insertN h H) a.H := by
  induction l generalizing a with
  | nil => rfl
  | cons h l ih => rw [List.foldl_cons, List.foldl_cons, ih]; rfl

/-- the specification set is kept strictly sorted (hence duplicate-free) by every operation -/
theorem C04_setOf_sorted (auto : Bool) (a : Abs) (op : Op) (h : SortedN a.H) :
    SortedN (absStep auto a op).H := by
  cases op with
  | add x => exact sorted_insertBy ltN_total x _ h
  | remove x => exact sorted_erase h x
  | resize qn => exact h
  | merge hs =>
      show SortedN (hs.foldl (absAdd auto) a).H
      rw [foldl_absAdd_H]; exact sorted_foldl_insertN hs _ h

/-- … and changes as a mathematical set does: `add` inserts, `remove` deletes, `resize` keeps,
    `merge` unites -/
theorem C04_setOf_spec (auto : Bool) (a : Abs) (hs : SortedN a.H) (x : Nat) :
    (∀ h, x ∈ (absStep auto a (.add h)).H ↔ x = h ∨ x ∈ a.H) ∧
    (∀ h, x ∈ (absStep auto a (.remove h)).H ↔ x ≠ h ∧ x ∈ a.H) ∧
    (∀ qn, x ∈ (absStep auto a (.resize qn)).H ↔ x ∈ a.H) ∧
    (∀ l, x ∈ (absStep auto a (.merge l)).H ↔ x ∈ l ∨ x ∈ a.H) := by
  refine ⟨?_, ?_, ?_, ?_⟩
  · intro h; exact mem_insertBy h x a.H
  · intro h; exact mem_erase_sorted ltN_total hs h x
  · intro qn; exact Iff.rfl
  · intro l
    show x ∈ (l.foldl (absAdd auto) a).H ↔ _
    rw [foldl_absAdd_H]; exact mem_foldl_insertN l _ x

theorem layout_quotOf (q : Nat) (auto : Bool) (S : List Elem) (h : Nat) :
    (layout q auto S).quotOf h = (dec q h).1 := rfl

theorem layout_remOf (q : Nat) (auto : Bool) (S : List Elem) (h : Nat) :
    (layout q auto S).remOf h = (dec q h).2 := rfl

theorem dec_inRange (q h : Nat) (hq : q ≤ 32) (hh : h < 2 ^ 32) : InRange q (dec q h) :=
  ⟨dec_fst_lt q h hq hh, dec_snd_lt q h⟩

theorem inv_canon {auto : Bool} {s : QF} {a : Abs} (hI : Inv auto s a) :
    Canon a.q (pairs a.q a.H) := by
  refine ⟨hI.q3, hI.q31, pairs_sorted _ _ hI.sorted, ?_, ?_⟩
  · intro x hx
    simp only [pairs, List.mem_map] at hx
    obtain ⟨h, hh, rfl⟩ := hx
    exact dec_inRange _ _ (by have := hI.q31; omega) (hI.range h hh)
  · simp only [pairs, List.length_map]; exact hI.room

theorem inv_empty (auto : Bool) (q : Nat) (h3 : 3 ≤ q) (h31 : q ≤ 31) :
    Inv auto (QF.empty q auto) ⟨q, []⟩ :=
  ⟨h3, h31, by simp [SortedBy], by simp, by simp [Nat.two_pow_pos], by simp [pairs, layout_nil]⟩

theorem inv_count {auto : Bool} {s : QF} {a : Abs} (hI : Inv auto s a) :
    s.count = (a.H.length : Nat) := by
  rw [hI.eq]; simp [pairs]

theorem inv_overLoaded {auto : Bool} {s : QF} {a : Abs} (hI : Inv auto s a) :
    s.overLoaded = over a.q a.H.length := by
  rw [hI.eq]
  show over a.q (a.H.map (dec a.q)).length = _
  rw [List.length_map]

/-! #### the single calls on a canonical table -/

/-- Layer A1 at one table and one hash: the look-up of `h` in the canonical table of the set `H`
    terminates and finds `h` exactly when it is in `H` -/
def Lookup (q : Nat) (auto : Bool) (H : List Nat) (h : Nat) : Prop :=
  ∃ o, containedAtLoc (layout q auto (pairs q H)) (dec q h).1 (dec q h).2 = .ok o ∧
    (o.isSome = true ↔ h ∈ H)

/-- Layers A1, B1 and B2 at one table and one hash: what look-up, `_add` and `_remove_element` do
    with the hash `h` on the canonical table of the set `H` -/
structure Refines (q : Nat) (auto : Bool) (H : List Nat) (h : Nat) : Prop where
  lookup : Lookup q auto H h
  add : h ∉ H → H.length + 1 < 2 ^ q →
    addQR (layout q auto (pairs q H)) (dec q h).1 (dec q h).2 =
      .ok (layout q auto (pairs q (insertN h H)))
  remove : h ∈ H →
    removeQR (layout q auto (pairs q H)) (dec q h).1 (dec q h).2 =
      .ok (layout q auto (pairs q (eraseN h H)))

variable {q : Nat} {auto : Bool} {H : List Nat} {h : Nat}

theorem checkAlt_layout (L : Lookup q auto H h) :
    checkAlt (layout q auto (pairs q H)) h = .ok (decide (h ∈ H)) := by
  obtain ⟨o, ho, hiff⟩ := L
  simp only [checkAlt, layout_quotOf, layout_remOf, ho]
  congr 1
  rw [Bool.eq_iff_iff, hiff, decide_eq_true_iff]

/-- look-up and insertion (`add_alt` after the resize test) give the canonical table of the larger
    set; they are refused exactly for a new hash into a table with one free slot -/
theorem addTail_layout (R : Refines q auto H h) (hs : SortedN H) :
    addTail (layout q auto (pairs q H)) h =
      if h ∉ H ∧ 2 ^ q ≤ H.length + 1 then .error .qfError
      else .ok (layout q auto (pairs q (insertN h H))) := by
  obtain ⟨o, ho, hiff⟩ := R.lookup
  rw [addTail, layout_quotOf, layout_remOf, ho]
  cases o with
  | some idx =>
      have hm : h ∈ H := hiff.1 rfl
      rw [if_neg (fun hc => hc.1 hm), show insertN h H = H from insertBy_of_mem ltN_total h H hs hm]
  | none =>
      have hnm : h ∉ H := fun hm => by simpa using hiff.2 hm
      show addQR _ _ _ = _
      by_cases hfull : 2 ^ q ≤ H.length + 1
      · rw [if_pos ⟨hnm, hfull⟩]
        refine (C04_add_refused_iff _ _ _).2 ?_
        simp only [layout_count, layout_size, pairs, List.length_map]
        omega
      · rw [if_neg (fun hc => hfull hc.2)]
        exact R.add hnm (by omega)

theorem removeAlt_layout (R : Refines q auto H h) :
    removeAlt (layout q auto (pairs q H)) h = .ok (layout q auto (pairs q (eraseN h H))) := by
  rw [removeAlt, layout_quotOf, layout_remOf]
  by_cases hm : h ∈ H
  · exact R.remove hm
  · obtain ⟨o, ho, hiff⟩ := R.lookup
    cases o with
    | some idx => exact absurd (hiff.1 rfl) hm
    | none => rw [C04_remove_absent _ _ _ ho, eraseN, List.erase_of_not_mem hm]

theorem length_insertN (hs : SortedN H) :
    (insertN h H).length = if h ∈ H then H.length else H.length + 1 := by
  split
  · rename_i hm; rw [show insertN h H = H from insertBy_of_mem ltN_total h H hs hm]
  · rename_i hm; exact length_insertBy_of_not_mem h H hm

/-- an insertion that is not refused found the hash or had room for it -/
theorem length_insertN_lt (hs : SortedN H) {n : Nat} (hl : H.length < n)
    (hc : ¬ (h ∉ H ∧ n ≤ H.length + 1)) : (insertN h H).length < n := by
  rw [length_insertN hs]
  split
  · exact hl
  · rename_i hm; exact Nat.lt_of_not_le fun hle => hc ⟨hm, hle⟩

omit q auto H h

/-- the layer hypotheses at a canonical state -/
theorem Inv.lookup (hA1 : A1_contained) {auto : Bool} {s : QF} {a : Abs} (hI : Inv auto s a) {h : Nat}
    (hh : h < 2 ^ 32) : Lookup a.q auto a.H h := by
  obtain ⟨o, ho, hiff⟩ := hA1 a.q auto _ _ (inv_canon hI)
    (dec_inRange a.q h (by have := hI.q31; omega) hh)
  rw [mem_pairs] at hiff
  exact ⟨o, ho, hiff⟩

theorem Inv.refines (hA1 : A1_contained) (hB1 : B1_add) (hB2 : B2_remove) {auto : Bool} {s : QF}
    {a : Abs} (hI : Inv auto s a) {h : Nat} (hh : h < 2 ^ 32) : Refines a.q auto a.H h := by
  have hC := inv_canon hI
  have hR := dec_inRange a.q h (by have := hI.q31; omega) hh
  refine ⟨hI.lookup hA1 hh, fun hnm hroom => ?_, fun hm => ?_⟩
  · rw [pairs_insertN]
    exact hB1 a.q auto _ _ hC hR (by simp only [pairs, List.length_map]; exact hroom)
      (fun hm => hnm ((mem_pairs a.q h a.H).1 hm))
  · rw [eraseN, pairs_erase]
    exact hB2 a.q auto _ _ hC ((mem_pairs a.q h a.H).2 hm)

/-- look-up and insertion on a canonical state: success with the canonical table of the larger set,
    or refusal because the hash is new and only one slot is left — never `diverged` -/
theorem addTail_spec (hA1 : A1_contained) (hB1 : B1_add) (hB2 : B2_remove) {auto : Bool} {s : QF}
    {a : Abs} (hI : Inv auto s a) {h : Nat} (hh : h < 2 ^ 32) :
    (∃ t, addTail s h = .ok t ∧ Inv auto t ⟨a.q, insertN h a.H⟩) ∨
    (addTail s h = .error .qfError ∧ h ∉ a.H ∧ 2 ^ a.q ≤ a.H.length + 1) := by
  rw [hI.eq, addTail_layout (hI.refines hA1 hB1 hB2 hh) hI.sorted]
  by_cases hc : h ∉ a.H ∧ 2 ^ a.q ≤ a.H.length + 1
  · rw [if_pos hc]; exact Or.inr ⟨rfl, hc⟩
  · rw [if_neg hc]
    refine Or.inl ⟨_, rfl, hI.q3, hI.q31, sorted_insertBy ltN_total h a.H hI.sorted, ?_,
      length_insertN_lt hI.sorted hI.room hc, rfl⟩
    intro x hx
    rcases (mem_insertBy h x a.H).1 hx with e | hx
    · rw [e]; exact hh
    · exact hI.range x hx

theorem addTail_inv (hA1 : A1_contained) (hB1 : B1_add) (hB2 : B2_remove) {auto : Bool} {s : QF}
    {a : Abs} (hI : Inv auto s a) {h : Nat} (hh : h < 2 ^ 32) {t : QF} (ht : addTail s h = .ok t) :
    Inv auto t ⟨a.q, insertN h a.H⟩ := by
  rcases addTail_spec hA1 hB1 hB2 hI hh with ⟨t', ht', hI'⟩ | ⟨he, _⟩
  · rw [ht] at ht'; cases ht'; exact hI'
  · rw [ht] at he; cases he

/-- `remove` on a canonical state returns normally, with the canonical table of the smaller set -/
theorem removeAlt_spec (hA1 : A1_contained) (hB1 : B1_add) (hB2 : B2_remove) {auto : Bool} {s : QF}
    {a : Abs} (hI : Inv auto s a) {h : Nat} (hh : h < 2 ^ 32) :
    ∃ t, removeAlt s h = .ok t ∧ Inv auto t ⟨a.q, eraseN h a.H⟩ := by
  rw [hI.eq, removeAlt_layout (hI.refines hA1 hB1 hB2 hh)]
  refine ⟨_, rfl, hI.q3, hI.q31, sorted_erase hI.sorted h,
    fun x hx => hI.range x (List.mem_of_mem_erase hx), ?_, rfl⟩
  exact Nat.lt_of_le_of_lt List.length_erase_le hI.room

/-! #### the set of hashes after a re-insertion -/

/-- a half-full table is not over-loaded: `c < 2^q` elements in `2^(q+1)` slots -/
theorem over_false_of_half (q c : Nat) (hc : c < 2 ^ q) : over (q + 1) c = false := by
  have hp : 2 ^ (q + 1) = 2 * 2 ^ q := by rw [Nat.pow_succ]; omega
  simp only [over, Gen.qfResizeCmp, Cmp.evalInt, Gen.qfMaxLoadDen, Gen.qfMaxLoadNum, hp,
    decide_eq_false_iff_not]
  omega

theorem qIter_const (auto : Bool) (q c k : Nat) (h : ∀ i, i < k → over q (c + i) = false) :
    qIter auto q c k = q := by
  induction k generalizing c with
  | zero => rfl
  | succ k ih =>
      have h0 := h 0 (by omega)
      simp only [Nat.add_zero] at h0
      simp only [qIter, h0, Bool.and_false, Bool.false_eq_true, if_false]
      apply ih
      intro i hi
      have := h (i + 1) (by omega)
      rwa [show c + (i + 1) = c + 1 + i by omega] at this

theorem foldl_absAdd_fresh (auto : Bool) (l : List Nat) (a : Abs) (hnd : l.Nodup)
    (hfresh : ∀ h ∈ l, h ∉ a.H) :
    l.foldl (absAdd auto) a =
      ⟨qIter auto a.q a.H.length l.length, l.foldl (fun H h => insertN h H) a.H⟩ := by
  induction l generalizing a with
  | nil => rfl
  | cons h l ih =>
      rw [List.nodup_cons] at hnd
      have hh : h ∉ a.H := hfresh h (by simp)
      rw [List.foldl_cons, ih _ hnd.2]
      · have hlen : (insertN h a.H).length = a.H.length + 1 := length_insertBy_of_not_mem h a.H hh
        simp only [absAdd, hlen, List.length_cons, qIter, List.foldl_cons]
      · intro x hx hm
        rcases (mem_insertBy h x a.H).1 hm with e | hm
        · subst e; exact hnd.1 hx
        · exact hfresh x (List.mem_cons_of_mem _ hx) hm

/-- re-inserting a permutation of a set into the empty table gives that set -/
theorem foldl_insertN_perm (l H : List Nat) (hH : SortedN H) (hp : l.Perm H) :
    l.foldl (fun H h => insertN h H) [] = H := by
  apply sorted_ext ltN_total (sorted_foldl_insertN l [] (by simp [SortedBy])) hH
  intro x
  rw [mem_foldl_insertN, hp.mem_iff]; simp

theorem foldl_absAdd_perm (auto : Bool) (l H : List Nat) (q : Nat) (hH : SortedN H)
    (hp : l.Perm H) :
    l.foldl (absAdd auto) ⟨q, []⟩ = ⟨qIter auto q 0 H.length, H⟩ := by
  have hnd : l.Nodup := hp.nodup_iff.2 (sorted_nodup ltN_total hH)
  rw [foldl_absAdd_fresh auto l ⟨q, []⟩ hnd (by simp)]
  simp only [List.length_nil, hp.length_eq]
  congr 1
  exact foldl_insertN_perm l H hH hp

/-- `resize(quotient)` on a canonical table either refuses (`QuotientFilterError`: quotient outside
    3..31 or too small for the elements) or is the re-insertion of a listing of the set into the
    empty table of the new size -/
theorem resize_cases (hA2 : A2_hashes) {auto : Bool} {s : QF} {a : Abs} (hI : Inv auto s a) (b : Nat)
    (qn : Option Int) :
    (QF.resize (b + 1) s qn = .error .qfError ∧
      ¬ (3 ≤ qn.getD ((a.q : Int) + 1) ∧ qn.getD ((a.q : Int) + 1) ≤ 31 ∧
          a.H.length < 2 ^ (qn.getD ((a.q : Int) + 1)).toNat)) ∨
    (∃ (q' : Nat) (l : List Nat), qn.getD ((a.q : Int) + 1) = (q' : Int) ∧ 3 ≤ q' ∧ q' ≤ 31 ∧
      a.H.length < 2 ^ q' ∧ l.Perm a.H ∧
      QF.resize (b + 1) s qn =
        match addAll b (QF.empty q' auto) l with
        | (s', none) => .ok s'
        | (_, some e) => .error e) := by
  have hsq : s.q = a.q := by rw [hI.eq]; rfl
  have hauto : s.auto = auto := by rw [hI.eq]; rfl
  have hcnt := inv_count hI
  obtain ⟨l, hl, hp⟩ := hA2 a.q auto _ (inv_canon hI)
  rw [map_enc_pairs] at hp
  have hl' : s.getHashes = .ok l := by rw [hI.eq]; exact hl
  rw [QF.resize, hsq, hauto, hcnt, hl']
  generalize qn.getD ((a.q : Int) + 1) = qn'
  have hpow : ((2 ^ qn'.toNat : Nat) : Int) = (2 : Int) ^ qn'.toNat := by
    rw [Int.natCast_pow]; rfl
  simp only []
  by_cases h1 : qn' ≥ 0 ∧ ((a.H.length : Nat) : Int) ≥ 2 ^ qn'.toNat
  · left
    rw [if_pos h1]
    refine ⟨rfl, ?_⟩
    rintro ⟨_, _, hlt⟩
    omega
  · rw [if_neg h1]
    by_cases h2 : qn' < 3 ∨ qn' > 31
    · left
      rw [if_pos h2]
      refine ⟨rfl, ?_⟩
      rintro ⟨_, _, _⟩
      omega
    · right
      rw [if_neg h2]
      refine ⟨qn'.toNat, l, by omega, by omega, by omega, by omega, hp, rfl⟩

/-! #### every call that returns normally keeps the state canonical (any budget) -/

/-- the three mutually recursive write entries preserve the refinement invariant -/
theorem budget_inv (hA1 : A1_contained) (hA2 : A2_hashes) (hB1 : B1_add) (hB2 : B2_remove) (auto : Bool)
    (b : Nat) :
    (∀ s a h t, Inv auto s a → h < 2 ^ 32 → addAlt b s h = .ok t → Inv auto t (absAdd auto a h)) ∧
    (∀ hs s a t, Inv auto s a → (∀ h ∈ hs, h < 2 ^ 32) → addAll b s hs = (t, none) →
      Inv auto t (hs.foldl (absAdd auto) a)) ∧
    (∀ s a qn t, Inv auto s a → QF.resize b s qn = .ok t →
      Inv auto t (absStep auto a (.resize qn))) := by
  induction b with
  | zero =>
      refine ⟨?_, ?_, ?_⟩
      · intro s a h t _ _ ht; rw [addAlt] at ht; cases ht
      · intro hs s a t _ _ ht; rw [addAll] at ht; cases ht
      · intro s a qn t _ ht; rw [QF.resize] at ht; cases ht
  | succ b ih =>
      obtain ⟨ihA, ihL, ihR⟩ := ih
      refine ⟨?_, ?_, ?_⟩
      · intro s a h t hI hh ht
        rw [addAlt_succ] at ht
        have hauto : s.auto = auto := by rw [hI.eq]; rfl
        rw [hauto, inv_overLoaded hI] at ht
        by_cases hc : (auto && over a.q a.H.length) = true
        · rw [if_pos hc] at ht
          cases hr : QF.resize b s none with
          | error e => rw [hr] at ht; cases ht
          | ok s1 =>
              rw [hr] at ht
              have hI1 := ihR s a none s1 hI hr
              -- the doubled table is at most half full: the re-insertion did not resize again
              have hq : qIter auto (a.q + 1) 0 a.H.length = a.q + 1 := by
                apply qIter_const
                intro i hi
                rw [Nat.zero_add]
                exact over_false_of_half a.q i (by have := hI.room; omega)
              have hI1' : Inv auto s1 ⟨a.q + 1, a.H⟩ := by
                have e : absStep auto a (.resize none) = ⟨a.q + 1, a.H⟩ := by
                  simp only [absStep, Option.getD_none]
                  rw [show ((a.q : Int) + 1).toNat = a.q + 1 by omega, hq]
                rw [e] at hI1; exact hI1
              have := addTail_inv hA1 hB1 hB2 hI1' hh ht
              simp only [absAdd, hc, if_true]
              exact this
        · rw [if_neg hc] at ht
          have := addTail_inv hA1 hB1 hB2 hI hh ht
          simp only [absAdd, hc]
          exact this
      · intro hs
        induction hs with
        | nil =>
            intro s a t hI _ ht
            rw [addAll] at ht
            cases ht; exact hI
        | cons h hs ihl =>
            intro s a t hI hr ht
            rw [addAll] at ht
            cases ha : addAlt b s h with
            | error e => rw [ha] at ht; cases ht
            | ok s' =>
                rw [ha] at ht
                have hI' := ihA s a h s' hI (hr h (by simp)) ha
                rw [List.foldl_cons]
                exact ihL hs s' _ t hI' (fun x hx => hr x (List.mem_cons_of_mem _ hx)) ht
      · intro s a qn t hI ht
        rcases resize_cases hA2 hI b qn with ⟨he, _⟩ | ⟨q', l, hq', h3, h31, hlt, hp, he⟩
        · rw [he] at ht; cases ht
        · rw [he] at ht
          cases hr : addAll b (QF.empty q' auto) l with
          | mk t' oe =>
              rw [hr] at ht
              cases oe with
              | some e => cases ht
              | none =>
                  cases ht
                  have := ihL l _ _ _ (inv_empty auto _ h3 h31)
                    (fun x hx => hI.range x (hp.mem_iff.1 hx)) hr
                  rw [foldl_absAdd_perm auto l a.H _ hI.sorted hp] at this
                  simp only [absStep, hq', Int.toNat_natCast]
                  exact this

theorem step_inv (hA1 : A1_contained) (hA2 : A2_hashes) (hB1 : B1_add) (hB2 : B2_remove)
    (auto : Bool) (b : Nat) (s : QF) (a : Abs) (op : Op) (t : QF) (hI : Inv auto s a)
    (hr : op.InRange) (ht : step b s op = .ok t) : Inv auto t (absStep auto a op) := by
  obtain ⟨hadd, hall, hres⟩ := budget_inv hA1 hA2 hB1 hB2 auto b
  cases op with
  | add h => exact hadd s a h t hI hr ht
  | resize qn => exact hres s a qn t hI ht
  | merge hs =>
      simp only [step] at ht
      cases hm : addAll b s hs with
      | mk t' oe =>
          rw [hm] at ht
          cases oe with
          | some e => cases ht
          | none => cases ht; exact hall hs s a _ hI hr hm
  | remove h =>
      obtain ⟨t', ht', hI'⟩ := removeAlt_spec hA1 hB1 hB2 hI hr
      rw [show step b s (.remove h) = removeAlt s h from rfl, ht'] at ht
      cases ht
      exact hI'

/-- a relation between the state and the specification state that every successful call of an admitted
    operation preserves holds after every history that did not raise -/
theorem run_rel {auto : Bool} {b : Nat} {R : QF → Abs → Prop} {C : Op → Prop}
    (hstep : ∀ s a op t, R s a → C op → step b s op = .ok t → R t (absStep auto a op)) :
    ∀ (ops : List Op) (s : QF) (a : Abs) (t : QF), R s a → (∀ op ∈ ops, C op) → run b s ops = .ok t →
      R t (absRun auto a ops)
  | [], s, a, t, hR, _, ht => by simp only [run] at ht; cases ht; exact hR
  | op :: ops, s, a, t, hR, hC, ht => by
      simp only [run] at ht
      cases hs : step b s op with
      | error e => rw [hs] at ht; cases ht
      | ok s' =>
          rw [hs] at ht
          simp only [absRun, List.foldl_cons]
          exact run_rel hstep ops s' _ t (hstep s a op s' hR (hC op (by simp)) hs)
            (fun o ho => hC o (List.mem_cons_of_mem _ ho)) ht

theorem run_inv (hA1 : A1_contained) (hA2 : A2_hashes) (hB1 : B1_add) (hB2 : B2_remove)
    (auto : Bool) (b : Nat) (ops : List Op) (s : QF) (a : Abs) (t : QF) (hI : Inv auto s a)
    (hr : ∀ op ∈ ops, op.InRange) (ht : run b s ops = .ok t) : Inv auto t (absRun auto a ops) :=
  run_rel (fun s a op t => step_inv hA1 hA2 hB1 hB2 auto b s a op t) ops s a t hI hr ht

/-- what the refinement invariant says about the observers -/
theorem inv_observe (hA1 : A1_contained) (hA2 : A2_hashes) {auto : Bool} {s : QF} {a : Abs}
    (hI : Inv auto s a) :
    (∀ h, h < 2 ^ 32 → checkAlt s h = .ok (decide (h ∈ a.H))) ∧
    (∃ l, getHashes s = .ok l ∧ l.Perm a.H) ∧
    s.count = (a.H.length : Nat) ∧ s.size = 2 ^ a.q := by
  refine ⟨?_, ?_, inv_count hI, by rw [hI.eq]; rfl⟩
  · intro h hh
    rw [hI.eq]
    exact checkAlt_layout (hI.lookup hA1 hh)
  · obtain ⟨l, hl, hp⟩ := hA2 a.q auto _ (inv_canon hI)
    rw [map_enc_pairs] at hp
    rw [hI.eq]; exact ⟨l, hl, hp⟩

/-- the refinement invariant holds after every history in which no call raised -/
theorem C04_partial_inv (hA1 : A1_contained) (hA2 : A2_hashes) (hB1 : B1_add) (hB2 : B2_remove)
    (q : Int) (auto : Bool) (b : Nat) (ops : List Op) (hops : ∀ op ∈ ops, op.InRange)
    (s0 s : QF) (hnew : QF.new q auto = .ok s0) (hrun : run b s0 ops = .ok s) :
    Inv auto s (absRun auto ⟨q.toNat, []⟩ ops) := by
  rw [C04_new] at hnew
  split at hnew
  · rename_i hq
    cases hnew
    have hI0 : Inv auto (layout q.toNat auto []) ⟨q.toNat, []⟩ := by
      rw [layout_nil]; exact inv_empty auto _ (by omega) (by omega)
    exact run_inv hA1 hA2 hB1 hB2 auto b ops _ _ s hI0 hops hrun
  · cases hnew

/-- **C04, Layer C given Layers A and B.**  If look-up, iteration, insertion and removal refine the
    canonical layout, then after any history of `add | remove | resize | merge` calls (with or
    without auto-resize, any budget `b` of the model) from `QuotientFilter(q, auto)` in which no
    call raised: the complete state is the canonical table of the set of the history,
    `check_alt` is membership in that set, `get_hashes` lists exactly that set without duplicates,
    and `elements_added` is its size. -/
theorem C04_partial (hA1 : A1_contained) (hA2 : A2_hashes) (hB1 : B1_add) (hB2 : B2_remove)
    (q : Int) (auto : Bool) (b : Nat) (ops : List Op) (hops : ∀ op ∈ ops, op.InRange)
    (s0 s : QF) (hnew : QF.new q auto = .ok s0) (hrun : run b s0 ops = .ok s) :
    let a := absRun auto ⟨q.toNat, []⟩ ops
    s = layout a.q auto (pairs a.q a.H) ∧
    (∀ h, h < 2 ^ 32 → checkAlt s h = .ok (decide (h ∈ a.H))) ∧
    (∃ l, getHashes s = .ok l ∧ l.Perm a.H ∧ l.Nodup) ∧
    s.count = (a.H.length : Nat) ∧ s.size = 2 ^ a.q ∧
    SortedN a.H ∧ 3 ≤ a.q ∧ a.q ≤ 31 ∧ a.H.length < 2 ^ a.q := by
  intro a
  have hI := C04_partial_inv hA1 hA2 hB1 hB2 q auto b ops hops s0 s hnew hrun
  obtain ⟨h1, ⟨l, hl, hp⟩, h3, h4⟩ := inv_observe hA1 hA2 hI
  exact ⟨hI.eq, h1, ⟨l, hl, hp, hp.nodup_iff.2 (sorted_nodup ltN_total hI.sorted)⟩, h3, h4,
    hI.sorted, hI.q3, hI.q31, hI.room⟩

/-- a history ends in `.ok` only if every one of its calls returned: no call raised and no loop of
    the model ran out of fuel -/
theorem C04_run_prefix (b : Nat) (s0 s : QF) (ops₁ : List Op) (op : Op) (ops₂ : List Op)
    (h : run b s0 (ops₁ ++ op :: ops₂) = .ok s) :
    ∃ s1 s2, run b s0 ops₁ = .ok s1 ∧ step b s1 op = .ok s2 ∧ run b s2 ops₂ = .ok s := by
  induction ops₁ generalizing s0 with
  | nil =>
      simp only [List.nil_append, run] at h ⊢
      cases hs : step b s0 op with
      | error e => rw [hs] at h; cases h
      | ok s2 => rw [hs] at h; exact ⟨s0, s2, rfl, hs, h⟩
  | cons o os ih =>
      simp only [List.cons_append, run] at h ⊢
      cases hs : step b s0 o with
      | error e => rw [hs] at h; cases h
      | ok s' => rw [hs] at h; exact ih s' h

/-- under the refinement hypotheses `remove` never raises and never diverges, in any state the
    filter can reach -/
theorem C04_partial_remove_total (hA1 : A1_contained) (hA2 : A2_hashes) (hB1 : B1_add)
    (hB2 : B2_remove) (q : Int) (auto : Bool) (b : Nat) (ops : List Op)
    (hops : ∀ op ∈ ops, op.InRange) (s0 s : QF) (hnew : QF.new q auto = .ok s0)
    (hrun : run b s0 ops = .ok s) (h : Nat) (hh : h < 2 ^ 32) :
    ∃ t, step b s (.remove h) = .ok t := by
  obtain ⟨t, ht, _⟩ := removeAlt_spec hA1 hB1 hB2
    (C04_partial_inv hA1 hA2 hB1 hB2 q auto b ops hops s0 s hnew hrun) hh
  exact ⟨t, ht⟩

/-- under the refinement hypotheses `add` without auto-resize never diverges, in any state the
    filter can reach: it is refused with `QuotientFilterError` exactly when the hash is new and
    only one empty slot is left, and succeeds otherwise -/
theorem C04_partial_add_outcome (hA1 : A1_contained) (hA2 : A2_hashes) (hB1 : B1_add)
    (hB2 : B2_remove) (q : Int) (b : Nat) (ops : List Op)
    (hops : ∀ op ∈ ops, op.InRange) (s0 s : QF) (hnew : QF.new q false = .ok s0)
    (hrun : run (b + 1) s0 ops = .ok s) (h : Nat) (hh : h < 2 ^ 32) :
    let a := absRun false ⟨q.toNat, []⟩ ops
    if h ∉ a.H ∧ a.H.length + 1 ≥ 2 ^ a.q then step (b + 1) s (.add h) = .error .qfError
    else ∃ t, step (b + 1) s (.add h) = .ok t := by
  intro a
  have hI : Inv false s a := C04_partial_inv hA1 hA2 hB1 hB2 q false (b + 1) ops hops s0 s hnew hrun
  clear_value a
  rw [show step (b + 1) s (.add h) = addAlt (b + 1) s h from rfl,
    addAlt_noresize _ _ _ (by rw [hI.eq]; rfl)]
  rcases addTail_spec hA1 hB1 hB2 hI hh with ⟨t, ht, hIt⟩ | ⟨he, hnm, hfull⟩
  · rw [if_neg]
    · exact ⟨t, ht⟩
    · -- a new hash was stored, so there was room for it
      rintro ⟨hnm, hfull⟩
      have hroom : (insertN h a.H).length < 2 ^ a.q := hIt.room
      have hlen : (insertN h a.H).length = a.H.length + 1 := length_insertBy_of_not_mem h a.H hnm
      omega
  · rw [if_pos ⟨hnm, hfull⟩]; exact he

/-! ### Layer A: the read paths, for every table size -/

/-- **Layer A1**: on the canonical table of any canonical set (any 3 ≤ q ≤ 31, any number of
    elements below `2^q`, any cluster shape, with wrap-around) `_contained_at_loc` terminates within
    its fuel and returns an index exactly for the stored elements -/
theorem C04_contained : A1_contained := by
  intro q auto S x hC hx
  obtain ⟨h3, _, hS, hr, hl⟩ := hC
  exact contained_layout q (by omega) auto S hS (fun y hy => (hr y hy).1) hl x hx.1

/-- **Layer A2**: on the canonical table of any canonical set `get_hashes` terminates and
    returns a permutation of the hashes of the set -/
theorem C04_hashes : A2_hashes := by
  intro q auto S hC
  obtain ⟨h3, _, hS, hr, hl⟩ := hC
  exact hashes_layout q (by omega) auto S hS (fun y hy => (hr y hy).1) hl

/-- look-up on a canonical table is exact: no false negatives and no false positives among
    32-bit hashes (unconditional) -/
theorem C04_check_layout (q : Nat) (h3 : 3 ≤ q) (h31 : q ≤ 31) (auto : Bool) (H : List Nat)
    (hs : SortedN H) (hr : ∀ h ∈ H, h < 2 ^ 32) (hl : H.length < 2 ^ q) (h : Nat) (hh : h < 2 ^ 32) :
    checkAlt (layout q auto (pairs q H)) h = .ok (decide (h ∈ H)) :=
  (inv_observe C04_contained C04_hashes (a := ⟨q, H⟩) ⟨h3, h31, hs, hr, hl, rfl⟩).1 h hh

/-- every canonical set has a slot that stays empty and its placement ends in front of it -/
theorem C04_layout_fits (q : Nat) (S : List Elem) (hC : Canon q S) : Fits (2 ^ q) S :=
  canon_fits (2 ^ q) S hC.2.2.1 (fun y hy => (hC.2.2.2.1 y hy).1) hC.2.2.2.2

/-- the full statement of C04 for the model (no hypotheses) -/
def C04_full_statement : Prop :=
  ∀ (q : Int) (auto : Bool) (b : Nat) (ops : List Op), (∀ op ∈ ops, op.InRange) →
    ∀ (s0 s : QF), QF.new q auto = .ok s0 → run b s0 ops = .ok s →
    let a := absRun auto ⟨q.toNat, []⟩ ops
    s = layout a.q auto (pairs a.q a.H) ∧
    (∀ h, h < 2 ^ 32 → checkAlt s h = .ok (decide (h ∈ a.H))) ∧
    (∃ l, getHashes s = .ok l ∧ l.Perm a.H ∧ l.Nodup) ∧
    s.count = (a.H.length : Nat) ∧ s.size = 2 ^ a.q ∧
    SortedN a.H ∧ 3 ≤ a.q ∧ a.q ≤ 31 ∧ a.H.length < 2 ^ a.q

/-- **C04 given Layer B only**: with the read paths proved, the full statement follows from the
    two write-path refinement hypotheses `B1_add` and `B2_remove` alone -/
theorem C04_partial_B (hB1 : B1_add) (hB2 : B2_remove) : C04_full_statement :=
  fun q auto b ops hops s0 s hnew hrun =>
    C04_partial C04_contained C04_hashes hB1 hB2 q auto b ops hops s0 s hnew hrun

theorem C04_partial_remove_total_B (hB1 : B1_add) (hB2 : B2_remove) (q : Int) (auto : Bool) (b : Nat)
    (ops : List Op) (hops : ∀ op ∈ ops, op.InRange) (s0 s : QF) (hnew : QF.new q auto = .ok s0)
    (hrun : run b s0 ops = .ok s) (h : Nat) (hh : h < 2 ^ 32) :
    ∃ t, step b s (.remove h) = .ok t :=
  C04_partial_remove_total C04_contained C04_hashes hB1 hB2 q auto b ops hops s0 s hnew hrun h hh

theorem C04_partial_add_outcome_B (hB1 : B1_add) (hB2 : B2_remove) (q : Int) (b : Nat)
    (ops : List Op) (hops : ∀ op ∈ ops, op.InRange) (s0 s : QF) (hnew : QF.new q false = .ok s0)
    (hrun : run (b + 1) s0 ops = .ok s) (h : Nat) (hh : h < 2 ^ 32) :
    let a := absRun false ⟨q.toNat, []⟩ ops
    if h ∉ a.H ∧ a.H.length + 1 ≥ 2 ^ a.q then step (b + 1) s (.add h) = .error .qfError
    else ∃ t, step (b + 1) s (.add h) = .ok t :=
  C04_partial_add_outcome C04_contained C04_hashes hB1 hB2 q b ops hops s0 s hnew hrun h hh

/-! ### Layer B, and the exact-set theorem without hypotheses -/

/-- **Layer B1** (all table sizes, all canonical sets): `_add` maps the canonical table of `S` to the
    canonical table of `S ∪ {x}` — proved in `Lemmas/QFWriteAdd*.lean` -/
theorem C04_B1_add : B1_add :=
  fun q auto S x hc hx hroom hnew => QF.add_layout q auto S x hc hx hroom hnew

/-- **Layer B2**: `_remove_element` maps the canonical table of `S` to that of `S ∖ {x}` (the metadata
    repair pass does restore canonical form) — proved in `Lemmas/QFWriteRemove*.lean` -/
theorem C04_B2_remove : B2_remove :=
  fun q auto S x hc hx => QF.remove_layout q auto S x hc hx

/-- **C04, unconditional**: for every quotient size 3..31, auto-expand on or off, and every history
    of add / remove / resize (manual or automatic) / merge on 32-bit hashes in which no call raised:
    the table is the canonical table of the set of hashes added and not removed since, `check` is
    exact membership, `get_hashes` is that set without duplicates, and `elements_added` is its size -/
theorem C04_exact_set : C04_full_statement := C04_partial_B C04_B1_add C04_B2_remove

/-- `remove` never raises and never diverges on a reachable state -/
theorem C04_remove_total (q : Int) (auto : Bool) (b : Nat)
    (ops : List Op) (hops : ∀ op ∈ ops, op.InRange) (s0 s : QF) (hnew : QF.new q auto = .ok s0)
    (hrun : run b s0 ops = .ok s) (h : Nat) (hh : h < 2 ^ 32) :
    ∃ t, step b s (.remove h) = .ok t :=
  C04_partial_remove_total_B C04_B1_add C04_B2_remove q auto b ops hops s0 s hnew hrun h hh

/-- without auto-resize `add` is refused (QuotientFilterError) exactly for a new hash into a table
    holding `size − 1` hashes, and otherwise returns normally — it never diverges -/
theorem C04_add_outcome (q : Int) (b : Nat)
    (ops : List Op) (hops : ∀ op ∈ ops, op.InRange) (s0 s : QF) (hnew : QF.new q false = .ok s0)
    (hrun : run (b + 1) s0 ops = .ok s) (h : Nat) (hh : h < 2 ^ 32) :
    let a := absRun false ⟨q.toNat, []⟩ ops
    if h ∉ a.H ∧ a.H.length + 1 ≥ 2 ^ a.q then step (b + 1) s (.add h) = .error .qfError
    else ∃ t, step (b + 1) s (.add h) = .ok t :=
  C04_partial_add_outcome_B C04_B1_add C04_B2_remove q b ops hops s0 s hnew hrun h hh

/-! ### unbounded histories over a bounded universe

`UniverseOK U` collects what the Boolean checks of `QFBoundedDefs.lean` say about a universe `U`
of elements of the 8-slot table; it is all that the induction over `add`/`remove` histories needs
(`C04_exact_set_universe`).  It holds for every strictly sorted `U` with quotients and remainders
below 8, by Layers A and B at `q = 3`. -/

/-- the (decidable) facts about a universe `U` of elements of the 8-slot table that the history
    induction uses -/
structure UniverseOK (U : List Elem) : Prop where
  contained : QFBounded.checkContained U = true
  hashes : QFBounded.checkHashes U = true
  add : QFBounded.checkAdd U = true
  remove : QFBounded.checkRemove U = true
  closed : QFBounded.checkClosed U = true
  small : ∀ y ∈ U, y.2 < 8
  nil : [] ∈ QFBounded.subsets U

open QFBounded in
theorem UniverseOK.of_sorted {U : List Elem} (hU : Sorted U) (hr : ∀ y ∈ U, y.1 < 8 ∧ y.2 < 8) :
    UniverseOK U :=
  have hr' : ∀ y ∈ U, QFWriteAdd.InRange 3 y := fun y hy =>
    ⟨(hr y hy).1, Nat.lt_of_lt_of_le (hr y hy).2 (by decide)⟩
  ⟨checkContained_universe hU hr', checkHashes_universe hU hr', checkAdd_universe hU hr',
    checkRemove_universe hU hr', checkClosed_universe hU, fun y hy => (hr y hy).2,
    mem_subsets.2 (List.nil_sublist U)⟩

theorem UniverseOK_UA : UniverseOK QFBounded.UA := .of_sorted (by decide) (by decide)

theorem UniverseOK_UB : UniverseOK QFBounded.UB := .of_sorted (by decide) (by decide)

open QFBounded in
private structure JB (U : List Elem) (s : QF) (a : Abs) : Prop where
  q : a.q = 3
  sub : pairs 3 a.H ∈ subsets U
  len : a.H.length < 8
  sorted : SortedN a.H
  eq : s = layout 3 false (pairs 3 a.H)

open QFBounded in
/-- the checks of a universe are the layer facts on the tables over its subsets -/
theorem UniverseOK.refines {U : List Elem} (hU : UniverseOK U) {H : List Nat}
    (hsub : pairs 3 H ∈ subsets U) (hlen : H.length < 8) {x : Elem} (hx : x ∈ U) :
    Refines 3 false H (enc 3 x) := by
  have hde : dec 3 (enc 3 x) = x := dec_enc 3 x (Nat.lt_of_lt_of_le (hU.small x hx) (by decide))
  have hlen' : (pairs 3 H).length < 8 := by simp only [pairs, List.length_map]; exact hlen
  have hmem : x ∈ pairs 3 H ↔ enc 3 x ∈ H := by
    have := mem_pairs 3 (enc 3 x) H
    rwa [hde] at this
  refine ⟨?_, fun hnm _ => ?_, fun _ => ?_⟩
  · have hc := all_sub_iff.1 hU.contained _ hsub hlen' x hx
    rw [Lookup, hde]
    simp only [containedOk] at hc
    cases hcl : containedAtLoc (layout 3 false (pairs 3 H)) x.1 x.2 with
    | error e => rw [hcl] at hc; cases hc
    | ok o =>
        rw [hcl, beq_iff_eq] at hc
        exact ⟨o, rfl, by rw [hc, List.contains_iff_mem, hmem]⟩
  · have ha := all_sub_iff.1 hU.add _ hsub hlen' x hx
    simp only [addOk, Bool.or_eq_true, decide_eq_true_eq, List.contains_iff_mem, okEq_iff, hmem] at ha
    rw [hde, pairs_insertN, hde]
    rcases ha with (hm | hfull) | ha
    · exact absurd hm hnm
    · simp only [pairs, List.length_map] at hfull
      have : 2 ^ 3 = 8 := rfl
      omega
    · exact ha
  · have hr := all_sub_iff.1 hU.remove _ hsub hlen' x hx
    rw [removeOk, okEq_iff] at hr
    rw [hde, eraseN, pairs_erase, hde]
    exact hr

open QFBounded in
private theorem jb_step {U : List Elem} (hU : UniverseOK U) (b : Nat) (s : QF) (a : Abs) (x : Elem)
    (hx : x ∈ U) (hJ : JB U s a) :
    (∀ t, step (b + 1) s (.add (enc 3 x)) = .ok t → JB U t (absStep false a (.add (enc 3 x)))) ∧
    (∀ t, step (b + 1) s (.remove (enc 3 x)) = .ok t → JB U t (absStep false a (.remove (enc 3 x)))) := by
  have R := hU.refines hJ.sub hJ.len hx
  have hde : dec 3 (enc 3 x) = x := dec_enc 3 x (Nat.lt_of_lt_of_le (hU.small x hx) (by decide))
  obtain ⟨hins, hers⟩ := closed_sub hU.closed hJ.sub
    (by simp only [pairs, List.length_map]; exact hJ.len) hx
  constructor
  · intro t ht
    rw [show step (b + 1) s (.add (enc 3 x)) = addAlt (b + 1) s (enc 3 x) from rfl,
      addAlt_noresize _ _ _ (by rw [hJ.eq]; rfl), hJ.eq, addTail_layout R hJ.sorted] at ht
    split at ht
    · cases ht
    · rename_i hc
      cases ht
      refine ⟨hJ.q, ?_, length_insertN_lt hJ.sorted hJ.len hc,
        sorted_insertBy ltN_total _ _ hJ.sorted, rfl⟩
      show pairs 3 (insertN (enc 3 x) a.H) ∈ subsets U
      rw [pairs_insertN, hde]
      exact hins
  · intro t ht
    rw [show step (b + 1) s (.remove (enc 3 x)) = removeAlt s (enc 3 x) from rfl, hJ.eq,
      removeAlt_layout R] at ht
    cases ht
    refine ⟨hJ.q, ?_, Nat.lt_of_le_of_lt List.length_erase_le hJ.len, sorted_erase hJ.sorted _, rfl⟩
    show pairs 3 (a.H.erase (enc 3 x)) ∈ subsets U
    rw [pairs_erase, hde]
    exact hers

open QFBounded in
/-- **C04 on an 8-slot table over a checked universe, without refinement hypotheses**: histories
    of any length of `add`/`remove` calls with hashes from `U` in which no call raised.  The four
    refinement facts on the subsets of `U` are the decidable hypothesis `UniverseOK U`; the
    induction over the history is a proof. -/
theorem C04_exact_set_universe (U : List Elem) (hU : UniverseOK U) (b : Nat) (ops : List Op)
    (hops : ∀ op ∈ ops, ∃ x ∈ U, op = .add (enc 3 x) ∨ op = .remove (enc 3 x))
    (s : QF) (hrun : run (b + 1) (QF.empty 3 false) ops = .ok s) :
    let a := absRun false ⟨3, []⟩ ops
    s = layout 3 false (pairs 3 a.H) ∧
    (∀ x ∈ U, checkAlt s (enc 3 x) = .ok (decide (enc 3 x ∈ a.H))) ∧
    (∃ l, getHashes s = .ok l ∧ l.Perm a.H) ∧
    s.count = (a.H.length : Nat) ∧ a.q = 3 := by
  intro a
  have hJ0 : JB U (QF.empty 3 false) ⟨3, []⟩ :=
    ⟨rfl, hU.nil, by decide, by simp [SortedBy], by simp [pairs, layout_nil]⟩
  have hJ : JB U s a := by
    refine run_rel (R := JB U) (C := fun op => ∃ x ∈ U, op = .add (enc 3 x) ∨ op = .remove (enc 3 x))
      ?_ ops _ _ s hJ0 hops hrun
    rintro s0 a0 op s1 hJ ⟨x, hx, rfl | rfl⟩ hst
    · exact (jb_step hU b s0 a0 x hx hJ).1 s1 hst
    · exact (jb_step hU b s0 a0 x hx hJ).2 s1 hst
  clear_value a
  refine ⟨hJ.eq, ?_, ?_, ?_, hJ.q⟩
  · intro x hx
    rw [hJ.eq]
    exact checkAlt_layout (hU.refines hJ.sub hJ.len hx).lookup
  · have hh : hashesOk (pairs 3 a.H) = true := by
      have := hU.hashes
      unfold checkHashes at this
      rw [List.all_eq_true] at this
      have := this _ hJ.sub
      rw [Bool.or_eq_true, decide_eq_true_eq] at this
      rcases this with h | h
      · have := hJ.len
        simp only [pairs, List.length_map] at h
        omega
      · exact h
    simp only [hashesOk] at hh
    rw [hJ.eq]
    cases hg : getHashes (layout 3 false (pairs 3 a.H)) with
    | error e => rw [hg] at hh; cases hh
    | ok l =>
        rw [hg] at hh
        simp only [List.isPerm_iff, map_enc_pairs] at hh
        exact ⟨l, rfl, hh⟩
  · rw [hJ.eq]; simp [pairs]

open QFBounded in
/-- **C04 on an 8-slot table over the 7-element universe `UA`, unconditionally** (runs of up to
    three elements, a run wrapping round the end of the table, the table filled up to its last
    free slot): every history of `add`/`remove` calls of any length in which no call raised -/
theorem C04_exact_set_bounded (b : Nat) (ops : List Op)
    (hops : ∀ op ∈ ops, ∃ x ∈ UA, op = .add (enc 3 x) ∨ op = .remove (enc 3 x))
    (s : QF) (hrun : run (b + 1) (QF.empty 3 false) ops = .ok s) :
    let a := absRun false ⟨3, []⟩ ops
    s = layout 3 false (pairs 3 a.H) ∧
    (∀ x ∈ UA, checkAlt s (enc 3 x) = .ok (decide (enc 3 x ∈ a.H))) ∧
    (∃ l, getHashes s = .ok l ∧ l.Perm a.H) ∧
    s.count = (a.H.length : Nat) ∧ a.q = 3 :=
  C04_exact_set_universe UA UniverseOK_UA b ops hops s hrun

open QFBounded in
/-- … and over the 6-element universe `UB` (adjacent runs in the middle of the table) -/
theorem C04_exact_set_bounded_B (b : Nat) (ops : List Op)
    (hops : ∀ op ∈ ops, ∃ x ∈ UB, op = .add (enc 3 x) ∨ op = .remove (enc 3 x))
    (s : QF) (hrun : run (b + 1) (QF.empty 3 false) ops = .ok s) :
    let a := absRun false ⟨3, []⟩ ops
    s = layout 3 false (pairs 3 a.H) ∧
    (∀ x ∈ UB, checkAlt s (enc 3 x) = .ok (decide (enc 3 x ∈ a.H))) ∧
    (∃ l, getHashes s = .ok l ∧ l.Perm a.H) ∧
    s.count = (a.H.length : Nat) ∧ a.q = 3 :=
  C04_exact_set_universe UB UniverseOK_UB b ops hops s hrun

section examples
open QFBounded

/-- a canonical set whose canonical table wraps round the end of the table: the run of quotient 7
    occupies slots 7, 0, 1 and pushes the element of quotient 0 to slot 2; slot 3 is the first
    empty one -/
example : Canon 3 [(0, 1), (6, 0), (7, 0), (7, 2), (7, 5)] := by decide

example : layout 3 false [(0, 1), (6, 0), (7, 0), (7, 2), (7, 5)] =
    ⟨3, [2, 5, 1, 0, 0, 0, 0, 0],
        [true, false, false, false, false, false, true, true],
        [true, true, false, false, false, false, false, false],
        [true, true, true, false, false, false, false, false], 5, false⟩ := by decide +kernel

example : emptySlot 8 [(0, 1), (6, 0), (7, 0), (7, 2), (7, 5)] = 3 := by decide +kernel
example : Fits 8 [(0, 1), (6, 0), (7, 0), (7, 2), (7, 5)] := C04_layout_fits 3 _ (by decide)

/-- the read-path theorems applied to that table -/
example : ∃ o, containedAtLoc (layout 3 false [(0, 1), (6, 0), (7, 0), (7, 2), (7, 5)]) 7 2 = .ok o ∧
    (o.isSome = true ↔ ((7, 2) : Elem) ∈ [(0, 1), (6, 0), (7, 0), (7, 2), (7, 5)]) :=
  C04_contained 3 false _ (7, 2) (by decide) (by decide)

/-- the two write paths evaluated on that table: inserting into the middle of the wrapping run, and
    removing its first element -/
example : addQR (layout 3 false [(0, 1), (6, 0), (7, 0), (7, 5)]) 7 2 =
    .ok (layout 3 false (insert (7, 2) [(0, 1), (6, 0), (7, 0), (7, 5)])) :=
  (okEq_iff _ _).1 (by decide +kernel)

example : removeQR (layout 3 false [(0, 1), (6, 0), (7, 0), (7, 2), (7, 5)]) 7 0 =
    .ok (layout 3 false (erase (7, 0) [(0, 1), (6, 0), (7, 0), (7, 2), (7, 5)])) :=
  (okEq_iff _ _).1 (by decide +kernel)

/-- the four refinement facts on ALL canonical tables of the 8-slot filter whose elements come from
    `UA` (128 sets, up to the full table of 7 elements) and from `UB` (64 sets): every element of
    the universe is looked up in, inserted into and removed from every set -/
example : checkContained UA = true ∧ checkHashes UA = true ∧ checkAdd UA = true ∧ checkRemove UA = true :=
  ⟨UniverseOK_UA.contained, UniverseOK_UA.hashes, UniverseOK_UA.add, UniverseOK_UA.remove⟩
example : checkContained UB = true ∧ checkHashes UB = true ∧ checkAdd UB = true ∧ checkRemove UB = true ∧
    checkAddAlt UB = true :=
  ⟨UniverseOK_UB.contained, UniverseOK_UB.hashes, UniverseOK_UB.add, UniverseOK_UB.remove, checkAddAlt_UB⟩

/-- a concrete history satisfying the hypotheses of `C04_exact_set_bounded` (and of `C04_partial`):
    it did not raise, and ends in the canonical table of the set `{(7,0), (7,2)}` -/
example : run 1 (QF.empty 3 false)
    [.add (enc 3 (0, 1)), .add (enc 3 (7, 2)), .add (enc 3 (7, 0)), .remove (enc 3 (0, 1))] =
    .ok (layout 3 false [(7, 0), (7, 2)]) :=
  (okEq_iff _ _).1 (by decide +kernel)

example : setOf false 3 [.add (enc 3 (0, 1)), .add (enc 3 (7, 2)), .add (enc 3 (7, 0)), .remove (enc 3 (0, 1))] =
    [enc 3 (7, 0), enc 3 (7, 2)] := by decide +kernel

example : ∀ op ∈ [Op.add (enc 3 (0, 1)), .add (enc 3 (7, 2)), .add (enc 3 (7, 0)), .remove (enc 3 (0, 1))],
    op.InRange := by
  intro op hop
  simp only [List.mem_cons, List.not_mem_nil, or_false] at hop
  rcases hop with rfl | rfl | rfl | rfl <;> simp only [Op.InRange] <;> decide

/-- the refusal: a full 8-slot table (7 elements) refuses an eighth element -/
example : addQR (layout 3 false UA) 3 0 = .error .qfError :=
  (C04_add_refused_iff _ _ _).2 (by decide)

end examples

end PyProb.C04
