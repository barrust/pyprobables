/-
  C17 — HeavyHitters / StreamThreshold tracking tables (countminsketch.py:629-661, 787-830).

  PROVED, from the model, for all widths `w > 0`, depths `d > 0` (colliding or not), every hash
  strategy `H` (any function giving `d` hashes per key), every `number_heavy_hitters ≥ 1`, every
  history of `add(key, n)` with `n ≥ 0` (Python default 1) on `HH.new w d num`:
    * `C17_hh_ok`        every add returns an estimate `≥ 0` (no IndexError / OverflowError from
                         the sketch, and the two `ValueError` branches of the eviction are dead);
    * `C17_hh_size`      the table holds exactly `min(num, distinct keys seen)` keys, `size` agrees;
    * `C17_hh_tracked`   every tracked key carries the estimate returned by its most recent add,
                         and no key is tracked twice;
    * `C17_hh_untracked` no untracked key's most recent estimate exceeds any tracked one
                         (although the field `smallest` may be stale, see the first test);
    * `C17_hh_monotone`  the returned estimates of one key never decrease (this is what makes
                         `C17_hh_untracked` true; saturation at int32 max does not break it, so
                         there is no no-saturation hypothesis).
  and for every `w d` (also 0), every threshold `T` (any Int), every hash strategy (any lengths),
  every interleaving of `add(key, n)` / `remove(key, n)` (any Int `n`) on `ST.new w d T`:
    * `C17_st_table`         the table holds exactly the keys whose most recent *returned* estimate
                             (add or remove) is `≥ T`, with that estimate; no key twice;
    * `C17_st_never_missing` a key whose most recent returned estimate is `≥ T` is in the table;
    * `C17_st_dropped`       a key whose most recent returned estimate is `< T` is not.
  A StreamThreshold call that raises (IndexError / OverflowError of the sketch: removals can
  drive bins out of range) returns no estimate; it is proved to leave the table untouched
  (`C17_st_error_keeps_table`) and `lastEst` skips it (`C17_lastEst_spec`).  So there is no
  "every call succeeded" hypothesis.
  For add-only histories (`n ≥ 0`, `w, d > 0`, `d` hashes per key) additionally:
    * `C17_st_estimate_ge_count`   every estimate is `≥ min(int32Max, true count)`;
    * `C17_st_never_missing_count` for `1 ≤ T ≤ int32Max`, a key whose true count reaches the
                                   threshold is in the table.

  The true-count form for histories with removals is false without a "removals are legal"
  hypothesis (last test: removing a never-added key drops a key whose true count is above the
  threshold).  With C02's `Legit` and `Small` it follows from C02's `estimate ≥ true count`; that is
  `Corollaries.st_never_missing_legit` in `Lemmas/CorollariesST.lean`, restated as
  `C17_st_never_missing_legit` in `C17_legit.lean`, which also has the true-count forms for
  HeavyHitters.  HeavyHitters histories with `n < 0` are outside the statement (the class has no
  remove).
-/
import PyProb.Lemmas.Tables
import PyProb.Lemmas.CmsMono

namespace PyProb.C17
open PyProb

abbrev Log := List (Key × R Int)

/-- the estimate returned by the most recent call on `k` that returned one
    (`none`: no call on `k` has returned an estimate); `lastRet` of the calls that returned one
    (`lastEst_eq`) -/
def lastEst (log : Log) (k : Key) : Option Int :=
  log.foldl (fun acc e => if e.1 = k then (match e.2 with | .ok v => some v | .error _ => acc)
    else acc) none

def okSeq (log : Log) : List (Key × Int) :=
  log.filterMap fun e => match e.2 with | .ok v => some (e.1, v) | .error _ => none

theorem okSeq_snoc_ok (log : Log) (k : Key) (v : Int) :
    okSeq (log ++ [(k, .ok v)]) = okSeq log ++ [(k, v)] := by
  simp [okSeq, List.filterMap_append]

theorem okSeq_snoc_error (log : Log) (k : Key) (e : Err) :
    okSeq (log ++ [(k, .error e)]) = okSeq log := by
  simp [okSeq, List.filterMap_append]

theorem lastEst_snoc (log : Log) (e : Key × R Int) (k : Key) :
    lastEst (log ++ [e]) k =
      if e.1 = k then (match e.2 with | .ok v => some v | .error _ => lastEst log k)
      else lastEst log k := by
  simp [lastEst, List.foldl_append]

theorem lastEst_eq (log : Log) (k : Key) : lastEst log k = lastRet (okSeq log) k := by
  induction log using snoc_induction with
  | nil => rfl
  | snoc log e ih =>
      obtain ⟨k', r⟩ := e
      rw [lastEst_snoc]
      cases r with
      | ok v => rw [okSeq_snoc_ok, lastRet_snoc, ih]
      | error e => rw [okSeq_snoc_error, ih]; simp

theorem C17_lastEst_spec (pre post : Log) (k : Key) (v : Int)
    (hpost : ∀ e ∈ post, e.1 = k → ∃ err, e.2 = .error err) :
    lastEst (pre ++ (k, .ok v) :: post) k = some v := by
  induction post using snoc_induction with
  | nil => rw [lastEst_snoc, if_pos rfl]
  | snoc post e ih =>
      have hp : ∀ e ∈ post, e.1 = k → ∃ err, e.2 = .error err :=
        fun e he => hpost e (List.mem_append_left _ he)
      rw [← List.cons_append, ← List.append_assoc, lastEst_snoc]
      by_cases ek : e.1 = k
      · obtain ⟨err, he⟩ := hpost e (by simp) ek
        rw [if_pos ek, he]
        exact ih hp
      · rw [if_neg ek]
        exact ih hp

/-- one `add(key, n)`: the hashes are `H key depth`; the call and its result go to the log -/
def stepHH (H : Key → Nat → List Nat) (s : HH × Log) (op : Key × Int) : HH × Log :=
  ((s.1.addAlt op.1 (H op.1 s.1.cms.d) op.2).1,
   s.2 ++ [(op.1, (s.1.addAlt op.1 (H op.1 s.1.cms.d) op.2).2)])

def runHH (H : Key → Nat → List Nat) (h : HH) (ops : List (Key × Int)) : HH × Log :=
  ops.foldl (stepHH H) (h, [])

theorem runHH_snoc (H : Key → Nat → List Nat) (h : HH) (ops : List (Key × Int)) (op : Key × Int) :
    runHH H h (ops ++ [op]) = stepHH H (runHH H h ops) op := by
  simp [runHH, List.foldl_append]

def distinctKeys (ops : List (Key × Int)) : Nat := (ops.map (·.1)).eraseDups.length

structure HHRunInv (H : Key → Nat → List Nat) (w d : Nat) (num : Int) (ops : List (Key × Int))
    (st : HH × Log) : Prop where
  geo : CMS.WFat w d st.1.cms
  hnum : st.1.num = num
  keys : st.2.map (·.1) = ops.map (·.1)
  okkeys : (okSeq st.2).map (·.1) = ops.map (·.1)
  allok : ∀ e ∈ st.2, ∃ v, e.2 = .ok v ∧ 0 ≤ v
  inv : HHInv num (okSeq st.2) st.1.abs
  lb : ∀ k v, lastRet (okSeq st.2) k = some v → CMS.LB st.1.cms (H k d) v
  mono : MonoSeq (okSeq st.2)

theorem HHRunInv.init (H : Key → Nat → List Nat) (w d : Nat) (num : Int) (hw : 0 < w) (hd : 0 < d)
    (hnum : 1 ≤ num) : HHRunInv H w d num [] (HH.new w d num, []) where
  geo := CMS.WFat.new hw hd
  hnum := rfl
  keys := rfl
  okkeys := rfl
  allok := by simp
  inv := HHInv.init num hnum
  lb := by simp [okSeq]
  mono := monoSeq_nil

theorem HHRunInv.step {H : Key → Nat → List Nat} {w d : Nat} {num : Int} {ops : List (Key × Int)}
    {st : HH × Log} (I : HHRunInv H w d num ops st) (hnum : 1 ≤ num) (op : Key × Int)
    (hn : 0 ≤ op.2) (hH : (H op.1 d).length = d) :
    HHRunInv H w d num (ops ++ [op]) (stepHH H st op) := by
  obtain ⟨key, n⟩ := op
  obtain ⟨h, log⟩ := st
  obtain rfl : h.cms.d = d := I.geo.d
  obtain rfl : h.num = num := I.hnum
  obtain ⟨c', res, e, sp, geo'⟩ := I.geo.addAlt (H key h.cms.d) hH n hn
  -- the sketch's estimate is ≥ 0 and not below the key's previous one, which is what the table needs
  have hpos := sp.res_nonneg
  have hlbk : ∀ v, lastRet (okSeq log) key = some v → v ≤ res :=
    fun v hv => sp.lb_le_res (I.lb key v hv)
  obtain ⟨hr, hI'⟩ := hhStep_inv hnum I.inv key res hpos hlbk
  have hs : stepHH H (h, log) (key, n) =
      ({ h with cms := c', table := (hhStep h.num h.abs key res).1.table,
                size := (hhStep h.num h.abs key res).1.size,
                smallest := (hhStep h.num h.abs key res).1.smallest },
       log ++ [(key, .ok res)]) := by
    simp only [stepHH, HH.addAlt_ok h key _ n c' res e, hr]
  rw [hs]
  exact {
    geo := geo'
    hnum := rfl
    keys := by simp [I.keys]
    okkeys := by rw [okSeq_snoc_ok]; simp [I.okkeys]
    allok := by
      intro x hx
      rcases List.mem_append.mp hx with hx | hx
      · exact I.allok x hx
      · simp only [List.mem_singleton] at hx; subst hx; exact ⟨res, rfl, hpos⟩
    inv := by rw [okSeq_snoc_ok]; exact hI'
    lb := by
      intro k v hk
      rw [okSeq_snoc_ok, lastRet_snoc] at hk
      by_cases ek : key = k
      · simp only [ek, if_true, Option.some.injEq] at hk
        subst hk; subst ek
        exact sp.res_le
      · simp only [ek, if_false] at hk
        exact sp.lb_preserved (I.lb k v hk)
    mono := by
      rw [okSeq_snoc_ok]
      exact (monoSeq_snoc _ _).mpr ⟨I.mono, hpos, hlbk⟩ }

/-- under the invariant, an `add` whose sketch call returns `v` returns `v`: `hhStep_inv` applies,
    since `v ≥ 0` and `v` is not below the key's previous estimate -/
theorem HHRunInv.ret {H : Key → Nat → List Nat} {w d : Nat} {num : Int} {ops : List (Key × Int)}
    {st : HH × Log} (I : HHRunInv H w d num ops st) (hnum : 1 ≤ num) (key : Key) (n : Int)
    (hn : 0 ≤ n) (hH : (H key d).length = d) {c : CMS} {v : Int}
    (hc : st.1.cms.addAlt (H key st.1.cms.d) n = (c, .ok v)) :
    (hhStep st.1.num st.1.abs key v).2 = .ok v := by
  obtain ⟨c', res, e, sp, _⟩ := I.geo.addAlt (H key d) hH n hn
  rw [I.geo.d, e, Prod.mk.injEq, Except.ok.injEq] at hc
  rw [I.hnum, ← hc.2]
  exact (hhStep_inv hnum I.inv key res sp.res_nonneg fun x hx => sp.lb_le_res (I.lb key x hx)).1

theorem runHH_inv (w d : Nat) (num : Int) (hw : 0 < w) (hd : 0 < d) (hnum : 1 ≤ num)
    (H : Key → Nat → List Nat) (hH : ∀ key, (H key d).length = d)
    (ops : List (Key × Int)) (hops : ∀ op ∈ ops, 0 ≤ op.2) :
    HHRunInv H w d num ops (runHH H (HH.new w d num) ops) := by
  induction ops using snoc_induction with
  | nil => exact HHRunInv.init H w d num hw hd hnum
  | snoc ops op ih =>
      rw [runHH_snoc]
      exact (ih fun o ho => hops o (List.mem_append_left _ ho)).step hnum op
        (hops op (by simp)) (hH op.1)

theorem C17_hh_ok (w d : Nat) (num : Int) (hw : 0 < w) (hd : 0 < d) (hnum : 1 ≤ num)
    (H : Key → Nat → List Nat) (hH : ∀ key, (H key d).length = d)
    (ops : List (Key × Int)) (hops : ∀ op ∈ ops, 0 ≤ op.2) :
    let log := (runHH H (HH.new w d num) ops).2
    log.map (·.1) = ops.map (·.1) ∧ ∀ e ∈ log, ∃ v, e.2 = .ok v ∧ 0 ≤ v :=
  let I := runHH_inv w d num hw hd hnum H hH ops hops
  ⟨I.keys, I.allok⟩

theorem C17_hh_size (w d : Nat) (num : Int) (hw : 0 < w) (hd : 0 < d) (hnum : 1 ≤ num)
    (H : Key → Nat → List Nat) (hH : ∀ key, (H key d).length = d)
    (ops : List (Key × Int)) (hops : ∀ op ∈ ops, 0 ≤ op.2) :
    let h := (runHH H (HH.new w d num) ops).1
    (h.table.length : Int) = min num (distinctKeys ops) ∧ h.size = h.table.length ∧ h.num = num := by
  have I := runHH_inv w d num hw hd hnum H hH ops hops
  have hc := I.inv.count
  have : distinct (okSeq (runHH H (HH.new w d num) ops).2) = distinctKeys ops := by
    simp only [distinct, distinctKeys, I.okkeys]
  rw [this] at hc
  exact ⟨hc, I.inv.size, I.hnum⟩

theorem C17_hh_tracked (w d : Nat) (num : Int) (hw : 0 < w) (hd : 0 < d) (hnum : 1 ≤ num)
    (H : Key → Nat → List Nat) (hH : ∀ key, (H key d).length = d)
    (ops : List (Key × Int)) (hops : ∀ op ∈ ops, 0 ≤ op.2) :
    let r := runHH H (HH.new w d num) ops
    (r.1.table.map (·.1)).Nodup ∧ ∀ k v, (k, v) ∈ r.1.table → lastEst r.2 k = some v := by
  have I := runHH_inv w d num hw hd hnum H hH ops hops
  refine ⟨I.inv.nodup, ?_⟩
  intro k v hkv
  rw [lastEst_eq]
  exact I.inv.tracked k v (Table.get?_of_mem I.inv.nodup hkv)

theorem C17_hh_untracked (w d : Nat) (num : Int) (hw : 0 < w) (hd : 0 < d) (hnum : 1 ≤ num)
    (H : Key → Nat → List Nat) (hH : ∀ key, (H key d).length = d)
    (ops : List (Key × Int)) (hops : ∀ op ∈ ops, 0 ≤ op.2) :
    let r := runHH H (HH.new w d num) ops
    ∀ u est, lastEst r.2 u = some est → u ∉ r.1.table.map (·.1) →
      ∀ k v, (k, v) ∈ r.1.table → est ≤ v := by
  have I := runHH_inv w d num hw hd hnum H hH ops hops
  intro r u est hu hn k v hkv
  rw [lastEst_eq] at hu
  exact I.inv.untracked_le hu hn hkv

theorem C17_hh_monotone (w d : Nat) (num : Int) (hw : 0 < w) (hd : 0 < d) (hnum : 1 ≤ num)
    (H : Key → Nat → List Nat) (hH : ∀ key, (H key d).length = d)
    (ops : List (Key × Int)) (hops : ∀ op ∈ ops, 0 ≤ op.2) :
    MonoSeq (okSeq (runHH H (HH.new w d num) ops).2) :=
  (runHH_inv w d num hw hd hnum H hH ops hops).mono

inductive StOp
  | add (key : Key) (n : Int)
  | remove (key : Key) (n : Int)

def stepST (H : Key → Nat → List Nat) (s : ST × Log) : StOp → ST × Log
  | .add key n =>
      ((s.1.addAlt key (H key s.1.cms.d) n).1, s.2 ++ [(key, (s.1.addAlt key (H key s.1.cms.d) n).2)])
  | .remove key n =>
      ((s.1.removeAlt key (H key s.1.cms.d) n).1,
       s.2 ++ [(key, (s.1.removeAlt key (H key s.1.cms.d) n).2)])

def runST (H : Key → Nat → List Nat) (s : ST) (ops : List StOp) : ST × Log :=
  ops.foldl (stepST H) (s, [])

theorem runST_snoc (H : Key → Nat → List Nat) (s : ST) (ops : List StOp) (op : StOp) :
    runST H s (ops ++ [op]) = stepST H (runST H s ops) op := by
  simp [runST, List.foldl_append]

theorem C17_st_error_keeps_table (H : Key → Nat → List Nat) (s : ST × Log) (op : StOp) :
    let s' := stepST H s op
    s'.1.threshold = s.1.threshold ∧
    ((∃ key e, s'.2 = s.2 ++ [(key, .error e)] ∧ s'.1.table = s.1.table) ∨
     (∃ isAdd key res, s'.2 = s.2 ++ [(key, .ok res)] ∧
        s'.1.table = stStep s.1.threshold s.1.table isAdd key res)) := by
  obtain ⟨st, log⟩ := s
  cases op with
  | add key n =>
      rw [stepST]
      rcases h : st.cms.addAlt (H key st.cms.d) n with ⟨c, e | res⟩
      · rw [ST.addAlt_error st key _ n c e h]
        exact ⟨rfl, Or.inl ⟨key, e, rfl, rfl⟩⟩
      · rw [ST.addAlt_ok st key _ n c res h]
        exact ⟨rfl, Or.inr ⟨true, key, res, rfl, rfl⟩⟩
  | remove key n =>
      rw [stepST]
      rcases h : st.cms.removeAlt (H key st.cms.d) n with ⟨c, e | res⟩
      · rw [ST.removeAlt_error st key _ n c e h]
        exact ⟨rfl, Or.inl ⟨key, e, rfl, rfl⟩⟩
      · rw [ST.removeAlt_ok st key _ n c res h]
        exact ⟨rfl, Or.inr ⟨false, key, res, rfl, rfl⟩⟩

theorem runST_inv (w d : Nat) (T : Int) (H : Key → Nat → List Nat) (ops : List StOp) :
    (runST H (ST.new w d T) ops).1.threshold = T ∧
      STInv T (okSeq (runST H (ST.new w d T) ops).2) (runST H (ST.new w d T) ops).1.table := by
  induction ops using snoc_induction with
  | nil => exact ⟨rfl, STInv.init T⟩
  | snoc ops op ih =>
      obtain ⟨hT, hI⟩ := ih
      rw [runST_snoc]
      obtain ⟨h1, h2⟩ := C17_st_error_keeps_table H (runST H (ST.new w d T) ops) op
      refine ⟨by rw [h1, hT], ?_⟩
      rcases h2 with ⟨key, e, hl, ht⟩ | ⟨isAdd, key, res, hl, ht⟩
      · rw [hl, ht, okSeq_snoc_error]; exact hI
      · rw [hl, ht, okSeq_snoc_ok, hT]; exact stStep_inv hI isAdd key res

theorem C17_st_table (w d : Nat) (T : Int) (H : Key → Nat → List Nat) (ops : List StOp) :
    let r := runST H (ST.new w d T) ops
    (r.1.table.map (·.1)).Nodup ∧
    (∀ k v, r.1.table.get? k = some v ↔ lastEst r.2 k = some v ∧ T ≤ v) ∧
    (∀ k v, (k, v) ∈ r.1.table ↔ lastEst r.2 k = some v ∧ T ≤ v) := by
  obtain ⟨_, hI⟩ := runST_inv w d T H ops
  refine ⟨hI.nodup, ?_, ?_⟩
  · intro k v; rw [lastEst_eq]; exact hI.spec k v
  · intro k v; rw [lastEst_eq, ← Table.get?_iff_mem hI.nodup]; exact hI.spec k v

theorem C17_st_never_missing (w d : Nat) (T : Int) (H : Key → Nat → List Nat) (ops : List StOp)
    (k : Key) (v : Int) (hk : lastEst (runST H (ST.new w d T) ops).2 k = some v) (hv : T ≤ v) :
    (k, v) ∈ (runST H (ST.new w d T) ops).1.table :=
  ((C17_st_table w d T H ops).2.2 k v).mpr ⟨hk, hv⟩

theorem C17_st_dropped (w d : Nat) (T : Int) (H : Key → Nat → List Nat) (ops : List StOp)
    (k : Key) (v : Int) (hk : lastEst (runST H (ST.new w d T) ops).2 k = some v) (hv : v < T) :
    k ∉ (runST H (ST.new w d T) ops).1.table.map (·.1) := by
  intro hmem
  obtain ⟨p, hp, rfl⟩ := List.mem_map.mp hmem
  have := ((C17_st_table w d T H ops).2.2 p.1 p.2).mp hp
  rw [hk] at this
  simp only [Option.some.injEq] at this
  omega

def trueCount (ops : List StOp) (k : Key) : Int :=
  (ops.map fun op => match op with
    | .add key n => if key = k then n else 0
    | .remove key n => if key = k then -n else 0).sum

def AddOnly (ops : List StOp) : Prop := ∀ op ∈ ops, ∃ key n, op = .add key n ∧ 0 ≤ n

theorem lastEst_snoc_ok (log : Log) (key : Key) (res : Int) (k : Key) :
    lastEst (log ++ [(key, .ok res)]) k = if key = k then some res else lastEst log k := by
  rw [lastEst_eq, okSeq_snoc_ok, lastRet_snoc, lastEst_eq]

/-- invariant of an add-only StreamThreshold run: every bin of `k` is at least
    `min(int32Max, true count of k)`, and so is `k`'s most recent estimate -/
structure STAddInv (H : Key → Nat → List Nat) (w d : Nat) (ops : List StOp) (st : ST × Log) :
    Prop where
  geo : CMS.WFat w d st.1.cms
  lb : ∀ k, CMS.LB st.1.cms (H k d) (min Gen.int32Max (trueCount ops k))
  seen : ∀ k, 1 ≤ trueCount ops k → ∃ v, lastEst st.2 k = some v
  est : ∀ k v, lastEst st.2 k = some v → min Gen.int32Max (trueCount ops k) ≤ v

theorem STAddInv.init (H : Key → Nat → List Nat) (w d : Nat) (T : Int) (hw : 0 < w) (hd : 0 < d) :
    STAddInv H w d [] (ST.new w d T, []) where
  geo := CMS.WFat.new hw hd
  lb := by
    intro k idx _
    have := (CMS.WF.getD_range (CMS.WF.new w d hw hd) idx).1
    simp only [trueCount, List.map_nil, List.sum_nil]
    exact Int.le_trans (Int.min_le_right _ _) this
  seen := by intro k h; simp [trueCount] at h
  est := by intro k v h; simp [lastEst] at h

theorem STAddInv.step {H : Key → Nat → List Nat} {w d : Nat} {ops : List StOp} {st : ST × Log}
    (I : STAddInv H w d ops st) (key : Key) (n : Int) (hn : 0 ≤ n) (hH : (H key d).length = d) :
    STAddInv H w d (ops ++ [.add key n]) (stepST H st (.add key n)) := by
  obtain ⟨s, log⟩ := st
  obtain rfl : s.cms.d = d := I.geo.d
  obtain ⟨c', res, e, sp, geo'⟩ := I.geo.addAlt (H key s.cms.d) hH n hn
  have hs : stepST H (s, log) (.add key n) =
      ({ s with cms := c', table := stStep s.threshold s.table true key res },
       log ++ [(key, .ok res)]) := by
    simp only [stepST, ST.addAlt_ok s key _ n c' res e]
  have htc : ∀ k, trueCount (ops ++ [.add key n]) k =
      trueCount ops k + if key = k then n else 0 := by
    intro k; simp [trueCount, List.sum_append]
  -- the bins of `key` grow by `n` up to the clamp, those of other keys do not shrink
  have hlb : ∀ k, CMS.LB c' (H k s.cms.d)
      (min Gen.int32Max (trueCount (ops ++ [.add key n]) k)) := by
    intro k
    rw [htc]
    by_cases ek : key = k
    · subst ek
      rw [if_pos rfl]
      exact sp.lb_add hn (I.lb key)
    · simp only [ek, if_false, Int.add_zero]
      exact sp.lb_preserved (I.lb k)
  rw [hs]
  exact {
    geo := geo'
    lb := hlb
    seen := by
      intro k hk
      rw [lastEst_snoc_ok]
      by_cases ek : key = k
      · exact ⟨res, by simp [ek]⟩
      · rw [htc] at hk
        simp only [ek, if_false, Int.add_zero] at hk ⊢
        exact I.seen k hk
    est := by
      intro k v hv
      rw [lastEst_snoc_ok] at hv
      by_cases ek : key = k
      · simp only [ek, if_true, Option.some.injEq] at hv
        subst hv; subst ek
        exact sp.le_res (hlb key)
      · simp only [ek, if_false] at hv
        rw [htc]
        simp only [ek, if_false, Int.add_zero]
        exact I.est k v hv }

theorem runST_addonly_inv (w d : Nat) (T : Int) (hw : 0 < w) (hd : 0 < d)
    (H : Key → Nat → List Nat) (hH : ∀ key, (H key d).length = d)
    (ops : List StOp) (hops : AddOnly ops) :
    STAddInv H w d ops (runST H (ST.new w d T) ops) := by
  induction ops using snoc_induction with
  | nil => exact STAddInv.init H w d T hw hd
  | snoc ops op ih =>
      obtain ⟨key, n, rfl, hn⟩ := hops op (by simp)
      rw [runST_snoc]
      exact (ih fun o ho => hops o (List.mem_append_left _ ho)).step key n hn (hH key)

theorem C17_st_estimate_ge_count (w d : Nat) (T : Int) (hw : 0 < w) (hd : 0 < d)
    (H : Key → Nat → List Nat) (hH : ∀ key, (H key d).length = d)
    (ops : List StOp) (hops : AddOnly ops) (k : Key) (v : Int)
    (hk : lastEst (runST H (ST.new w d T) ops).2 k = some v) :
    min Gen.int32Max (trueCount ops k) ≤ v :=
  (runST_addonly_inv w d T hw hd H hH ops hops).est k v hk

theorem C17_st_never_missing_count (w d : Nat) (T : Int) (hw : 0 < w) (hd : 0 < d)
    (hT : 1 ≤ T) (hT' : T ≤ Gen.int32Max)
    (H : Key → Nat → List Nat) (hH : ∀ key, (H key d).length = d)
    (ops : List StOp) (hops : AddOnly ops) (k : Key) (hk : T ≤ trueCount ops k) :
    ∃ v, (k, v) ∈ (runST H (ST.new w d T) ops).1.table ∧ T ≤ v := by
  have I := runST_addonly_inv w d T hw hd H hH ops hops
  obtain ⟨v, hv⟩ := I.seen k (by omega)
  have := I.est k v hv
  have hTv : T ≤ v := by omega
  exact ⟨v, C17_st_never_missing w d T H ops k v hv hTv, hTv⟩

def Hx : Key → Nat → List Nat := fun key d => (List.range d).map fun i => key.units.sum + i
def ka : Key := ⟨true, [0]⟩
def kb : Key := ⟨true, [1]⟩
def kc : Key := ⟨true, [2]⟩
def kd : Key := ⟨true, [3]⟩

theorem Hx_length (d : Nat) (key : Key) : (Hx key d).length = d := by simp [Hx]

/-- test, HeavyHitters w=2 d=2 num=2 over four keys (`a`,`c` collide in both rows, so do `b`,`d`):
    `c` evicts `b` (smallest becomes 5), then `a` is raised to 8 so `smallest = 5` is stale
    (true minimum 6), then `d` (estimate 4) is rejected.  Untracked `b`:3, `d`:4 ≤ tracked 6, 8. -/
example :
    let r := runHH Hx (HH.new 2 2 2) [(ka, 5), (kb, 3), (kc, 1), (ka, 2), (kd, 1)]
    r.1.table = [(ka, 8), (kc, 6)] ∧ r.1.smallest = 5 ∧ r.1.size = 2 ∧
    r.2 = [(ka, .ok 5), (kb, .ok 3), (kc, .ok 6), (ka, .ok 8), (kd, .ok 4)] ∧
    (runHH Hx (HH.new 2 2 2) [(ka, 5), (kb, 3)]).1.table = [(ka, 5), (kb, 3)] ∧
    (runHH Hx (HH.new 2 2 2) [(ka, 5), (kb, 3), (kc, 1)]).1.table = [(ka, 5), (kc, 6)] := by
  simp [runHH, stepHH, HH.addAlt, HH.new, CMS.addAlt, CMS.new, CMS.binIdx, CMS.addLoop, CMS.query,
    CMS.sortInts_pair, Cmp.evalInt, Gen.cmsAddClampCmp, Gen.cmsTotalMaxCmp, Gen.int32Max,
    Gen.int64Max, List.range_succ, Hx, ka, kb, kc, kd, Table.set, Table.get?, Table.pop,
    Table.argmin]

/-- test: the hypotheses of the HeavyHitters theorems are satisfiable, and the theorems say
    something about this run (4 distinct keys, 2 tracked) -/
example :
    let r := runHH Hx (HH.new 2 2 2) [(ka, 5), (kb, 3), (kc, 1), (ka, 2), (kd, 1)]
    (r.1.table.length : Int) = min 2 (distinctKeys [(ka, 5), (kb, 3), (kc, 1), (ka, 2), (kd, 1)]) ∧
    distinctKeys [(ka, 5), (kb, 3), (kc, 1), (ka, 2), (kd, 1)] = 4 ∧
    (∀ u est, lastEst r.2 u = some est → u ∉ r.1.table.map (·.1) →
      ∀ k v, (k, v) ∈ r.1.table → est ≤ v) :=
  ⟨(C17_hh_size 2 2 2 (by decide) (by decide) (by decide) Hx (Hx_length 2) _ (by decide)).1,
   by decide,
   C17_hh_untracked 2 2 2 (by decide) (by decide) (by decide) Hx (Hx_length 2) _ (by decide)⟩

/-- test, StreamThreshold width 1 (everything collides), threshold 5 — the D12 scenario:
    `a` crosses the threshold upwards (2 → 6) and is tracked, `b` is dropped by its removal,
    `a` ends at 4 < 5 and is dropped by its own last add -/
example :
    (runST Hx (ST.new 1 1 5) [.add ka 2, .add kb 3, .add ka 1]).1.table = [(kb, 5), (ka, 6)] ∧
    (runST Hx (ST.new 1 1 5) [.add ka 2, .add kb 3, .add ka 1, .remove kb 3]).1.table = [(ka, 6)] ∧
    (runST Hx (ST.new 1 1 5) [.add ka 2, .add kb 3, .add ka 1, .remove kb 3, .add ka 1]).1.table = [] ∧
    (runST Hx (ST.new 1 1 5) [.add ka 2, .add kb 3, .add ka 1, .remove kb 3, .add ka 1]).2 =
      [(ka, .ok 2), (kb, .ok 5), (ka, .ok 6), (kb, .ok 3), (ka, .ok 4)] := by
  simp [runST, stepST, ST.addAlt, ST.removeAlt, ST.new, CMS.addAlt, CMS.removeAlt, CMS.new,
    CMS.binIdx, CMS.addLoop, CMS.removeLoop, CMS.query, CMS.sortInts, Cmp.evalInt,
    Gen.cmsAddClampCmp, Gen.cmsTotalMaxCmp, Gen.cmsRemoveKeepCmp, Gen.int32Max, Gen.int32Min,
    Gen.int64Max, Gen.int64Min, List.range_succ, Hx, ka, kb, Table.set, Table.pop]

/-- test: a call that raises (removing `-2^31` overflows the int32 bin) returns no estimate and
    leaves the table alone; `lastEst` still reports the last returned estimate -/
example :
    let r := runST Hx (ST.new 1 1 5) [.add ka 6, .remove ka (-2147483648)]
    r.1.table = [(ka, 6)] ∧ r.2 = [(ka, .ok 6), (ka, .error .overflow)] ∧ lastEst r.2 ka = some 6 := by
  simp [runST, stepST, ST.addAlt, ST.removeAlt, ST.new, CMS.addAlt, CMS.removeAlt, CMS.new,
    CMS.binIdx, CMS.addLoop, CMS.removeLoop, CMS.query, CMS.sortInts, Cmp.evalInt,
    Gen.cmsAddClampCmp, Gen.cmsTotalMaxCmp, Gen.cmsRemoveKeepCmp, Gen.int32Max, Gen.int32Min,
    Gen.int64Max, List.range_succ, Hx, ka, Table.set, lastEst]

/-- test: the hypotheses of the true-count theorem are satisfiable (add-only, width 1) -/
example : ∃ v, (ka, v) ∈ (runST Hx (ST.new 1 1 5) [.add ka 2, .add kb 3, .add ka 4]).1.table ∧ 5 ≤ v :=
  C17_st_never_missing_count 1 1 5 (by decide) (by decide) (by decide) (by decide) Hx (Hx_length 1)
    [.add ka 2, .add kb 3, .add ka 4]
    (by intro op h
        simp only [List.mem_cons, List.not_mem_nil, or_false] at h
        rcases h with rfl | rfl | rfl <;> exact ⟨_, _, rfl, by decide⟩)
    ka (by decide)

/-- test (why the true-count form needs add-only / legal removals): removing a key that was never
    added lowers a shared bin, and `a` with true count 6 ≥ 5 is then dropped by its own add
    (its most recent estimate is 3, so `C17_st_table` still holds) -/
example :
    let ops := [StOp.add ka 5, .remove kb 3, .add ka 1]
    (runST Hx (ST.new 1 1 5) ops).1.table = [] ∧ trueCount ops ka = 6 ∧
    lastEst (runST Hx (ST.new 1 1 5) ops).2 ka = some 3 := by
  simp [runST, stepST, ST.addAlt, ST.removeAlt, ST.new, CMS.addAlt, CMS.removeAlt, CMS.new,
    CMS.binIdx, CMS.addLoop, CMS.removeLoop, CMS.query, CMS.sortInts, Cmp.evalInt,
    Gen.cmsAddClampCmp, Gen.cmsTotalMaxCmp, Gen.cmsRemoveKeepCmp, Gen.int32Max, Gen.int32Min,
    Gen.int64Max, Gen.int64Min, List.range_succ, Hx, ka, kb, Table.set, Table.pop, lastEst,
    trueCount]

end PyProb.C17
