/-
  C04, third module — merging a quotient filter into itself changes nothing about the set.

  This documents a defect that was found and repaired in the Python code: the original
  `merge(self)` enumerated its own hashes lazily while the insertions could resize (and so rebuild)
  the very table being enumerated.  The model mirrors the REPAIRED code, in which `merge` is handed
  the finished list of hashes of the other filter; `Op.merge l` with `l` the listing that
  `get_hashes` returns for the filter itself is therefore exactly `f.merge(f)`.

  PROVED (`C04_merge_self`, a corollary of `C04_exact_set`, with no hypotheses beyond those of
  `C04_exact_set`): for every history from `QuotientFilter(q, auto)` in which no call raised, ending
  in the state `s`, if `get_hashes` returns `l` on `s` and the call `merge` with that list does not
  raise either, then in the resulting state `t`

    * `check_alt` answers membership in the set of the history, as before,
    * `get_hashes` is a duplicate-free listing of that same set,
    * `elements_added` is still the size of that set;

  moreover (`C04_merge_self_state`) `t` is the canonical table of the same set, possibly of a larger
  quotient size: with auto-resize on, the first re-insertion doubles an over-loaded table before it
  notices that the hash is already there.  So `t = s` is NOT claimed — the second example below is
  a self-merge that grows the table from 8 to 16 slots.

  NOT proved here: that the self-merge does not raise.  (It cannot diverge with the driver's budget —
  `C04_step_terminates` in `Properties/C04_termination.lean` — but at quotient size 31 an over-loaded
  table refuses to double, with `QuotientFilterError`.)
-/
import PyProb.Properties.C04

namespace PyProb.C04
open PyProb PyProb.Spec PyProb.QF

/-- a history that did not raise, continued -/
theorem run_append (b : Nat) (ops₁ ops₂ : List Op) (s t : QF) (h : run b s ops₁ = .ok t) :
    run b s (ops₁ ++ ops₂) = run b t ops₂ := by
  induction ops₁ generalizing s with
  | nil => simp only [run] at h; cases h; rfl
  | cons op ops ih =>
      simp only [run, List.cons_append] at h ⊢
      cases hs : step b s op with
      | error e => rw [hs] at h; cases h
      | ok s' => rw [hs] at h; exact ih s' h

/-- adding hashes that are already in the set leaves the set as it is (the quotient size may grow) -/
theorem foldl_absAdd_of_mem (auto : Bool) (l : List Nat) (a : Abs) (hs : SortedN a.H)
    (hl : ∀ h ∈ l, h ∈ a.H) : (l.foldl (absAdd auto) a).H = a.H := by
  induction l generalizing a with
  | nil => rfl
  | cons h l ih =>
      have hh : h ∈ a.H := hl h (by simp)
      have e : (absAdd auto a h).H = a.H := insertBy_of_mem ltN_total h a.H hs hh
      rw [List.foldl_cons, ih (absAdd auto a h) (by rw [e]; exact hs)
        (fun x hx => by rw [e]; exact hl x (List.mem_cons_of_mem _ hx)), e]

/-- the set of a history followed by a merge of hashes it already holds -/
theorem absRun_merge_of_mem (auto : Bool) (a0 : Abs) (ops : List Op) (l : List Nat)
    (hs : SortedN (absRun auto a0 ops).H) (hl : ∀ h ∈ l, h ∈ (absRun auto a0 ops).H) :
    (absRun auto a0 (ops ++ [.merge l])).H = (absRun auto a0 ops).H := by
  simp only [absRun, List.foldl_append, List.foldl_cons, List.foldl_nil, absStep]
  exact foldl_absAdd_of_mem auto l _ hs hl

/-- the common part of the two theorems: the self-merge is one more call of a history in range, and
    the set of the longer history is the set of the shorter one -/
private theorem merge_self_aux (q : Int) (auto : Bool) (b : Nat) (ops : List Op)
    (hops : ∀ op ∈ ops, op.InRange) (s0 s t : QF) (l : List Nat)
    (hnew : QF.new q auto = .ok s0) (hrun : run b s0 ops = .ok s)
    (hl : getHashes s = .ok l) (hm : step b s (.merge l) = .ok t) :
    (∀ op ∈ ops ++ [Op.merge l], op.InRange) ∧ run b s0 (ops ++ [.merge l]) = .ok t ∧
    (absRun auto ⟨q.toNat, []⟩ (ops ++ [.merge l])).H = (absRun auto ⟨q.toNat, []⟩ ops).H := by
  have hI : Inv auto s (absRun auto ⟨q.toNat, []⟩ ops) :=
    C04_partial_inv C04_contained C04_hashes C04_B1_add C04_B2_remove q auto b ops hops s0 s hnew hrun
  obtain ⟨_, _, ⟨l0, hl0, hperm, _⟩, _⟩ := C04_exact_set q auto b ops hops s0 s hnew hrun
  rw [hl] at hl0
  cases hl0
  have hmem : ∀ h ∈ l, h ∈ (absRun auto ⟨q.toNat, []⟩ ops).H := fun h hh => hperm.mem_iff.1 hh
  refine ⟨?_, ?_, absRun_merge_of_mem auto _ ops l hI.sorted hmem⟩
  · intro op hop
    rcases List.mem_append.1 hop with hop | hop
    · exact hops op hop
    · simp only [List.mem_cons, List.not_mem_nil, or_false] at hop
      subst hop
      exact fun h hh => hI.range h (hmem h hh)
  · rw [run_append b ops [.merge l] s0 s hrun]
    simp only [run, hm]

/-- **merging a filter into itself changes nothing about the set**: after any history in which no
    call raised, `merge` with the filter's own hashes (as `get_hashes` enumerates them), if it does
    not raise, leaves every membership answer, the stored hashes and the element count as they were -/
theorem C04_merge_self (q : Int) (auto : Bool) (b : Nat) (ops : List Op)
    (hops : ∀ op ∈ ops, op.InRange) (s0 s t : QF) (l : List Nat)
    (hnew : QF.new q auto = .ok s0) (hrun : run b s0 ops = .ok s)
    (hl : getHashes s = .ok l)
    (hm : step b s (.merge l) = .ok t) :
    let a := absRun auto ⟨q.toNat, []⟩ ops
    (∀ h, h < 2 ^ 32 → checkAlt t h = .ok (decide (h ∈ a.H))) ∧
    (∃ l', getHashes t = .ok l' ∧ l'.Perm a.H ∧ l'.Nodup) ∧
    t.count = (a.H.length : Nat) := by
  intro a
  obtain ⟨hops', hrun', hH⟩ := merge_self_aux q auto b ops hops s0 s t l hnew hrun hl hm
  obtain ⟨_, hchk, hget, hcnt, _⟩ :=
    C04_exact_set q auto b (ops ++ [.merge l]) hops' s0 t hnew hrun'
  rw [hH] at hchk hget hcnt
  exact ⟨hchk, hget, hcnt⟩

/-- … and the complete state after the self-merge is again the canonical table of the same set; only
    the quotient size may be larger than before (an over-loaded table with auto-resize doubles) -/
theorem C04_merge_self_state (q : Int) (auto : Bool) (b : Nat) (ops : List Op)
    (hops : ∀ op ∈ ops, op.InRange) (s0 s t : QF) (l : List Nat)
    (hnew : QF.new q auto = .ok s0) (hrun : run b s0 ops = .ok s)
    (hl : getHashes s = .ok l)
    (hm : step b s (.merge l) = .ok t) :
    let a := absRun auto ⟨q.toNat, []⟩ ops
    ∃ q', a.q ≤ q' ∧ q' ≤ 31 ∧ a.H.length < 2 ^ q' ∧ t = layout q' auto (pairs q' a.H) := by
  intro a
  obtain ⟨hops', hrun', hH⟩ := merge_self_aux q auto b ops hops s0 s t l hnew hrun hl hm
  obtain ⟨heq, _, _, _, _, _, _, h31, hroom⟩ :=
    C04_exact_set q auto b (ops ++ [.merge l]) hops' s0 t hnew hrun'
  rw [hH] at heq hroom
  refine ⟨_, ?_, h31, hroom, heq⟩
  -- the quotient size never shrinks under `absAdd`
  have mono : ∀ (l : List Nat) (a : Abs), a.q ≤ (l.foldl (absAdd auto) a).q := by
    intro l
    induction l with
    | nil => intro a; exact Nat.le_refl _
    | cons h l ih =>
        intro a
        rw [List.foldl_cons]
        refine Nat.le_trans ?_ (ih _)
        simp only [absAdd]
        split <;> omega
  simp only [absRun, List.foldl_append, List.foldl_cons, List.foldl_nil, absStep]
  exact mono l _

section examples
open QFBounded

/-- boolean test "the call returned this list", for kernel evaluation -/
private def okL (r : R (List Nat)) (l : List Nat) : Bool :=
  match r with
  | .ok x => x == l
  | .error _ => false

private theorem okL_iff (r : R (List Nat)) (l : List Nat) : okL r l = true ↔ r = .ok l := by
  cases r with
  | error e => simp [okL]
  | ok x => simp [okL]

/-- three hashes, two of them with the same quotient -/
private def ops3 : List Op := [.add (5 * 2 ^ 29 + 1), .add (2 * 2 ^ 29 + 7), .add (5 * 2 ^ 29)]

private def s3 : QF :=
  ⟨3, [0, 0, 7, 0, 0, 0, 1, 0],
      [false, false, true, false, false, true, false, false],
      [false, false, false, false, false, false, true, false],
      [false, false, false, false, false, false, true, false], 3, true⟩

private def l3 : List Nat := [2 * 2 ^ 29 + 7, 5 * 2 ^ 29, 5 * 2 ^ 29 + 1]

private theorem ops3_inRange : ∀ op ∈ ops3, op.InRange := by
  intro op hop
  simp only [ops3, List.mem_cons, List.not_mem_nil, or_false] at hop
  rcases hop with rfl | rfl | rfl <;> simp only [Op.InRange] <;> decide

/-- the premises of `C04_merge_self` are satisfiable: `QuotientFilter(3, auto_expand=True)`, three
    adds, then `merge` with its own hash list, which does not raise (and here changes nothing) -/
example : QF.new 3 true = .ok (QF.empty 3 true) := rfl
example : run 200 (QF.empty 3 true) ops3 = .ok s3 := (okEq_iff _ _).1 (by decide +kernel)
example : getHashes s3 = .ok l3 := (okL_iff _ _).1 (by decide +kernel)
example : step 200 s3 (.merge l3) = .ok s3 := (okEq_iff _ _).1 (by decide +kernel)

/-- the theorem instantiated with that history -/
example : (∀ h, h < 2 ^ 32 → checkAlt s3 h = .ok (decide (h ∈ (absRun true ⟨3, []⟩ ops3).H))) ∧
    (∃ l', getHashes s3 = .ok l' ∧ l'.Perm (absRun true ⟨3, []⟩ ops3).H ∧ l'.Nodup) ∧
    s3.count = ((absRun true ⟨3, []⟩ ops3).H.length : Nat) :=
  C04_merge_self 3 true 200 ops3 ops3_inRange (QF.empty 3 true) s3 s3 l3 rfl
    ((okEq_iff _ _).1 (by decide +kernel)) ((okL_iff _ _).1 (by decide +kernel))
    ((okEq_iff _ _).1 (by decide +kernel))

/-- the situation of the repaired defect: seven hashes over-load the 8-slot table, so the first
    re-insertion of the self-merge doubles the table while the filter's own hashes are being added -/
private def hs7 : List Nat := [0, 1, 2, 3, 4, 5, 6].map (fun i => i * 2 ^ 29 + i)

private def s7 : QF :=
  ⟨3, [0, 1, 2, 3, 4, 5, 6, 0],
      [true, true, true, true, true, true, true, false],
      List.replicate 8 false, List.replicate 8 false, 7, true⟩

private def t7 : QF :=
  ⟨4, [0, 0, 1, 0, 2, 0, 3, 0, 4, 0, 5, 0, 6, 0, 0, 0],
      [true, false, true, false, true, false, true, false, true, false, true, false, true, false,
        false, false],
      List.replicate 16 false, List.replicate 16 false, 7, true⟩

example : run 200 (QF.empty 3 true) (hs7.map Op.add) = .ok s7 := (okEq_iff _ _).1 (by decide +kernel)
example : s7.overLoaded = true := by decide +kernel
example : getHashes s7 = .ok hs7 := (okL_iff _ _).1 (by decide +kernel)
example : step 200 s7 (.merge hs7) = .ok t7 := (okEq_iff _ _).1 (by decide +kernel)
/-- the table has grown, the set has not -/
example : t7 ≠ s7 := by decide
/-- (enumerated from another starting point: a permutation, as the theorem says) -/
example : getHashes t7 = .ok (hs7.tail ++ [0]) := (okL_iff _ _).1 (by decide +kernel)
example : (hs7.tail ++ [0]).Perm hs7 := List.isPerm_iff.1 (by decide +kernel)
example : (absRun true ⟨3, []⟩ (hs7.map Op.add)).H = hs7 := by decide +kernel
example : (absRun true ⟨3, []⟩ (hs7.map Op.add ++ [.merge hs7])) = ⟨4, hs7⟩ := by decide +kernel

end examples

end PyProb.C04
