/-
  C09 — the expanding Bloom filter grows exactly when its newest sub-filter is full.

  Proved here, for every `est ≥ 1`, every rate/geometry and every history (unbounded length):
  * histories are lists of `Op.add present hs force | Op.push` where the membership answer
    `present` is an ARBITRARY Boolean at every step (so the theorems do not depend on what the
    sub-filters answer; the real `add_alt`, which computes the answer with `check_alt`, is the
    special case `C09_api`).  Every `add` carries at least `k` hashes (`Op.ok`; with fewer the
    model reports the IndexError of the real code: `C09_short_add_raises`).
  * `C09_inv_new`, `C09_inv_run`: the invariant `Expanding.Inv` holds of `new` and is preserved;
    all theorems are stated from ANY state satisfying it (`…_from`), which is what a filter
    restored from an export needs (the round trip itself is C05), and from `new`.
  * `C09_bound`, `C09_nonempty`: every sub-filter count stays in `[0, est]`, the queue is never
    empty — also with `push` in the history.
  * `C09_shape`, `C09_expansions`, `C09_expansions_ceil`: without `push`, after `I` effective
    insertions the per-filter counts are `est, …, est, c` with `I = e·est + c`, `c ≤ est`,
    `c ≥ 1` once grown; `expansions = if I = 0 then 0 else (I-1)/est = ⌈I/est⌉ - 1` (truncated).
  * `C09_counted`: `elements_added` counts every `add`, effective or not.
  * `C09_grow_iff`, `C09_grow_only_when_full`, `C09_no_early_growth`: one `add` lengthens the
    queue by one iff it is effective and the newest sub-filter holds `est` insertions.
  * `C09_reload`: the same from any state with the invariant and the shape (a restored filter).
-/
import PyProb.Lemmas.ExpandingCore

namespace PyProb.C09
open PyProb Expanding

inductive Op
  | add (present : Bool) (hs : List Nat) (force : Bool)
  | push
  deriving DecidableEq, Repr

/-- an `add` that really inserts: forced, or the key was reported absent -/
def Op.effective : Op → Bool
  | .add p _ f => f || !p
  | .push => false

def Op.isAdd : Op → Bool
  | .add .. => true
  | .push => false

def Op.ok (k : Nat) : Op → Prop
  | .add _ hs _ => k ≤ hs.length
  | .push => True

instance (k : Nat) (op : Op) : Decidable (op.ok k) := by
  cases op <;> unfold Op.ok <;> infer_instance

def step (e : Expanding) : Op → Expanding
  | .add p hs f => (e.addCore p hs f).1
  | .push => e.push

def run (e : Expanding) (ops : List Op) : Expanding := ops.foldl step e

theorem run_append (e : Expanding) (ops₁ ops₂ : List Op) : run e (ops₁ ++ ops₂) = run (run e ops₁) ops₂ :=
  List.foldl_append

def effCount (ops : List Op) : Nat := ops.countP Op.effective
def addCount (ops : List Op) : Nat := ops.countP Op.isAdd

theorem C09_inv_def (e : Expanding) :
    e.Inv ↔ (1 ≤ e.est ∧ e.blooms ≠ [] ∧
      ∀ b ∈ e.blooms, 0 ≤ b.count ∧ b.count ≤ e.est ∧ b.k = e.k) := Iff.rfl

theorem step_static (e : Expanding) (op : Op) :
    (step e op).est = e.est ∧ (step e op).k = e.k ∧ (step e op).m = e.m ∧
    (step e op).fpr32 = e.fpr32 := by
  cases op with
  | add p hs f =>
      obtain ⟨a, b, c, d, -⟩ := addCore_static e p hs f
      exact ⟨a, c, d, b⟩
  | push => exact ⟨rfl, rfl, rfl, rfl⟩

theorem run_static (e : Expanding) (ops : List Op) :
    (run e ops).est = e.est ∧ (run e ops).k = e.k ∧ (run e ops).m = e.m ∧
    (run e ops).fpr32 = e.fpr32 :=
  foldl_invariant step (fun s => s.est = e.est ∧ s.k = e.k ∧ s.m = e.m ∧ s.fpr32 = e.fpr32) ops e
    ⟨rfl, rfl, rfl, rfl⟩ (fun s ⟨a, b, c, d⟩ op _ =>
      have ⟨a', b', c', d'⟩ := step_static s op
      ⟨a'.trans a, b'.trans b, c'.trans c, d'.trans d⟩)

theorem C09_inv_new (est fpr32 k m : Nat) (h : 1 ≤ est) : (Expanding.new est fpr32 k m).Inv :=
  inv_new est fpr32 k m h

theorem C09_inv_step (e : Expanding) (op : Op) (hok : op.ok e.k) (hi : e.Inv) : (step e op).Inv := by
  cases op with
  | add p hs f => exact (inv_addCore e p hs f hok hi).1
  | push => exact inv_push e hi

/-- `Op.ok` speaks of the `k` of the first state, so the histories carry it along with the invariant -/
theorem inv_k_step (k : Nat) (s : Expanding) (op : Op) (hok : op.ok k) (h : s.Inv ∧ s.k = k) :
    (step s op).Inv ∧ (step s op).k = k :=
  ⟨C09_inv_step s op (by rw [h.2]; exact hok) h.1, (step_static s op).2.1.trans h.2⟩

theorem C09_inv_run (e : Expanding) (ops : List Op) (hok : ∀ op ∈ ops, op.ok e.k) (hi : e.Inv) :
    (run e ops).Inv :=
  (foldl_invariant step (fun s => s.Inv ∧ s.k = e.k) ops e ⟨hi, rfl⟩
    (fun s hs op hop => inv_k_step e.k s op (hok op hop) hs)).1

theorem C09_bound_from (e : Expanding) (ops : List Op) (hok : ∀ op ∈ ops, op.ok e.k) (hi : e.Inv) :
    ∀ b ∈ (run e ops).blooms, 0 ≤ b.count ∧ b.count ≤ e.est := by
  intro b hb
  have h := (C09_inv_run e ops hok hi).2.2 b hb
  rw [(run_static e ops).1] at h
  exact ⟨h.1, h.2.1⟩

theorem C09_bound (est fpr32 k m : Nat) (h1 : 1 ≤ est) (ops : List Op) (hok : ∀ op ∈ ops, op.ok k) :
    ∀ b ∈ (run (Expanding.new est fpr32 k m) ops).blooms, 0 ≤ b.count ∧ b.count ≤ est :=
  C09_bound_from _ ops hok (inv_new est fpr32 k m h1)

theorem C09_nonempty_from (e : Expanding) (ops : List Op) (hok : ∀ op ∈ ops, op.ok e.k) (hi : e.Inv) :
    (run e ops).blooms ≠ [] := (C09_inv_run e ops hok hi).2.1

theorem C09_nonempty (est fpr32 k m : Nat) (h1 : 1 ≤ est) (ops : List Op) (hok : ∀ op ∈ ops, op.ok k) :
    (run (Expanding.new est fpr32 k m) ops).blooms ≠ [] :=
  C09_nonempty_from _ ops hok (inv_new est fpr32 k m h1)

theorem C09_add_no_error (e : Expanding) (p : Bool) (hs : List Nat) (f : Bool) (hk : e.k ≤ hs.length)
    (hi : e.Inv) : (e.addCore p hs f).2 = none := (inv_addCore e p hs f hk hi).2

/-- why `Op.ok` is assumed -/
theorem C09_short_add_raises (e : Expanding) (p : Bool) (hs : List Nat) (f : Bool)
    (hk : hs.length < e.k) (hf : (f || !p) = true) (hi : e.Inv) :
    (e.addCore p hs f).2 = some .indexError := addCore_short_error e p hs f hk hf hi

theorem C09_counted (e : Expanding) (ops : List Op) :
    (run e ops).added = e.added + addCount ops := by
  refine foldl_count step (·.added) Op.isAdd (fun s op => ?_) ops e
  cases op with
  | add p hs f => exact (addCore_static s p hs f).2.2.2.2
  | push => exact (Int.add_zero s.added).symm

theorem C09_duplicate (e : Expanding) (hs : List Nat) :
    (e.addCore true hs false).1 = { e with added := e.added + 1 } ∧ (e.addCore true hs false).2 = none := by
  simp [addCore]

theorem C09_grow_iff (e : Expanding) (init : List Bloom) (z : Bloom) (p : Bool) (hs : List Nat)
    (f : Bool) (hb : e.blooms = init ++ [z]) :
    (e.addCore p hs f).1.blooms.length =
      e.blooms.length + (if (f || !p) = true ∧ (e.est : Int) ≤ z.count then 1 else 0) := by
  cases hf : (f || !p)
  · rw [(addCore_noeff e p hs f hf).1]; simp
  · rw [addCore_blooms_eff e init z p hs f hb hf, hb]
    by_cases hc : (e.est : Int) ≤ z.count <;> simp [hc]

theorem C09_grow_only_when_full (e : Expanding) (p : Bool) (hs : List Nat) (f : Bool) (hi : e.Inv)
    (hg : e.blooms.length < (e.addCore p hs f).1.blooms.length) :
    (f || !p) = true ∧ ∃ z, e.blooms.getLast? = some z ∧ z.count = e.est ∧
      (e.addCore p hs f).1.blooms.length = e.blooms.length + 1 := by
  obtain ⟨init, z, hb⟩ := exists_concat e.blooms hi.2.1
  have h := C09_grow_iff e init z p hs f hb
  have hz := hi.2.2 z (by rw [hb]; simp)
  by_cases hc : (f || !p) = true ∧ (e.est : Int) ≤ z.count
  · rw [if_pos hc] at h
    exact ⟨hc.1, z, by rw [hb, List.getLast?_concat], Int.le_antisymm hz.2.1 hc.2, h⟩
  · rw [if_neg hc, Nat.add_zero] at h
    exact absurd hg (h ▸ Nat.lt_irrefl _)

theorem C09_no_early_growth (e : Expanding) (z : Bloom) (p : Bool) (hs : List Nat) (f : Bool)
    (hz : e.blooms.getLast? = some z) (hc : z.count < e.est) :
    (e.addCore p hs f).1.blooms.length = e.blooms.length := by
  obtain ⟨init, hb⟩ := List.getLast?_eq_some_iff.mp hz
  rw [C09_grow_iff e init z p hs f hb, if_neg (fun h => Int.not_le.mpr hc h.2), Nat.add_zero]

theorem C09_shape_def (e : Expanding) (n : Nat) :
    e.Shape n ↔ ∃ x c : Nat,
      e.blooms.map (·.count) = List.replicate x (e.est : Int) ++ [(c : Int)] ∧
      (0 < x → 1 ≤ c) ∧ c ≤ e.est ∧ n = x * e.est + c := Iff.rfl

theorem C09_shape_from (e : Expanding) (n : Nat) (ops : List Op) (hok : ∀ op ∈ ops, op.ok e.k)
    (hadds : ∀ op ∈ ops, op.isAdd = true) (hi : e.Inv) (hs : e.Shape n) :
    (run e ops).Shape (n + effCount ops) := by
  refine (foldl_invariant_count step (fun s n => (s.Inv ∧ s.k = e.k) ∧ s.Shape n) Op.effective ops
    (fun s n ⟨hP, hS⟩ op hop => ⟨inv_k_step e.k s op (hok op hop) hP, ?_⟩) e n ⟨⟨hi, rfl⟩, hs⟩).2
  cases op with
  | push => exact absurd (hadds .push hop) (by decide)
  | add p hl f => exact shape_addCore s n p hl f (by rw [hP.2]; exact hok _ hop) hP.1 hS

theorem C09_shape (est fpr32 k m : Nat) (h1 : 1 ≤ est) (ops : List Op) (hok : ∀ op ∈ ops, op.ok k)
    (hadds : ∀ op ∈ ops, op.isAdd = true) :
    ∃ x c : Nat,
      (run (Expanding.new est fpr32 k m) ops).blooms.map (·.count) =
        List.replicate x (est : Int) ++ [(c : Int)] ∧
      (0 < x → 1 ≤ c) ∧ c ≤ est ∧ effCount ops = x * est + c := by
  have h := C09_shape_from (Expanding.new est fpr32 k m) 0 ops hok hadds (inv_new est fpr32 k m h1)
    (shape_new est fpr32 k m)
  rw [Nat.zero_add] at h
  obtain ⟨x, c, a, b, c', d⟩ := h
  rw [(run_static _ ops).1] at a c' d
  exact ⟨x, c, a, b, c', d⟩

theorem C09_expansions_from (e : Expanding) (n : Nat) (ops : List Op) (hok : ∀ op ∈ ops, op.ok e.k)
    (hadds : ∀ op ∈ ops, op.isAdd = true) (hi : e.Inv) (hs : e.Shape n) :
    (run e ops).expansions =
      ((if n + effCount ops = 0 then 0 else (n + effCount ops - 1) / e.est : Nat) : Int) := by
  have h := (C09_shape_from e n ops hok hadds hi hs).length (by rw [(run_static e ops).1]; exact hi.1)
  rw [(run_static e ops).1] at h
  unfold Expanding.expansions
  rw [h]
  omega

/-- the "restored from an export" clause: a state whose per-filter counts have the shape written by
    a `push`-free history of `n` effective insertions (what C05's round trip restores) behaves,
    under any further `push`-free history, like the filter that was saved -/
theorem C09_reload (e : Expanding) (n : Nat) (ops : List Op) (hok : ∀ op ∈ ops, op.ok e.k)
    (hadds : ∀ op ∈ ops, op.isAdd = true) (hi : e.Inv) (hs : e.Shape n) :
    (∀ b ∈ (run e ops).blooms, 0 ≤ b.count ∧ b.count ≤ e.est) ∧
    (run e ops).Shape (n + effCount ops) ∧
    (run e ops).expansions =
      ((if n + effCount ops = 0 then 0 else (n + effCount ops - 1) / e.est : Nat) : Int) ∧
    (run e ops).added = e.added + addCount ops :=
  ⟨C09_bound_from e ops hok hi, C09_shape_from e n ops hok hadds hi hs,
    C09_expansions_from e n ops hok hadds hi hs, C09_counted e ops⟩

theorem C09_expansions (est fpr32 k m : Nat) (h1 : 1 ≤ est) (ops : List Op) (hok : ∀ op ∈ ops, op.ok k)
    (hadds : ∀ op ∈ ops, op.isAdd = true) :
    (run (Expanding.new est fpr32 k m) ops).expansions =
      ((if effCount ops = 0 then 0 else (effCount ops - 1) / est : Nat) : Int) := by
  have h := C09_expansions_from (Expanding.new est fpr32 k m) 0 ops hok hadds
    (inv_new est fpr32 k m h1) (shape_new est fpr32 k m)
  rw [Nat.zero_add] at h
  exact h

/-- `⌈I/est⌉ = (I + est − 1) / est` -/
theorem C09_expansions_ceil (I est : Nat) (h1 : 1 ≤ est) :
    (if I = 0 then 0 else (I - 1) / est) = (I + est - 1) / est - 1 := by
  cases I with
  | zero => rw [if_pos rfl, Nat.zero_add, Nat.div_eq_of_lt (Nat.sub_lt h1 Nat.one_pos)]
  | succ I =>
      rw [if_neg (Nat.succ_ne_zero I), Nat.add_sub_cancel, Nat.add_right_comm, Nat.add_sub_cancel,
        Nat.add_div_right I h1, Nat.add_sub_cancel]

inductive AOp
  | add (hs : List Nat) (force : Bool)
  | push
  deriving DecidableEq, Repr

def stepA (e : Expanding) : AOp → Expanding
  | .add hs f => (e.addAlt hs f).1
  | .push => e.push

def runA (e : Expanding) (aops : List AOp) : Expanding := aops.foldl stepA e

def Op.erase : Op → AOp
  | .add _ hs f => .add hs f
  | .push => .push

def AOp.ok (k : Nat) : AOp → Prop
  | .add hs _ => k ≤ hs.length
  | .push => True

instance (k : Nat) (a : AOp) : Decidable (a.ok k) := by
  cases a <;> unfold AOp.ok <;> infer_instance

/-- every history of real calls is a history of `Op`s with the answers the filter computed, so
    all theorems above apply to it -/
theorem C09_api (e : Expanding) (aops : List AOp) (hok : ∀ a ∈ aops, a.ok e.k) (hi : e.Inv) :
    ∃ ops : List Op, ops.map Op.erase = aops ∧ (∀ op ∈ ops, op.ok e.k) ∧ runA e aops = run e ops := by
  obtain ⟨ops, h1, h2, h3, -⟩ := foldl_simulation stepA step Op.erase (fun s => s.Inv ∧ s.k = e.k)
    (fun a => a.ok e.k) (fun op => op.ok e.k) (fun _ _ _ => True) (fun _ => trivial)
    (fun s hP op hO => inv_k_step e.k s op hO hP)
    (fun s hP a ha => by
      cases a with
      | push => exact ⟨.push, rfl, trivial, rfl, fun _ _ _ => trivial⟩
      | add hs f =>
          -- the answer `p` that `check_alt` computes is the one carried by the `Op`
          obtain ⟨p, -, hp⟩ := addAlt_eq_addCore s hs f (by rw [hP.2]; exact ha) hP.1
          exact ⟨.add p hs f, rfl, ha, congrArg Prod.fst hp, fun _ _ _ => trivial⟩)
    aops e ⟨hi, rfl⟩ hok
  exact ⟨ops, h1, h2, h3⟩

theorem C09_bound_api (est fpr32 k m : Nat) (h1 : 1 ≤ est) (aops : List AOp)
    (hok : ∀ a ∈ aops, a.ok k) :
    (runA (Expanding.new est fpr32 k m) aops).blooms ≠ [] ∧
    ∀ b ∈ (runA (Expanding.new est fpr32 k m) aops).blooms, 0 ≤ b.count ∧ b.count ≤ est := by
  obtain ⟨ops, -, h2, h3⟩ := C09_api (Expanding.new est fpr32 k m) aops hok (inv_new est fpr32 k m h1)
  rw [h3]
  exact ⟨C09_nonempty est fpr32 k m h1 ops h2, C09_bound est fpr32 k m h1 ops h2⟩

/-- five effective insertions, one duplicate, one forced duplicate: I = 6 -/
def sampleOps : List Op :=
  [.add false [1, 2] false, .add false [3, 4] false, .add true [1, 2] false,
   .add false [5, 6] false, .add true [5, 6] true, .add false [7, 8] false, .add false [9, 10] false]

example : (Expanding.new 2 0 2 16).Inv := C09_inv_new 2 0 2 16 (by decide)
example : ∀ op ∈ sampleOps, op.ok 2 := by decide
example : ∀ op ∈ sampleOps, op.isAdd = true := by decide
example : effCount sampleOps = 6 ∧ addCount sampleOps = 7 := by decide
example : (run (Expanding.new 2 0 2 16) sampleOps).blooms.map (·.count) = [2, 2, 2] := by decide
example : (run (Expanding.new 2 0 2 16) sampleOps).expansions = 2 := by decide
example : (run (Expanding.new 2 0 2 16) sampleOps).added = 7 := by decide
example : (run (Expanding.new 2 0 2 16) sampleOps).expansions = ((if effCount sampleOps = 0 then 0
    else (effCount sampleOps - 1) / 2 : Nat) : Int) :=
  C09_expansions 2 0 2 16 (by decide) sampleOps (by decide) (by decide)
/-- the boundary: the `est`-th insertion does not grow, the `est+1`-th does -/
example : (run (Expanding.new 2 0 2 16) (sampleOps.take 2)).blooms.map (·.count) = [2] := by decide
example : (run (Expanding.new 2 0 2 16) (sampleOps.take 4)).blooms.map (·.count) = [2, 1] := by decide
/-- with `push` the shape is lost but the bound holds -/
example : (run (Expanding.new 2 0 2 16) [.add false [1, 2] false, .push, .add false [3, 4] false]).blooms.map
    (·.count) = [1, 1] := by decide
example : (runA (Expanding.new 2 0 2 16)
    [.add [1, 2] false, .add [3, 4] false, .add [1, 2] false, .add [5, 6] false]).blooms.map (·.count) = [2, 1]
    ∧ (runA (Expanding.new 2 0 2 16)
    [.add [1, 2] false, .add [3, 4] false, .add [1, 2] false, .add [5, 6] false]).added = 4 := by decide
example : ((Expanding.new 2 0 2 16).addCore false [1] false).2 = some .indexError := by decide

end PyProb.C09
