/-
  C16 — Counters saturate at their integer limits instead of wrapping or failing.

  Proved here, about the models `PyProb.CMS` (countminsketch.py) and `PyProb.CBF`
  (countingbloom.py), for ALL amounts `n ≥ 1` (unbounded `Int`, in particular beyond 2^64), all
  geometries, all hash lists, all reachable (= well-formed) states:

  count-min half (`Inv` = length `w*d`, every bin in [-2^31, 2^31-1], total in the int64 range)
  * `C16_cms_new/add_inv/remove_inv/join_inv/clear_inv`, `C16_cms_history` : `Inv` holds initially and is
    preserved by every operation, hence along every history (no constraint on the hash lists).
  * `C16_cms_add_state`, `C16_cms_remove_state` : the new table in closed form — a touched bin is
    `max (-2^31) (min (2^31-1) (old ± n))`, an untouched bin is unchanged (no half update), the
    total is clamped into the 64-bit range, geometry and mode unchanged.
  * `C16_cms_add_ok`, `C16_cms_remove_ok` : the call returns `.ok` (never an error) in every query
    mode in which `check` itself is defined (`min`, `mean`; `mean-min` needs `w ≠ 1`, the code
    divides by `w-1`), and the returned value is `check` of the new state;
    `C16_cms_add_min`, `C16_cms_remove_min` : in `min` mode it is the least new touched bin;
    `C16_cms_add_pinned` : if every touched bin crosses the limit the call returns `2^31-1`.
  * `C16_cms_join`, `C16_cms_join_limit`, `C16_cms_join_mismatch` : `join` returns `.ok`, bin `j`
    is `joinCell old other`, in range; a bin already at a limit is left untouched.
  * `C16_cms_export`, `C16_cms_history_export` : `exportBytes` succeeds when `w, d < 2^32`.

  counting-Bloom half (`CInv` = `m > 0` cells, every cell in [0, 2^32-1])
  * `C16_cbf_add` : `add_alt` returns `.ok`, the cell `j` becomes
    `min (2^32-1) (old + n * (number of the key's k positions equal to j))` (coinciding positions are
    incremented once per occurrence, clamped), `CInv` is kept, count = `min (count+n) (2^64-1)`;
    `C16_cbf_add_pinned` : returns `2^32-1` when all touched cells cross the limit.
  * `C16_cbf_remove_frozen` : `remove_alt` never changes a cell that is at `2^32-1` (any branch,
    including the error branch); `C16_cbf_remove_at_limit` : if the least touched cell is at the
    limit the call returns `2^32-1` and the filter is unchanged; `C16_cbf_remove_inv`.
  * `C16_cbf_union`, `C16_cbf_intersection` : return `some`, cells are the clamped sums, in range.
  * `C16_cbf_history` : `CInv` along every history of add / remove / union / intersection / clear;
    `C16_cbf_add_export` : after an add the footer can be packed (count within uint64).

  Not proved here: export/load round trip (C05), behaviour for `n ≤ 0`.
-/
import PyProb.Lemmas.CmsCore
import PyProb.Lemmas.Saturation
import PyProb.Lemmas.FormatsCms
import PyProb.Lemmas.FormatsBloom

namespace PyProb.C16
open PyProb CmsCore Saturation

def Inv (c : CMS) : Prop :=
  c.bins.length = c.w * c.d ∧ (∀ v ∈ c.bins, Gen.int32Min ≤ v ∧ v ≤ Gen.int32Max) ∧
    Gen.int64Min ≤ c.total ∧ c.total ≤ Gen.int64Max

theorem C16_cms_new (w d : Nat) (mode : Mode) : Inv (CMS.new w d mode) := by
  refine ⟨by simp [CMS.new], ?_, by simp [CMS.new, Gen.int64Min], by simp [CMS.new, Gen.int64Max]⟩
  intro v hv
  have := (List.mem_replicate.1 hv).2
  subst this; simp [Gen.int32Min, Gen.int32Max]

private theorem clamp32_def (v : Int) : clamp32 v = max Gen.int32Min (min Gen.int32Max v) := rfl

private theorem add_lo {c : CMS} (hI : Inv c) (hs : List Nat) {n : Int} (hn : 1 ≤ n) :
    ∀ x ∈ c.binIdx hs, Gen.int32Min ≤ c.bins.getD x 0 + n := by
  intro x _; have := (getD_int32 hI.2.1 x).1; omega

private theorem rem_hi {c : CMS} (hI : Inv c) (hs : List Nat) {n : Int} (hn : 1 ≤ n) :
    ∀ x ∈ c.binIdx hs, c.bins.getD x 0 - n ≤ Gen.int32Max := by
  intro x _; have := (getD_int32 hI.2.1 x).2; omega

private theorem inv_bump {c : CMS} (hI : Inv c) (hs : List Nat) (δ t : Int)
    (h0 : Gen.int64Min ≤ t) (h1 : t ≤ Gen.int64Max) :
    Inv { c with bins := bumpBins c hs δ, total := t } :=
  ⟨by simp only [bumpBins_length]; exact hI.1, bumpBins_range c hs δ hI.2.1, h0, h1⟩

theorem C16_cms_add_state (c : CMS) (hs : List Nat) (n : Int) (hI : Inv c) (hw : 0 < c.w)
    (hl : hs.length = c.d) (hn : 1 ≤ n) :
    (c.addAlt hs n).1.w = c.w ∧ (c.addAlt hs n).1.d = c.d ∧ (c.addAlt hs n).1.mode = c.mode ∧
    (c.addAlt hs n).1.bins.length = c.w * c.d ∧
    (∀ j, j < c.w * c.d → (c.addAlt hs n).1.bins[j]? =
      some (if j ∈ c.binIdx hs then max Gen.int32Min (min Gen.int32Max (c.bins.getD j 0 + n))
            else c.bins.getD j 0)) ∧
    (c.addAlt hs n).1.total = max Gen.int64Min (min Gen.int64Max (c.total + n)) := by
  have hany := binIdx_any_false c hs hw (by omega) hI.1
  rw [addAlt_eq c hs n hany (add_lo hI hs hn)]
  refine ⟨rfl, rfl, rfl, by simp only [bumpBins_length]; exact hI.1, ?_, ?_⟩
  · intro j hj
    exact bumpBins_getElem? c hs n j (by rw [hI.1]; exact hj)
  · have := hI.2.2.1
    exact (Int.max_eq_right (Int.le_min.2 ⟨int64_le, by omega⟩)).symm

theorem C16_cms_remove_state (c : CMS) (hs : List Nat) (n : Int) (hI : Inv c) (hw : 0 < c.w)
    (hl : hs.length = c.d) (hn : 1 ≤ n) :
    (c.removeAlt hs n).1.w = c.w ∧ (c.removeAlt hs n).1.d = c.d ∧
    (c.removeAlt hs n).1.mode = c.mode ∧ (c.removeAlt hs n).1.bins.length = c.w * c.d ∧
    (∀ j, j < c.w * c.d → (c.removeAlt hs n).1.bins[j]? =
      some (if j ∈ c.binIdx hs then max Gen.int32Min (min Gen.int32Max (c.bins.getD j 0 - n))
            else c.bins.getD j 0)) ∧
    (c.removeAlt hs n).1.total = max Gen.int64Min (min Gen.int64Max (c.total - n)) := by
  have hany := binIdx_any_false c hs hw (by omega) hI.1
  rw [removeAlt_eq c hs n hany (rem_hi hI hs hn)]
  refine ⟨rfl, rfl, rfl, by simp only [bumpBins_length]; exact hI.1, ?_, ?_⟩
  · intro j hj
    have := bumpBins_getElem? c hs (-n) j (by rw [hI.1]; exact hj)
    simpa only [clamp32_def, ← Int.sub_eq_add_neg] using this
  · have := hI.2.2.2
    show max Gen.int64Min (c.total - n) = _
    rw [Int.min_eq_right (by omega)]

theorem C16_cms_touched (c : CMS) (hs : List Nat) (j : Nat) :
    j ∈ c.binIdx hs ↔ ∃ i, ∃ h : i < hs.length, j = hs[i] % c.w + i * c.w := mem_binIdx c hs j

theorem C16_cms_add_inv (c : CMS) (hs : List Nat) (n : Int) (hI : Inv c) (hn : 1 ≤ n) :
    Inv (c.addAlt hs n).1 ∧ (c.addAlt hs n).1.w = c.w ∧ (c.addAlt hs n).1.d = c.d := by
  cases hany : (c.binIdx hs).any (· ≥ c.bins.length) with
  | true => simp [CMS.addAlt, hany, hI]
  | false =>
      rw [addAlt_eq c hs n hany (add_lo hI hs hn)]
      refine ⟨inv_bump hI hs n _ ?_ ?_, rfl, rfl⟩
      · have := hI.2.2.1; have := int64_le; omega
      · exact Int.min_le_left _ _

theorem C16_cms_remove_inv (c : CMS) (hs : List Nat) (n : Int) (hI : Inv c) (hn : 1 ≤ n) :
    Inv (c.removeAlt hs n).1 ∧ (c.removeAlt hs n).1.w = c.w ∧ (c.removeAlt hs n).1.d = c.d := by
  cases hany : (c.binIdx hs).any (· ≥ c.bins.length) with
  | true => simp [CMS.removeAlt, hany, hI]
  | false =>
      rw [removeAlt_eq c hs n hany (rem_hi hI hs hn)]
      refine ⟨inv_bump hI hs (-n) _ ?_ ?_, rfl, rfl⟩
      · exact Int.le_max_left _ _
      · have := hI.2.2.2; have := int64_le; omega

theorem C16_cms_add_ret (c : CMS) (hs : List Nat) (n : Int) (hI : Inv c) (hn : 1 ≤ n) :
    (c.addAlt hs n).2 = (c.addAlt hs n).1.checkAlt hs := addAlt_ret c hs n (add_lo hI hs hn)

theorem C16_cms_remove_ret (c : CMS) (hs : List Nat) (n : Int) (hI : Inv c) (hn : 1 ≤ n) :
    (c.removeAlt hs n).2 = (c.removeAlt hs n).1.checkAlt hs :=
  removeAlt_ret c hs n (rem_hi hI hs hn)

private theorem query_ok (c : CMS) (t : Int) (l : List Int) (hd : 0 < c.d) (hl : l.length = c.d)
    (hmm : c.mode = .meanMin → c.w ≠ 1) : ∃ v, c.query t (CMS.sortInts l) = .ok v := by
  cases hm : c.mode with
  | min =>
      have hne : l ≠ [] := by intro e; rw [e] at hl; simp at hl; omega
      obtain ⟨v, hv, _⟩ := query_min c t l hm hne
      exact ⟨v, hv⟩
  | mean => exact ⟨_, query_mean c t _ hm hd⟩
  | meanMin => exact query_meanMin c t _ hm hd (by rw [sortInts_length, hl]) (hmm hm)

theorem C16_cms_add_ok (c : CMS) (hs : List Nat) (n : Int) (hI : Inv c) (hw : 0 < c.w)
    (hd : 0 < c.d) (hl : hs.length = c.d) (hn : 1 ≤ n) (hmm : c.mode = .meanMin → c.w ≠ 1) :
    ∃ v, (c.addAlt hs n).2 = .ok v := by
  have hany := binIdx_any_false c hs hw (by omega) hI.1
  rw [addAlt_eq c hs n hany (add_lo hI hs hn)]
  exact query_ok _ _ _ hd (by simp [binIdx_length, hl]) hmm

theorem C16_cms_remove_ok (c : CMS) (hs : List Nat) (n : Int) (hI : Inv c) (hw : 0 < c.w)
    (hd : 0 < c.d) (hl : hs.length = c.d) (hn : 1 ≤ n) (hmm : c.mode = .meanMin → c.w ≠ 1) :
    ∃ v, (c.removeAlt hs n).2 = .ok v := by
  have hany := binIdx_any_false c hs hw (by omega) hI.1
  rw [removeAlt_eq c hs n hany (rem_hi hI hs hn)]
  exact query_ok _ _ _ hd (by simp [binIdx_length, hl]) hmm

private theorem min_of_vals (c : CMS) (hs : List Nat) (δ t : Int) (hw : 0 < c.w) (hd : 0 < c.d)
    (hl : hs.length = c.d) (hb : c.bins.length = c.w * c.d) (hm : c.mode = .min) :
    ∃ v, CMS.query { c with bins := bumpBins c hs δ, total := t } t
        (CMS.sortInts ((c.binIdx hs).map fun x => clamp32 (c.bins.getD x 0 + δ))) = .ok v ∧
      (∃ x ∈ c.binIdx hs, v = clamp32 (c.bins.getD x 0 + δ) ∧ (bumpBins c hs δ)[x]? = some v) ∧
      ∀ x ∈ c.binIdx hs, v ≤ clamp32 (c.bins.getD x 0 + δ) := by
  have hany := binIdx_any_false c hs hw (by omega) hb
  obtain ⟨v, hv, hmem, hmin⟩ := query_min { c with bins := bumpBins c hs δ, total := t } t _ hm
    (binIdx_map_ne_nil c hs _ hl hd)
  refine ⟨v, hv, ?_, ?_⟩
  · obtain ⟨x, hx, e⟩ := List.mem_map.1 hmem
    refine ⟨x, hx, e.symm, ?_⟩
    have hlt : x < c.bins.length := by
      rw [hb]; exact binIdx_lt c hs hw (by omega) x hx
    rw [bumpBins_getElem? c hs δ x hlt, if_pos hx, e]
  · intro x hx
    exact hmin _ (List.mem_map.2 ⟨x, hx, rfl⟩)

theorem C16_cms_add_min (c : CMS) (hs : List Nat) (n : Int) (hI : Inv c) (hw : 0 < c.w)
    (hd : 0 < c.d) (hl : hs.length = c.d) (hn : 1 ≤ n) (hm : c.mode = .min) :
    ∃ v, (c.addAlt hs n).2 = .ok v ∧
      (∃ x ∈ c.binIdx hs, (c.addAlt hs n).1.bins[x]? = some v) ∧
      ∀ x ∈ c.binIdx hs, v ≤ max Gen.int32Min (min Gen.int32Max (c.bins.getD x 0 + n)) := by
  have hany := binIdx_any_false c hs hw (by omega) hI.1
  rw [addAlt_eq c hs n hany (add_lo hI hs hn)]
  obtain ⟨v, hv, ⟨x, hx, _, hx2⟩, hmin⟩ := min_of_vals c hs n _ hw hd hl hI.1 hm
  exact ⟨v, hv, ⟨x, hx, hx2⟩, hmin⟩

theorem C16_cms_remove_min (c : CMS) (hs : List Nat) (n : Int) (hI : Inv c) (hw : 0 < c.w)
    (hd : 0 < c.d) (hl : hs.length = c.d) (hn : 1 ≤ n) (hm : c.mode = .min) :
    ∃ v, (c.removeAlt hs n).2 = .ok v ∧
      (∃ x ∈ c.binIdx hs, (c.removeAlt hs n).1.bins[x]? = some v) ∧
      ∀ x ∈ c.binIdx hs, v ≤ max Gen.int32Min (min Gen.int32Max (c.bins.getD x 0 - n)) := by
  have hany := binIdx_any_false c hs hw (by omega) hI.1
  rw [removeAlt_eq c hs n hany (rem_hi hI hs hn)]
  obtain ⟨v, hv, ⟨x, hx, _, hx2⟩, hmin⟩ := min_of_vals c hs (-n) _ hw hd hl hI.1 hm
  refine ⟨v, hv, ⟨x, hx, hx2⟩, ?_⟩
  intro y hy
  have := hmin y hy
  simpa only [clamp32_def, ← Int.sub_eq_add_neg] using this

theorem C16_cms_add_pinned (c : CMS) (hs : List Nat) (n : Int) (hI : Inv c) (hw : 0 < c.w)
    (hd : 0 < c.d) (hl : hs.length = c.d) (hn : 1 ≤ n) (hm : c.mode = .min)
    (hbig : ∀ x ∈ c.binIdx hs, Gen.int32Max ≤ c.bins.getD x 0 + n) :
    (c.addAlt hs n).2 = .ok Gen.int32Max := by
  have hany := binIdx_any_false c hs hw (by omega) hI.1
  rw [addAlt_eq c hs n hany (add_lo hI hs hn)]
  obtain ⟨v, hv, ⟨x, hx, e, _⟩, _⟩ := min_of_vals c hs n (min Gen.int64Max (c.total + n)) hw hd hl hI.1 hm
  rw [hv, e, clamp32_of_ge (hbig x hx)]

private theorem inv_joined {a : CMS} (hI : Inv a) (b : CMS) :
    Inv { a with
      bins := (List.range (a.w * a.d)).map fun i => CMS.joinCell (a.bins.getD i 0) (b.bins.getD i 0),
      total := if a.total + b.total > Gen.int64Max then Gen.int64Max
        else if a.total + b.total < Gen.int64Min then Gen.int64Min else a.total + b.total } := by
  rw [clamp_ite int64_le]
  refine ⟨by simp, ?_, (clamp_range int64_le _).1, (clamp_range int64_le _).2⟩
  intro v hv
  obtain ⟨i, _, e⟩ := List.mem_map.1 hv
  rw [← e]; exact joinCell_range _ _ (getD_int32 hI.2.1 i)

/-- the second sketch need not be in range -/
theorem C16_cms_join (a b : CMS) (hI : Inv a) (hw : a.w = b.w) (hd : a.d = b.d) :
    ∃ r, a.join b true = .ok r ∧ Inv r ∧ r.w = a.w ∧ r.d = a.d ∧ r.mode = a.mode ∧
      (∀ j, j < a.w * a.d → r.bins[j]? = some (CMS.joinCell (a.bins.getD j 0) (b.bins.getD j 0))) ∧
      r.total = max Gen.int64Min (min Gen.int64Max (a.total + b.total)) := by
  have hc : ¬ ((a.w != b.w || a.d != b.d || !true) = true) := by simp [hw, hd]
  unfold CMS.join
  rw [if_neg hc]
  refine ⟨_, rfl, inv_joined hI b, rfl, rfl, rfl, ?_, clamp_ite int64_le _⟩
  intro j hj
  simp only [List.getElem?_map, List.getElem?_range hj, Option.map_some]

theorem C16_cms_join_limit (x y : Int) :
    ((x = Gen.int32Min ∨ x = Gen.int32Max) → CMS.joinCell x y = x) ∧
    (x ≠ Gen.int32Min → x ≠ Gen.int32Max →
      CMS.joinCell x y = max Gen.int32Min (min Gen.int32Max (x + y))) := by
  constructor
  · intro h; rcases h with h | h <;> simp [CMS.joinCell, h]
  · intro h1 h2
    have e1 : (x == Gen.int32Min) = false := by simpa using h1
    have e2 : (x == Gen.int32Max) = false := by simpa using h2
    simp only [CMS.joinCell, e1, e2, Bool.or_false, Bool.false_eq_true, if_false]
    exact clamp_ite int32_le _

theorem C16_cms_join_mismatch (a b : CMS) (p : Bool) (h : a.w ≠ b.w ∨ a.d ≠ b.d ∨ p = false) :
    a.join b p = .error .cmsError := by
  rcases h with h | h | h <;> simp [CMS.join, h]

theorem C16_cms_join_inv (a b : CMS) (p : Bool) (hI : Inv a) :
    ∀ r, a.join b p = .ok r → Inv r ∧ r.w = a.w ∧ r.d = a.d := by
  intro r hr
  unfold CMS.join at hr
  split at hr
  · cases hr
  · injection hr with hr
    subst hr
    exact ⟨inv_joined hI b, rfl, rfl⟩

theorem C16_cms_clear_inv (c : CMS) (hI : Inv c) :
    Inv c.clear ∧ c.clear.w = c.w ∧ c.clear.d = c.d := by
  refine ⟨⟨by simp [CMS.clear, hI.1], ?_, by simp [CMS.clear, Gen.int64Min],
    by simp [CMS.clear, Gen.int64Max]⟩, rfl, rfl⟩
  intro v hv
  have := (List.mem_replicate.1 hv).2
  subst this; simp [Gen.int32Min, Gen.int32Max]

inductive Op
  | add (hs : List Nat) (n : Int)
  | remove (hs : List Nat) (n : Int)
  | join (other : CMS) (sameProbe : Bool)
  | clear

def Op.AmountOK : Op → Prop
  | .add _ n => 1 ≤ n
  | .remove _ n => 1 ≤ n
  | _ => True

/-- an operation that raises leaves the (possibly partially updated) model state -/
def step (c : CMS) : Op → CMS
  | .add hs n => (c.addAlt hs n).1
  | .remove hs n => (c.removeAlt hs n).1
  | .join o p => match c.join o p with | .ok r => r | .error _ => c
  | .clear => c.clear

def run (c : CMS) (ops : List Op) : CMS := ops.foldl step c

theorem C16_cms_step (c : CMS) (op : Op) (hI : Inv c) (hop : op.AmountOK) :
    Inv (step c op) ∧ (step c op).w = c.w ∧ (step c op).d = c.d := by
  cases op with
  | add hs n => exact C16_cms_add_inv c hs n hI hop
  | remove hs n => exact C16_cms_remove_inv c hs n hI hop
  | join o p =>
      simp only [step]
      cases h : c.join o p with
      | ok r => exact C16_cms_join_inv c o p hI r h
      | error e => exact ⟨hI, rfl, rfl⟩
  | clear => exact C16_cms_clear_inv c hI

theorem C16_cms_history (c : CMS) (ops : List Op) (hI : Inv c) (hops : ∀ op ∈ ops, op.AmountOK) :
    Inv (run c ops) ∧ (run c ops).w = c.w ∧ (run c ops).d = c.d := by
  induction ops generalizing c with
  | nil => exact ⟨hI, rfl, rfl⟩
  | cons op t ih =>
      obtain ⟨h1, h2, h3⟩ := C16_cms_step c op hI (hops op (by simp))
      obtain ⟨k1, k2, k3⟩ := ih (step c op) h1 (fun o ho => hops o (by simp [ho]))
      exact ⟨k1, by rw [← h2]; exact k2, by rw [← h3]; exact k3⟩

theorem C16_cms_export (c : CMS) (hI : Inv c) (hw : c.w < 2 ^ 32) (hd : c.d < 2 ^ 32) :
    ∃ f, Gen.cmsFooter.pack [c.w, c.d, c.total] = .ok f ∧
      c.exportBytes = .ok (cellsBytes .i32 c.bins ++ f) := by
  have h3 := hI.2.2
  simp only [Gen.int64Min, Gen.int64Max] at h3
  rw [CMS.exportBytes_eq, cmsFooter_pack, if_neg (by omega), if_neg (by omega), if_neg (by omega)]
  exact ⟨_, rfl, rfl⟩

theorem C16_cms_history_export (w d : Nat) (mode : Mode) (ops : List Op) (hw : w < 2 ^ 32)
    (hd : d < 2 ^ 32) (hops : ∀ op ∈ ops, op.AmountOK) :
    ∃ bs, (run (CMS.new w d mode) ops).exportBytes = .ok bs := by
  obtain ⟨h1, h2, h3⟩ := C16_cms_history (CMS.new w d mode) ops (C16_cms_new w d mode) hops
  obtain ⟨f, _, e⟩ := C16_cms_export _ h1 (by rw [h2]; exact hw) (by rw [h3]; exact hd)
  exact ⟨_, e⟩

def CInv (c : CBF) : Prop := c.cells.length = c.m ∧ 0 < c.m ∧ CellsOK c.cells

theorem C16_cbf_new (est fpr32 k m : Nat) (hm : 0 < m) : CInv (CBF.new est fpr32 k m) :=
  ⟨by simp [CBF.new], hm, CellsOK.replicate m⟩

abbrev positions (c : CBF) (hs : List Nat) : List Nat := (hs.take c.k).map (· % c.m)

private theorem positions_eq (c : CBF) (hs : List Nat) (hI : CInv c) :
    Counters.touched c hs = positions c hs := by simp [Counters.touched, positions, hI.1]

private theorem positions_ne_nil {β} (c : CBF) (hs : List Nat) (f : Nat → β) (hk : 0 < c.k)
    (hl : c.k ≤ hs.length) : (positions c hs).map f ≠ [] := by
  intro e
  have := congrArg List.length e
  simp only [List.length_map, List.length_take, List.length_nil] at this
  omega

theorem C16_cbf_add (c : CBF) (hs : List Nat) (n : Int) (hI : CInv c) (hl : c.k ≤ hs.length)
    (hn : 1 ≤ n) :
    (c.addAlt hs n).2 =
      .ok (CBF.minList ((positions c hs).map fun k => min Gen.uint32Max (c.cells.getD k 0 + n))) ∧
    CInv (c.addAlt hs n).1 ∧
    (∀ j, j < c.m → (c.addAlt hs n).1.cells[j]? =
      some (min Gen.uint32Max (c.cells.getD j 0 + n * ((positions c hs).count j : Int)))) ∧
    (c.addAlt hs n).1.count = min (c.count + n) Gen.uint64Max ∧
    (c.addAlt hs n).1.k = c.k ∧ (c.addAlt hs n).1.m = c.m ∧
    (c.addAlt hs n).1.est = c.est ∧ (c.addAlt hs n).1.fpr32 = c.fpr32 := by
  have hn0 : 0 ≤ n := by omega
  rw [Cbf.addAlt_eq c hs n hn0 hl hI.2.2, positions_eq c hs hI]
  refine ⟨by simp only [Cbf.clampCell_eq_min], ⟨by simp only [Cbf.bumpWith_length]; exact hI.1,
    hI.2.1, hI.2.2.bump hn0 _⟩, ?_, rfl, rfl, rfl, rfl, rfl⟩
  intro j hj
  have hlt : j < c.cells.length := by rw [hI.1]; exact hj
  have hlen : j < (Cbf.bumpWith (fun v => CBF.clampCell (v + n)) c.cells (positions c hs)).length := by
    rw [Cbf.bumpWith_length]; exact hlt
  rw [List.getElem?_eq_getElem hlen, ← getD_eq_getElem_of_lt _ _ hlen 0, Cbf.getD_bumpWith _ _ _ _ hlt,
    Cbf.repeat_clampAdd hn0 _ (hI.2.2.getD j).2, Int.mul_comm]

theorem C16_cbf_add_pinned (c : CBF) (hs : List Nat) (n : Int) (hI : CInv c)
    (hl : c.k ≤ hs.length) (hk : 0 < c.k) (hn : 1 ≤ n)
    (hbig : ∀ k ∈ positions c hs, Gen.uint32Max ≤ c.cells.getD k 0 + n) :
    (c.addAlt hs n).2 = .ok Gen.uint32Max := by
  rw [(C16_cbf_add c hs n hI hl hn).1]
  congr 1
  apply Cbf.minList_const
  · exact positions_ne_nil c hs _ hk hl
  · intro y hy
    obtain ⟨k, hk, e⟩ := List.mem_map.1 hy
    have := hbig k hk
    rw [← e]; omega

theorem C16_cbf_remove_frozen (c : CBF) (hs : List Nat) (n : Int) (j : Nat)
    (hj : c.cells[j]? = some Gen.uint32Max) :
    (c.removeAlt hs n).1.cells[j]? = some Gen.uint32Max := by
  rcases cbf_removeAlt_cases c hs n with h | ⟨r, _, h, _, _⟩
  · rw [h]; exact hj
  · rw [h]; exact cbf_removeLoop_frozen r _ _ j hj

theorem C16_cbf_remove_at_limit (c : CBF) (hs : List Nat) (n : Int) (hI : CInv c)
    (hl : c.k ≤ hs.length) (hk : 0 < c.k)
    (hmin : CBF.minList ((positions c hs).map fun k => c.cells.getD k 0) = Gen.uint32Max) :
    c.removeAlt hs n = (c, .ok Gen.uint32Max) := by
  apply cbf_removeAlt_at_limit c hs n hl
  · rw [positions_eq c hs hI]
    have := positions_ne_nil c hs id hk hl
    simpa using this
  · rw [positions_eq c hs hI]; exact hmin

theorem C16_cbf_remove_all_at_limit (c : CBF) (hs : List Nat) (n : Int) (hI : CInv c)
    (hl : c.k ≤ hs.length) (hk : 0 < c.k)
    (hall : ∀ k ∈ positions c hs, c.cells.getD k 0 = Gen.uint32Max) :
    c.removeAlt hs n = (c, .ok Gen.uint32Max) := by
  apply C16_cbf_remove_at_limit c hs n hI hl hk
  apply Cbf.minList_const
  · exact positions_ne_nil c hs _ hk hl
  · intro y hy
    obtain ⟨k, hk, e⟩ := List.mem_map.1 hy
    rw [← e]; exact hall k hk

theorem C16_cbf_remove_inv (c : CBF) (hs : List Nat) (n : Int) (hI : CInv c) (hn : 1 ≤ n) :
    CInv (c.removeAlt hs n).1 := by
  rcases cbf_removeAlt_cases c hs n with h | ⟨r, hr, h, hm, _⟩
  · rw [h]; exact hI
  · refine ⟨?_, ?_, ?_⟩
    · rw [h, cbf_removeLoop_length, hm]; exact hI.1
    · rw [hm]; exact hI.2.1
    · rw [h]; exact cbf_removeLoop_ok r (hr (by omega) hI.2.2) _ _ hI.2.2

/-- the cell both set operations store: the sum of two valid cells, clamped, is a valid cell -/
private theorem sum_cell {a b : List Int} (ha : CellsOK a) (hb : CellsOK b) (i : Nat) :
    (0 ≤ CBF.clampCell (a.getD i 0 + b.getD i 0) ∧
      CBF.clampCell (a.getD i 0 + b.getD i 0) ≤ Gen.uint32Max) ∧
    CBF.clampCell (a.getD i 0 + b.getD i 0) = min Gen.uint32Max (a.getD i 0 + b.getD i 0) := by
  have h := clampCell_range (a.getD i 0 + b.getD i 0) (Int.add_nonneg (ha.getD i).1 (hb.getD i).1)
  exact ⟨⟨h.1, h.2.1⟩, h.2.2⟩

theorem C16_cbf_union (est : Estimator) (a b : CBF) (p : Bool) (ha : CInv a) (hb : CInv b)
    (hs : a.similar b p = true) :
    ∃ r, CBF.union est a b p = some r ∧ CInv r ∧ r.k = a.k ∧ r.m = a.m ∧
      ∀ j, j < a.m → r.cells[j]? = some (min Gen.uint32Max (a.cells.getD j 0 + b.cells.getD j 0)) := by
  unfold CBF.union
  rw [if_neg (by simp [hs])]
  refine ⟨_, rfl, ⟨by simp [ha.1], ha.2.1, ?_⟩, rfl, rfl, ?_⟩
  · intro v hv
    obtain ⟨i, _, e⟩ := List.mem_map.1 hv
    rw [← e]; exact (sum_cell ha.2.2 hb.2.2 i).1
  · intro j hj
    have hj' : j < a.cells.length := by rw [ha.1]; exact hj
    simp only [List.getElem?_map, List.getElem?_range hj', Option.map_some,
      (sum_cell ha.2.2 hb.2.2 j).2]

theorem C16_cbf_intersection (est : Estimator) (a b : CBF) (p : Bool) (ha : CInv a) (hb : CInv b)
    (hs : a.similar b p = true) :
    ∃ r, CBF.intersection est a b p = some r ∧ CInv r ∧ r.k = a.k ∧ r.m = a.m ∧
      ∀ j, j < a.m → r.cells[j]? = some
        (if a.cells.getD j 0 > 0 ∧ b.cells.getD j 0 > 0
          then min Gen.uint32Max (a.cells.getD j 0 + b.cells.getD j 0) else 0) := by
  unfold CBF.intersection
  rw [if_neg (by simp [hs])]
  refine ⟨_, rfl, ⟨by simp [ha.1], ha.2.1, ?_⟩, rfl, rfl, ?_⟩
  · intro v hv
    obtain ⟨i, _, e⟩ := List.mem_map.1 hv
    rw [← e]
    split
    · exact (sum_cell ha.2.2 hb.2.2 i).1
    · exact ⟨Int.le_refl 0, by decide⟩
  · intro j hj
    have hj' : j < a.cells.length := by rw [ha.1]; exact hj
    simp only [List.getElem?_map, List.getElem?_range hj', Option.map_some,
      (sum_cell ha.2.2 hb.2.2 j).2]

theorem C16_cbf_setops_mismatch (est : Estimator) (a b : CBF) (p : Bool)
    (hs : a.similar b p = false) :
    CBF.union est a b p = none ∧ CBF.intersection est a b p = none := by
  simp [CBF.union, CBF.intersection, hs]

theorem C16_cbf_clear_inv (c : CBF) (hI : CInv c) : CInv c.clear :=
  ⟨by simp [CBF.clear, hI.1], hI.2.1, CellsOK.replicate _⟩

inductive COp
  | add (hs : List Nat) (n : Int)
  | remove (hs : List Nat) (n : Int)
  | union (other : CBF) (sameProbe : Bool)
  | inter (other : CBF) (sameProbe : Bool)
  | clear

def COp.OK (c : CBF) : COp → Prop
  | .add hs n => 1 ≤ n ∧ c.k ≤ hs.length
  | .remove _ n => 1 ≤ n
  | .union o _ => CInv o
  | .inter o _ => CInv o
  | .clear => True

def cstep (est : Estimator) (c : CBF) : COp → CBF
  | .add hs n => (c.addAlt hs n).1
  | .remove hs n => (c.removeAlt hs n).1
  | .union o p => (CBF.union est c o p).getD c
  | .inter o p => (CBF.intersection est c o p).getD c
  | .clear => c.clear

theorem C16_cbf_step (est : Estimator) (c : CBF) (op : COp) (hI : CInv c) (hop : op.OK c) :
    CInv (cstep est c op) ∧ (cstep est c op).k = c.k := by
  cases op with
  | add hs n =>
      have := C16_cbf_add c hs n hI hop.2 hop.1
      exact ⟨this.2.1, this.2.2.2.2.1⟩
  | remove hs n =>
      refine ⟨C16_cbf_remove_inv c hs n hI hop, ?_⟩
      rcases cbf_removeAlt_cases c hs n with h | ⟨_, _, _, _, h⟩
      · simp only [cstep]; rw [h]
      · exact h
  | union o p =>
      simp only [cstep]
      cases hs : c.similar o p with
      | true =>
          obtain ⟨r, e, h1, h2, _⟩ := C16_cbf_union est c o p hI hop hs
          rw [e]; exact ⟨h1, h2⟩
      | false => rw [(C16_cbf_setops_mismatch est c o p hs).1]; exact ⟨hI, rfl⟩
  | inter o p =>
      simp only [cstep]
      cases hs : c.similar o p with
      | true =>
          obtain ⟨r, e, h1, h2, _⟩ := C16_cbf_intersection est c o p hI hop hs
          rw [e]; exact ⟨h1, h2⟩
      | false => rw [(C16_cbf_setops_mismatch est c o p hs).2]; exact ⟨hI, rfl⟩
  | clear => exact ⟨C16_cbf_clear_inv c hI, rfl⟩

def CHist (est : Estimator) : CBF → List COp → Prop
  | _, [] => True
  | c, op :: rest => op.OK c ∧ CHist est (cstep est c op) rest

def crun (est : Estimator) (c : CBF) (ops : List COp) : CBF := ops.foldl (cstep est) c

theorem C16_cbf_history (est : Estimator) (c : CBF) (ops : List COp) (hI : CInv c)
    (hops : CHist est c ops) : CInv (crun est c ops) := by
  induction ops generalizing c with
  | nil => exact hI
  | cons op t ih => exact ih _ (C16_cbf_step est c op hI hops.1).1 hops.2

theorem C16_cbf_add_export (c : CBF) (hs : List Nat) (n : Int) (hI : CInv c) (hl : c.k ≤ hs.length)
    (hn : 1 ≤ n) (hc : 0 ≤ c.count) (he : c.est < 2 ^ 64) (hf : c.fpr32 < 2 ^ 32) :
    ∃ bs, (c.addAlt hs n).1.exportBytes = .ok bs := by
  obtain ⟨_, _, _, h4, _, _, h7, h8⟩ := C16_cbf_add c hs n hI hl hn
  rw [CBF.exportBytes_eq, CBF.footerVals, h4, h7, h8, Gen.uint64Max, bloomFooter_pack,
    if_neg (by omega), if_neg (by omega), if_neg (by omega)]
  exact ⟨_, rfl⟩

/-- a 2×2 sketch: one bin one below the upper limit, one at the lower limit, total near 2^63 -/
def exC : CMS := ⟨2, 2, [2147483646, 0, 5, -2147483648], 9223372036854775800, .min⟩

private theorem exC_inv : Inv exC := ⟨rfl, by decide, by decide, by decide⟩

example : exC.binIdx [0, 1] = [0, 3] := by decide

example : (exC.addAlt [0, 1] (2 ^ 70)).1 =
    ⟨2, 2, [2147483647, 0, 5, 2147483647], 9223372036854775807, .min⟩ := by decide

example : (exC.addAlt [0, 1] (2 ^ 70)).2 = .ok 2147483647 :=
  C16_cms_add_pinned exC [0, 1] (2 ^ 70) exC_inv (by decide) (by decide) rfl (by decide) rfl
    (by decide)

example : (exC.removeAlt [0, 1] (2 ^ 70)).1 =
    ⟨2, 2, [-2147483648, 0, 5, -2147483648], -9223372036854775808, .min⟩ := by decide

example : ∃ v, (exC.removeAlt [0, 1] (2 ^ 70)).2 = .ok v :=
  C16_cms_remove_ok exC [0, 1] (2 ^ 70) exC_inv (by decide) (by decide) rfl (by decide)
    (by decide)

/-- join with itself: the bin at the lower limit stays, 2147483646 + 2147483646 is pinned -/
example : (exC.join exC true).map (·.bins) = .ok [2147483647, 0, 10, -2147483648] := by rfl

/-- a history that crosses both limits and merges keeps the invariant and can be exported -/
example : ∃ bs, (run (CMS.new 2 2 .min)
    [.add [0, 1] (2 ^ 70), .join exC true, .remove [1, 1] (2 ^ 64 + 1), .add [7, 9] 1]).exportBytes
      = .ok bs :=
  C16_cms_history_export 2 2 .min _ (by decide) (by decide) (by
    intro op hop
    simp only [List.mem_cons, List.not_mem_nil, or_false] at hop
    rcases hop with h | h | h | h <;> subst h <;> simp [Op.AmountOK])

/-- a counting filter with `k = 2`, `m = 3`: cell 0 one below the limit, cell 2 at the limit -/
def exB : CBF := ⟨10, 0, 2, 3, [4294967294, 7, 4294967295], 18446744073709551614⟩

private theorem exB_inv : CInv exB := ⟨rfl, by decide, by unfold CellsOK; decide⟩

/-- the hashes `[0, 3]` give the coinciding positions `[0, 0]` (the D10 situation) -/
example : positions exB [0, 3] = [0, 0] := by decide

example : exB.addAlt [0, 3] (2 ^ 70) =
    (⟨10, 0, 2, 3, [4294967295, 7, 4294967295], 18446744073709551615⟩, .ok 4294967295) := by
  rfl

/-- coinciding positions and amount 1: 4294967294 + 1·2 is clamped (multiplicity 2) -/
example : (exB.addAlt [0, 3] 1).1.cells = [4294967295, 7, 4294967295] := by decide

example : exB.removeAlt [2, 5] 1 = (exB, .ok 4294967295) := by rfl

/-- removal through a saturated and an unsaturated cell: the saturated cell stays -/
example : (exB.removeAlt [1, 2] 3).1.cells = [4294967294, 4, 4294967295] := by decide

/-- union of two near-limit filters is clamped (the D11 situation) -/
example : (CBF.union (fun _ _ _ => 0) exB exB true).map (·.cells) =
    some [4294967295, 14, 4294967295] := by decide

end PyProb.C16
