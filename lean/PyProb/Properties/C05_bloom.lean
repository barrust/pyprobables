/-
  C05 — export followed by load reproduces the structure: Bloom family (Bloom filter, counting
  Bloom filter, expanding / rotating Bloom filters).  The overview of the whole property, with the
  hypotheses and what they mean, is in `Properties/C05.lean`; the count-min part is in
  `Properties/C05_cms.lean` and the cuckoo part in `Properties/C05_cuckoo.lean`.
-/
import PyProb.Lemmas.FormatsBloom
import PyProb.Lemmas.WFOpsBloom

namespace PyProb.C05
open PyProb

/-- the geometry function, applied to the two values the footer stores, gives back the `k` and `m`
    the filter was built with, and leaves the (float32) rate as it is -/
def GeomStable (geom : Geom) (est fpr32 k m : Nat) : Prop := geom est fpr32 = .ok (fpr32, k, m)

structure BloomWF (b : Bloom) : Prop where
  len : b.bits.length = Bloom.lengthOf b.m
  bytes : ∀ x ∈ b.bits, x < 256
  est : b.est < 2 ^ 64
  fpr : b.fpr32 < 2 ^ 32
  cnt0 : 0 ≤ b.count
  cnt1 : b.count < 2 ^ 64

structure CBFWF (c : CBF) : Prop where
  len : c.cells.length = c.m
  cells : ∀ x ∈ c.cells, 0 ≤ x ∧ x ≤ 4294967295
  est : c.est < 2 ^ 64
  fpr : c.fpr32 < 2 ^ 32
  cnt0 : 0 ≤ c.count
  cnt1 : c.count < 2 ^ 64

def SubsOK (e : Expanding) : Prop :=
  ∀ b ∈ e.blooms, b.est = e.est ∧ b.fpr32 = e.fpr32 ∧ b.k = e.k ∧ b.m = e.m ∧
    b.bits.length = Bloom.lengthOf e.m

instance (e : Expanding) : Decidable (SubsOK e) := by unfold SubsOK; infer_instance

structure ExpandingWF (e : Expanding) : Prop where
  nonempty : e.blooms ≠ []
  subs : SubsOK e
  counts : ∀ b ∈ e.blooms, 0 ≤ b.count ∧ b.count < 2 ^ 64
  size : e.blooms.length < 2 ^ 64
  est : e.est < 2 ^ 64
  fpr : e.fpr32 < 2 ^ 32
  added0 : 0 ≤ e.added
  added1 : e.added < 2 ^ 64

theorem C05_bloom_export_ok (b : Bloom) (wf : BloomWF b) : ∃ bytes, b.exportBytes = .ok bytes := by
  have h1 := wf.est; have h2 := wf.fpr; have h3 := wf.cnt0; have h4 := wf.cnt1
  unfold Bloom.exportBytes Bloom.footerVals
  rw [bloomFooter_pack, if_neg (by omega), if_neg (by omega), if_neg (by omega)]
  exact ⟨_, rfl⟩

/-- binary channel (`export`/`bytes()` then `frombytes`/`_load`) -/
theorem C05_bloom_roundtrip (geom : Geom) (b : Bloom) (bytes : Bytes)
    (hlen : b.bits.length = Bloom.lengthOf b.m)
    (hg : GeomStable geom b.est b.fpr32 b.k b.m)
    (h : b.exportBytes = .ok bytes) : Bloom.load geom bytes = .ok b := by
  rw [Bloom.exportBytes_eq] at h
  obtain ⟨f, hf, rfl⟩ := map_eq_ok h
  unfold Bloom.load
  rw [lastN_append _ _ _ (pack_length _ _ _ hf), ofFooter_pack geom _ f _ _ _ _ _ _ hf hg]
  simp only [Bloom.bloomLength, bloomCell_size, Nat.one_mul]
  rw [List.take_left' hlen]

theorem C05_bloom_stable (geom : Geom) (b : Bloom) (bytes : Bytes)
    (hlen : b.bits.length = Bloom.lengthOf b.m)
    (hg : GeomStable geom b.est b.fpr32 b.k b.m)
    (h : b.exportBytes = .ok bytes) :
    ∃ b', Bloom.load geom bytes = .ok b' ∧ b'.exportBytes = .ok bytes :=
  ⟨b, C05_bloom_roundtrip geom b bytes hlen hg h, h⟩

/-- hex channel (`export_hex` then `_load_hex`) -/
theorem C05_bloom_hex_roundtrip (geom : Geom) (b : Bloom) (hex : List Char)
    (hlen : b.bits.length = Bloom.lengthOf b.m)
    (hbytes : ∀ x ∈ b.bits, x < 256)
    (hg : GeomStable geom b.est b.fpr32 b.k b.m)
    (h : b.exportHex = .ok hex) : Bloom.loadHex geom hex = .ok b := by
  rw [Bloom.exportHex_eq] at h
  obtain ⟨f, hf, rfl⟩ := map_eq_ok h
  have hfl : f.length = 20 := by rw [pack_length _ _ _ hf, bloomFooterHex_size]
  have htake : b.bits.take b.bloomLength = b.bits := List.take_of_length_le (by simp [Bloom.bloomLength, hlen])
  unfold Bloom.loadHex
  simp only [bloomFooterHex_size, htake]
  rw [lastN_append _ _ _ (by rw [hexlify_length, hfl])]
  rw [List.length_append, hexlify_length f, hfl, Nat.add_sub_cancel, List.take_left]
  rw [unhexlify_hexlify _ (pack_lt _ _ _ hf), unhexlify_hexlify _ hbytes]
  simp only [ofFooter_pack geom _ f _ _ _ _ _ _ hf hg]

theorem C05_bloom_hex_same_payload (b : Bloom) (hex : List Char) (bytes : Bytes)
    (hlen : b.bits.length = Bloom.lengthOf b.m)
    (hh : b.exportHex = .ok hex) (hb : b.exportBytes = .ok bytes) :
    hex.take (2 * b.bloomLength) = hexlify (bytes.take b.bloomLength) ∧
    ((∀ x ∈ b.bits, x < 256) → unhexlify (hex.take (2 * b.bloomLength)) = some (bytes.take b.bloomLength)) := by
  rw [Bloom.exportHex_eq] at hh
  rw [Bloom.exportBytes_eq] at hb
  obtain ⟨fh, -, rfl⟩ := map_eq_ok hh
  obtain ⟨fb, -, rfl⟩ := map_eq_ok hb
  have hl : b.bits.length = b.bloomLength := hlen
  have htake : b.bits.take b.bloomLength = b.bits := List.take_of_length_le (by omega)
  rw [htake, List.take_left' (by rw [hexlify_length, hl]), List.take_left' hl]
  exact ⟨rfl, fun hx => unhexlify_hexlify _ hx⟩

/-- both channels carry the same footer values: the hex footer (`Gen.bloomFooterHex`) is big-endian,
    the binary one (`Gen.bloomFooter`) native -/
theorem C05_bloom_hex_same_footer (b : Bloom) (hex : List Char) (bytes : Bytes)
    (hh : b.exportHex = .ok hex) (hb : b.exportBytes = .ok bytes) :
    (unhexlify (Bloom.lastN (2 * Gen.bloomFooterHex.size) hex)).map Gen.bloomFooterHex.unpack
      = some (Gen.bloomFooter.unpack (Bloom.lastN Gen.bloomFooter.size bytes)) := by
  rw [Bloom.exportHex_eq] at hh
  rw [Bloom.exportBytes_eq] at hb
  obtain ⟨fh, hfh, rfl⟩ := map_eq_ok hh
  obtain ⟨fb, hfb, rfl⟩ := map_eq_ok hb
  have hfl : fh.length = 20 := by rw [pack_length _ _ _ hfh, bloomFooterHex_size]
  rw [lastN_append _ _ _ (pack_length _ _ _ hfb), bloomFooterHex_size,
    lastN_append _ _ _ (by rw [hexlify_length, hfl]), unhexlify_hexlify _ (pack_lt _ _ _ hfh)]
  simp only [Option.map_some, unpack_pack _ _ _ hfh, unpack_pack _ _ _ hfb]

theorem C05_bloom_new_wf (est fpr32 k m : Nat) (he : est < 2 ^ 64) (hf : fpr32 < 2 ^ 32) :
    BloomWF (Bloom.new est fpr32 k m) := by
  refine ⟨by simp [Bloom.new], ?_, he, hf, by simp [Bloom.new], by simp [Bloom.new]⟩
  intro x hx
  simp only [Bloom.new, List.mem_replicate] at hx
  omega

/-- `hc`: beyond 2^64 added elements the real `export` raises `struct.error` -/
theorem C05_bloom_add_wf (b : Bloom) (hs : List Nat) (wf : BloomWF b) (hc : b.count + 1 < 2 ^ 64) :
    BloomWF (b.addAlt hs).1 := by
  have hinv := And.intro ((foldl_setBitB_length (b.positions hs) b.bits).trans wf.len)
    (foldl_setBitB_byte_lt (b.positions hs) b.bits wf.bytes)
  have h0 := wf.cnt0; have h1 := wf.cnt1
  unfold Bloom.addAlt
  simp only
  split
  · exact ⟨hinv.1, hinv.2, wf.est, wf.fpr, wf.cnt0, wf.cnt1⟩
  · exact ⟨hinv.1, hinv.2, wf.est, wf.fpr, by simp only; omega, hc⟩

theorem C05_cbf_export_ok (c : CBF) (wf : CBFWF c) : ∃ bytes, c.exportBytes = .ok bytes := by
  have h1 := wf.est; have h2 := wf.fpr; have h3 := wf.cnt0; have h4 := wf.cnt1
  unfold CBF.exportBytes CBF.footerVals
  rw [bloomFooter_pack, if_neg (by omega), if_neg (by omega), if_neg (by omega)]
  exact ⟨_, rfl⟩

theorem C05_cbf_roundtrip (geom : Geom) (c : CBF) (bytes : Bytes)
    (hlen : c.cells.length = c.m)
    (hcells : ∀ x ∈ c.cells, 0 ≤ x ∧ x ≤ 4294967295)
    (hg : GeomStable geom c.est c.fpr32 c.k c.m)
    (h : c.exportBytes = .ok bytes) : CBF.load geom bytes = .ok c := by
  rw [CBF.exportBytes_eq] at h
  obtain ⟨f, hf, rfl⟩ := map_eq_ok h
  unfold CBF.load
  rw [lastN_append _ _ _ (pack_length _ _ _ hf), ofFooter_pack geom _ f _ _ _ _ _ _ hf hg]
  simp only [cbfCell_size]
  rw [List.take_left' (by rw [cellsBytes_length, hlen]; rfl)]
  rw [bytesCells_cellsBytes .u32 _ _ hlen.symm hcells]

theorem C05_cbf_stable (geom : Geom) (c : CBF) (bytes : Bytes)
    (hlen : c.cells.length = c.m)
    (hcells : ∀ x ∈ c.cells, 0 ≤ x ∧ x ≤ 4294967295)
    (hg : GeomStable geom c.est c.fpr32 c.k c.m)
    (h : c.exportBytes = .ok bytes) :
    ∃ c', CBF.load geom bytes = .ok c' ∧ c'.exportBytes = .ok bytes :=
  ⟨c, C05_cbf_roundtrip geom c bytes hlen hcells hg h, h⟩

theorem C05_cbf_hex_roundtrip (geom : Geom) (c : CBF) (hex : List Char)
    (hlen : c.cells.length = c.m)
    (hcells : ∀ x ∈ c.cells, 0 ≤ x ∧ x ≤ 4294967295)
    (hg : GeomStable geom c.est c.fpr32 c.k c.m)
    (h : c.exportHex = .ok hex) : CBF.loadHex geom hex = .ok c := by
  rw [CBF.exportHex_eq] at h
  obtain ⟨f, hf, rfl⟩ := map_eq_ok h
  have hfl : f.length = 20 := by rw [pack_length _ _ _ hf, bloomFooterHex_size]
  unfold CBF.loadHex
  simp only [bloomFooterHex_size]
  rw [lastN_append _ _ _ (by rw [hexlify_length, hfl])]
  rw [List.length_append, hexlify_length f, hfl, Nat.add_sub_cancel, List.take_left]
  rw [unhexlify_hexlify _ (pack_lt _ _ _ hf), unhexlify_hexlify _ (cellsBytes_lt _ _)]
  simp only [ofFooter_pack geom _ f _ _ _ _ _ _ hf hg, cbfCell_size, cellsBytes_length, Field.size]
  rw [if_neg (by simp)]
  rw [bytesCells_cellsBytes .u32 _ _ (by omega) hcells]

theorem C05_cbf_hex_same_payload (c : CBF) (hex : List Char) (bytes : Bytes)
    (hh : c.exportHex = .ok hex) (hb : c.exportBytes = .ok bytes) :
    hex.take (2 * (4 * c.cells.length)) = hexlify (bytes.take (4 * c.cells.length)) ∧
    unhexlify (hex.take (2 * (4 * c.cells.length))) = some (bytes.take (4 * c.cells.length)) := by
  rw [CBF.exportHex_eq] at hh
  rw [CBF.exportBytes_eq] at hb
  obtain ⟨fh, -, rfl⟩ := map_eq_ok hh
  obtain ⟨fb, -, rfl⟩ := map_eq_ok hb
  have hl : (cellsBytes .u32 c.cells).length = 4 * c.cells.length := by rw [cellsBytes_length]; rfl
  rw [List.take_left' (by rw [hexlify_length, hl]), List.take_left' hl]
  exact ⟨rfl, unhexlify_hexlify _ (cellsBytes_lt _ _)⟩

theorem C05_cbf_new_wf (est fpr32 k m : Nat) (he : est < 2 ^ 64) (hf : fpr32 < 2 ^ 32) :
    CBFWF (CBF.new est fpr32 k m) := by
  refine ⟨by simp [CBF.new], ?_, he, hf, by simp [CBF.new], by simp [CBF.new]⟩
  intro x hx
  simp only [CBF.new, List.mem_replicate] at hx
  omega

theorem C05_cbf_add_wf (c : CBF) (hs : List Nat) (n : Int)
    (hlen : c.cells.length = c.m) (hcells : ∀ x ∈ c.cells, 0 ≤ x ∧ x ≤ 4294967295) :
    (c.addAlt hs n).1.cells.length = (c.addAlt hs n).1.m ∧
      ∀ x ∈ (c.addAlt hs n).1.cells, 0 ≤ x ∧ x ≤ 4294967295 := by
  obtain ⟨h1, h2, h3⟩ := cbf_addAlt_ok c hs n hcells
  exact ⟨by rw [h2, h3, hlen], h1⟩

theorem C05_cbf_remove_wf (c : CBF) (hs : List Nat) (n : Int) (hn : 0 ≤ n)
    (hlen : c.cells.length = c.m) (hcells : ∀ x ∈ c.cells, 0 ≤ x ∧ x ≤ 4294967295) :
    (c.removeAlt hs n).1.cells.length = (c.removeAlt hs n).1.m ∧
      ∀ x ∈ (c.removeAlt hs n).1.cells, 0 ≤ x ∧ x ≤ 4294967295 := by
  obtain ⟨h1, h2, h3⟩ := cbf_removeAlt_ok c hs n hn hcells
  exact ⟨by rw [h2, h3, hlen], h1⟩

private theorem go_ok (blooms : List Bloom) (h : ∀ b ∈ blooms, 0 ≤ b.count ∧ b.count < 2 ^ 64) :
    ∃ body, Expanding.exportBytes.go blooms = .ok body := by
  induction blooms with
  | nil => exact ⟨_, rfl⟩
  | cons b bs ih =>
      obtain ⟨rest, hrest⟩ := ih (fun x hx => h x (List.mem_cons_of_mem _ hx))
      have hb := h b (by simp)
      simp only [Expanding.exportBytes.go, expCount_pack, hrest]
      rw [if_neg (by omega)]
      exact ⟨_, rfl⟩

theorem C05_expanding_export_ok (e : Expanding) (wf : ExpandingWF e) : ∃ bytes, e.exportBytes = .ok bytes := by
  obtain ⟨body, hbody⟩ := go_ok e.blooms wf.counts
  have h1 := wf.size; have h2 := wf.est; have h3 := wf.fpr; have h4 := wf.added0; have h5 := wf.added1
  unfold Expanding.exportBytes
  rw [hbody, expFooter_pack, if_neg (by omega), if_neg (by omega), if_neg (by omega), if_neg (by omega)]
  exact ⟨_, rfl⟩

theorem C05_expanding_roundtrip (geom : Geom) (e : Expanding) (bytes : Bytes)
    (hne : e.blooms ≠ [])
    (hsubs : SubsOK e)
    (hg : GeomStable geom e.est e.fpr32 e.k e.m)
    (h : e.exportBytes = .ok bytes) : Expanding.load geom bytes = .ok e := by
  rw [Expanding.exportBytes_eq] at h
  obtain ⟨body, hbody, h⟩ := bind_eq_ok h
  obtain ⟨f, hf, rfl⟩ := map_eq_ok h
  unfold Expanding.load
  rw [lastN_append _ _ _ (pack_length _ _ _ hf), unpack_pack _ _ _ hf]
  have hlen : 0 < e.blooms.length := List.length_pos_iff.mpr hne
  have hsz : ((e.blooms.length : Int) == 0) = false := by
    simp only [beq_eq_false_iff_ne, ne_eq]; omega
  simp only [hsz, Bool.false_eq_true, if_false, Int.toNat_natCast]
  have hg' : geom (e.est : Int) e.fpr32 = .ok (e.fpr32, e.k, e.m) := hg
  rw [hg']
  simp only [bloomCell_size, Nat.one_mul]
  have hp := parseBlooms_go e.est e.fpr32 e.k e.m e.blooms body f hsubs hbody
  have : (Bloom.new e.est e.fpr32 e.k e.m).bloomLength = Bloom.lengthOf e.m := rfl
  rw [this, hp]

theorem C05_expanding_stable (geom : Geom) (e : Expanding) (bytes : Bytes)
    (hne : e.blooms ≠ []) (hsubs : SubsOK e)
    (hg : GeomStable geom e.est e.fpr32 e.k e.m)
    (h : e.exportBytes = .ok bytes) :
    ∃ e', Expanding.load geom bytes = .ok e' ∧ e'.exportBytes = .ok bytes :=
  ⟨e, C05_expanding_roundtrip geom e bytes hne hsubs hg h, h⟩

/-- `RotatingBloomFilter.frombytes(b, max_queue_size)` (expandingbloom.py:293-311): footer and
    sub-filters are parsed as by the expanding loader; the queue limit, which the file does not
    store, is the caller's argument.  `Model/Expanding.lean` has the rotating filter's updates only,
    so the loader stands here, next to the round trip that speaks of it. -/
def Rotating.load (geom : Geom) (q : Int) (file : Bytes) : R Rotating :=
  match Expanding.load geom file with
  | .ok e => .ok { e with q := q }
  | .error x => .error x

theorem C05_rotating_roundtrip (geom : Geom) (r : Rotating) (bytes : Bytes)
    (hne : r.blooms ≠ []) (hsubs : SubsOK r.toExpanding)
    (hg : GeomStable geom r.est r.fpr32 r.k r.m)
    (h : r.toExpanding.exportBytes = .ok bytes) : Rotating.load geom r.q bytes = .ok r := by
  unfold Rotating.load
  rw [C05_expanding_roundtrip geom r.toExpanding bytes hne hsubs hg h]

theorem C05_expanding_new_wf (est fpr32 k m : Nat) (he : est < 2 ^ 64) (hf : fpr32 < 2 ^ 32) :
    ExpandingWF (Expanding.new est fpr32 k m) := by
  refine ⟨by simp [Expanding.new], ?_, ?_, by simp [Expanding.new], he, hf, by simp [Expanding.new],
    by simp [Expanding.new]⟩
  · intro b hb
    simp only [Expanding.new, List.mem_singleton] at hb
    subst hb; simp [Bloom.new, Expanding.new]
  · intro b hb
    simp only [Expanding.new, List.mem_singleton] at hb
    subst hb; simp [Bloom.new]

theorem C05_expanding_push_subs (e : Expanding) (h : SubsOK e) : SubsOK e.push := by
  intro b hb
  simp only [Expanding.push, List.mem_append, List.mem_singleton] at hb
  rcases hb with hb | hb
  · exact h b hb
  · rw [hb]; simp [Expanding.fresh, Bloom.new, Expanding.push]

theorem C05_expanding_add_wf (e : Expanding) (hs : List Nat) (force : Bool)
    (hne : e.blooms ≠ []) (hsubs : SubsOK e) :
    (e.addAlt hs force).1.blooms ≠ [] ∧ SubsOK (e.addAlt hs force).1 :=
  let h := expanding_addAlt_ok e hs force hsubs hne
  ⟨h.2, h.1⟩

theorem C05_rotating_add_wf (r : Rotating) (hs : List Nat) (force : Bool)
    (hne : r.blooms ≠ []) (hsubs : SubsOK r.toExpanding) :
    (r.addAlt hs force).1.blooms ≠ [] ∧ SubsOK (r.addAlt hs force).1.toExpanding ∧ (r.addAlt hs force).1.q = r.q :=
  let h := rotating_addAlt_ok r hs force hsubs hne
  ⟨h.2.1, h.1, h.2.2⟩

theorem C05_rotating_push_wf (r : Rotating) (hne : r.blooms ≠ []) (hsubs : SubsOK r.toExpanding) :
    r.push.blooms ≠ [] ∧ SubsOK r.push.toExpanding ∧ r.push.q = r.q := by
  obtain ⟨s1, s2, s3, s4, -, s6⟩ := Rotating.push_static r
  refine ⟨Rotating.rotate_ne_nil r true hne, fun b hb => ?_, s6⟩
  rw [s1, s2, s3, s4]
  exact Rotating.rotate_forall (SubOK r.est r.fpr32 r.k r.m) r true (SubOK_new _ _ _ _) hsubs b hb

theorem C05_rotating_pop_wf (r r' : Rotating) (hsubs : SubsOK r.toExpanding) (hne : r.blooms ≠ [])
    (hp : r.pop = .ok r') :
    r'.blooms ≠ [] ∧ SubsOK r'.toExpanding ∧ r'.q = r.q := by
  unfold Rotating.pop at hp
  split at hp
  · cases hp
  · rename_i hlen
    injection hp with hp; subst hp
    refine ⟨?_, fun b hb => hsubs b (List.mem_of_mem_drop hb), rfl⟩
    simp only [ne_eq, List.drop_eq_nil_iff, Nat.not_le]
    have : r.blooms.length ≠ 1 := by simpa using hlen
    have : 0 < r.blooms.length := List.length_pos_iff.mpr hne
    omega

/-! ## concrete states, exported and reloaded: the hypotheses above can be met -/

private def g13 : Geom := fun _ f => .ok (f, 3, 13)

private def b13 : Bloom := ⟨10, 1028443341, 3, 13, [0x25, 0x11], 2⟩
example : BloomWF b13 := ⟨rfl, by decide, by decide, by decide, by decide, by decide⟩
example : Bloom.load g13 (b13.exportBytes.toOption.getD []) = .ok b13 := by rfl
example : ∃ bytes, b13.exportBytes = .ok bytes ∧ bytes.length = 22 ∧ Bloom.load g13 bytes = .ok b13 := by
  obtain ⟨bytes, h⟩ := C05_bloom_export_ok b13 ⟨rfl, by decide, by decide, by decide, by decide, by decide⟩
  refine ⟨bytes, h, ?_, C05_bloom_roundtrip g13 b13 bytes rfl rfl h⟩
  have : b13.exportBytes = .ok (b13.exportBytes.toOption.getD []) := by rfl
  rw [this] at h; injection h with h; rw [← h]; decide
example : Bloom.loadHex g13 (b13.exportHex.toOption.getD []) = .ok b13 := by rfl

private def c5 : CBF := ⟨10, 1028443341, 3, 5, [0, 7, 4294967295, 1, 0], 8⟩
example : CBF.load (fun _ f => .ok (f, 3, 5)) (c5.exportBytes.toOption.getD []) = .ok c5 := by rfl
example : CBF.loadHex (fun _ f => .ok (f, 3, 5)) (c5.exportHex.toOption.getD []) = .ok c5 := by rfl

private def e2 : Expanding :=
  ⟨10, 1028443341, 3, 13, [⟨10, 1028443341, 3, 13, [0xff, 0x1f], 10⟩, ⟨10, 1028443341, 3, 13, [1, 0], 1⟩], 11⟩
example : e2.blooms ≠ [] ∧ SubsOK e2 := ⟨by decide, by decide⟩
example : Expanding.load g13 (e2.exportBytes.toOption.getD []) = .ok e2 := by rfl

end PyProb.C05
