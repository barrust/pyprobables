/-
  C03 — cuckoo filters (plain and counting) lose no key through kicks, expansion or a failed insert.

  Proved for ALL second-index hashes `G`, ALL oracles (resolutions of the filter's random choices), all
  `maxSwaps`, capacities, bucket sizes, rates ≥ 1, from `C15.Inv`, which every reachable state satisfies
  (`C15_init`, `C15_run`).  Keys are represented by their hash value (`add`/`check`/`remove` only ever
  use `hash(key)`).

  * `C03_insertFp_conservation` (`…_bins`, `…_counts`): `_insert_fingerprint` conserves occurrences in the
    table + [left-over], per fingerprint, per bin value and per fingerprint count; a failed insert returns
    the table unchanged and the bin it was given (`C03_insertFp_failed`).
  * per operation, success and failure branch: `C03_add_ok`, `C03_failed_add`, `C03_remove`,
    `C03_remove_false`, `C03_expand`.
  * `C03_exact`: over any history the count stored for every fingerprint equals the one predicted by a
    table-free specification (`stepSpec`).
  * `C03_history`: over any history, every key added by an `add` that returned normally and whose
    fingerprint was not the target of a later `remove` is reported present by `check`, also after calls
    that raised `CuckooFilterFullError`.
  Nothing is left unproved.  Loading an export is not part of the histories (see C05).
-/
import PyProb.Properties.C15

namespace PyProb.C03
open PyProb PyProb.Cuckoo PyProb.C15

/-- what `check` tests: the fingerprint sits in one of its two candidate buckets -/
def contains (G : Nat → Nat) (c : Cuckoo) (fp : Nat) : Prop :=
  c.hasFp (fp % c.cap) fp = true ∨ c.hasFp (G fp % c.cap) fp = true

def occ (c : Cuckoo) (g : Nat) : Nat := (c.buckets.map (fun bkt => (bkt.map (·.1)).count g)).sum

def occBin (c : Cuckoo) (bn : CBin) : Nat := (c.buckets.map (fun bkt => bkt.count bn)).sum

def cnt (c : Cuckoo) (g : Nat) : Nat :=
  (c.buckets.map (fun bkt => ((bkt.filter (·.1 == g)).map (·.2)).sum)).sum

def inHand (left : Option CBin) (p : CBin → Bool) : Nat :=
  match left with
  | some l => if p l then 1 else 0
  | none => 0

def inHandCnt (left : Option CBin) (g : Nat) : Nat :=
  match left with
  | some l => if l.1 = g then l.2 else 0
  | none => 0

private theorem contains_iff (G : Nat → Nat) (c : Cuckoo) (fp : Nat) : contains G c fp ↔ containsL G c fp := Iff.rfl

private theorem occ_eq (c : Cuckoo) (g : Nat) : occ c g = tsum (isFp g) c := by
  unfold occ tsum; congr 1
  exact List.map_congr_left (fun bkt _ => (bsum_isFp_eq_count g bkt).symm)

private theorem occBin_eq (c : Cuckoo) (bn : CBin) : occBin c bn = tsum (isBin bn) c := by
  unfold occBin tsum; congr 1
  exact List.map_congr_left (fun bkt _ => (bsum_isBin_eq_count bn bkt).symm)

private theorem cnt_eq (c : Cuckoo) (g : Nat) : cnt c g = tsum (cntW g) c := by
  unfold cnt tsum; congr 1
  exact List.map_congr_left (fun bkt _ => (bsum_cntW_eq g bkt).symm)

private theorem contains_iff_cnt {G : Nat → Nat} {c : Cuckoo} (h : Inv G c) (g : Nat) :
    contains G c g ↔ 0 < cnt c g := by
  rw [cnt_eq]; exact containsL_iff_cnt h.wf.toTab g

theorem C03_contains_iff_occ (G : Nat → Nat) (c : Cuckoo) (hinv : Inv G c) (g : Nat) :
    contains G c g ↔ 0 < occ c g := by
  rw [occ_eq]; exact containsL_iff_isFp hinv.wf.ts g

theorem C03_check_eq_cnt (G : Nat → Nat) (c : Cuckoo) (hinv : Inv G c) (h : Nat) :
    check G c h = cnt c (c.fingerprint h) := by
  rw [cnt_eq]; exact check_eq_cnt hinv.wf.toTab h

theorem C03_check_pos_iff (G : Nat → Nat) (c : Cuckoo) (hinv : Inv G c) (h : Nat) :
    0 < check G c h ↔ contains G c (c.fingerprint h) := by
  rw [C03_check_eq_cnt G c hinv, contains_iff_cnt hinv]

private theorem insertFp_cons {G : Nat → Nat} {c : Cuckoo} (hinv : Inv G c) (bin : CBin) (o : List Nat)
    (f : CBin → Nat) :
    tsum f (insertFp G c bin (bin.1 % c.cap) (G bin.1 % c.cap) o).1
      + optW f (insertFp G c bin (bin.1 % c.cap) (G bin.1 % c.cap) o).2.1 = tsum f c + f bin := by
  rcases insertFp_spec (G := G) bin o hinv.wf.ts with ⟨hl, _, _, hc, _⟩ | ⟨hl, hc⟩
  · rw [hl, hc]; rfl
  · rw [hl, hc]; rfl

private theorem inHand_isFp (left : Option CBin) (g : Nat) : inHand left (·.1 == g) = optW (isFp g) left := by
  cases left with
  | none => rfl
  | some l => simp only [inHand, optW, isFp, beq_iff_eq]

private theorem inHand_isBin (left : Option CBin) (bn : CBin) : inHand left (· == bn) = optW (isBin bn) left := by
  cases left with
  | none => rfl
  | some l => simp only [inHand, optW, isBin, beq_iff_eq]

private theorem inHandCnt_eq (left : Option CBin) (g : Nat) : inHandCnt left g = optW (cntW g) left := by
  cases left <;> rfl

theorem C03_insertFp_conservation (G : Nat → Nat) (c : Cuckoo) (hinv : Inv G c) (bin : CBin)
    (oracle : List Nat) (g : Nat) :
    occ (insertFp G c bin (bin.1 % c.cap) (G bin.1 % c.cap) oracle).1 g
      + inHand (insertFp G c bin (bin.1 % c.cap) (G bin.1 % c.cap) oracle).2.1 (·.1 == g)
    = occ c g + (if bin.1 = g then 1 else 0) := by
  rw [occ_eq, occ_eq, inHand_isFp]; exact insertFp_cons hinv bin oracle (isFp g)

/-- per bin value: a kicked victim keeps its count -/
theorem C03_insertFp_conservation_bins (G : Nat → Nat) (c : Cuckoo) (hinv : Inv G c) (bin : CBin)
    (oracle : List Nat) (bn : CBin) :
    occBin (insertFp G c bin (bin.1 % c.cap) (G bin.1 % c.cap) oracle).1 bn
      + inHand (insertFp G c bin (bin.1 % c.cap) (G bin.1 % c.cap) oracle).2.1 (· == bn)
    = occBin c bn + (if bin = bn then 1 else 0) := by
  rw [occBin_eq, occBin_eq, inHand_isBin]; exact insertFp_cons hinv bin oracle (isBin bn)

theorem C03_insertFp_conservation_counts (G : Nat → Nat) (c : Cuckoo) (hinv : Inv G c) (bin : CBin)
    (oracle : List Nat) (g : Nat) :
    cnt (insertFp G c bin (bin.1 % c.cap) (G bin.1 % c.cap) oracle).1 g
      + inHandCnt (insertFp G c bin (bin.1 % c.cap) (G bin.1 % c.cap) oracle).2.1 g
    = cnt c g + (if bin.1 = g then bin.2 else 0) := by
  rw [cnt_eq, cnt_eq, inHandCnt_eq]; exact insertFp_cons hinv bin oracle (cntW g)

theorem C03_insertFp_failed (G : Nat → Nat) (c : Cuckoo) (hinv : Inv G c) (bin : CBin) (oracle : List Nat)
    (hfail : (insertFp G c bin (bin.1 % c.cap) (G bin.1 % c.cap) oracle).2.1 ≠ none) :
    (insertFp G c bin (bin.1 % c.cap) (G bin.1 % c.cap) oracle).2.1 = some bin ∧
    (insertFp G c bin (bin.1 % c.cap) (G bin.1 % c.cap) oracle).1 = c := by
  rcases insertFp_spec (G := G) bin oracle hinv.wf.ts with ⟨hl, _⟩ | h
  · exact absurd hl hfail
  · exact h

private theorem frame_cnt {c c' : Cuckoo} {fp : Nat}
    (hfr : ∀ f : CBin → Nat, (∀ b, b.1 = fp → f b = 0) → tsum f c' = tsum f c) (g : Nat) (hg : g ≠ fp) :
    cnt c' g = cnt c g := by
  rw [cnt_eq, cnt_eq]
  apply hfr
  intro b hb
  simp only [cntW]
  split
  · rename_i e; exact absurd (e.symm.trans hb) hg
  · rfl

private theorem frame_bin {c c' : Cuckoo} {fp : Nat}
    (hfr : ∀ f : CBin → Nat, (∀ b, b.1 = fp → f b = 0) → tsum f c' = tsum f c) (bn : CBin) (hg : bn.1 ≠ fp) :
    occBin c' bn = occBin c bn := by
  rw [occBin_eq, occBin_eq]
  apply hfr
  intro b hb
  simp only [isBin]
  split
  · rename_i e; subst e; exact absurd hb hg
  · rfl

/-- `add` returned normally: the key's fingerprint is contained with count `old + 1` (counting filter)
    resp. 1 (plain), nothing contained before is lost, the bins of other fingerprints are untouched -/
theorem C03_add_ok (G : Nat → Nat) (c : Cuckoo) (h : Nat) (oracle : List Nat) (hinv : Inv G c)
    (hok : (c.add G h oracle).2.1 = none) :
    contains G (c.add G h oracle).1 (c.fingerprint h) ∧
    (∀ g, contains G c g → contains G (c.add G h oracle).1 g) ∧
    (∀ g, g ≠ c.fingerprint h → cnt (c.add G h oracle).1 g = cnt c g) ∧
    (∀ bn : CBin, bn.1 ≠ c.fingerprint h → occBin (c.add G h oracle).1 bn = occBin c bn) ∧
    cnt (c.add G h oracle).1 (c.fingerprint h) = (if c.counting then cnt c (c.fingerprint h) + 1 else 1) := by
  rcases add_spec h oracle hinv.wf.toTab hinv.wf.rate_pos with ⟨_, ht', hx, _, hfr, hcnt, _⟩ | ⟨he, _⟩
  · have hinv' : Inv G (c.add G h oracle).1 := hinv.of_tab hx ht'
    have hc : cnt (c.add G h oracle).1 (c.fingerprint h)
        = (if c.counting then cnt c (c.fingerprint h) + 1 else 1) := by
      rw [cnt_eq, cnt_eq]; exact hcnt
    refine ⟨?_, ?_, fun g hg => frame_cnt hfr g hg, fun bn hb => frame_bin hfr bn hb, hc⟩
    · rw [contains_iff_cnt hinv', hc]; split <;> omega
    · intro g hg
      rw [contains_iff_cnt hinv] at hg
      rw [contains_iff_cnt hinv']
      by_cases e : g = c.fingerprint h
      · subst e; rw [hc]; split <;> omega
      · rw [frame_cnt hfr g e]; exact hg
  · rw [he] at hok; exact absurd hok (by simp)

/-- a new fingerprint, possibly placed after kicks and an automatic expansion: the bins of the table are
    exactly the old bins plus `(fp, 1)` -/
theorem C03_add_ok_absent (G : Nat → Nat) (c : Cuckoo) (h : Nat) (oracle : List Nat) (hinv : Inv G c)
    (hok : (c.add G h oracle).2.1 = none) (hnew : ¬ contains G c (c.fingerprint h)) (bn : CBin) :
    occBin (c.add G h oracle).1 bn = occBin c bn + (if bn = (c.fingerprint h, 1) then 1 else 0) := by
  rcases add_spec h oracle hinv.wf.toTab hinv.wf.rate_pos with ⟨_, _, _, _, _, _, hall, _⟩ | ⟨he, _⟩
  · rw [occBin_eq, occBin_eq, hall hnew (isBin bn)]
    simp only [isBin, eq_comm]
  · rw [he] at hok; exact absurd hok (by simp)

/-- `add` raised `CuckooFilterFullError`: the filter is unchanged -/
theorem C03_failed_add (G : Nat → Nat) (c : Cuckoo) (h : Nat) (oracle : List Nat) (hinv : Inv G c)
    (hfail : (c.add G h oracle).2.1 = some .cuckooFull) :
    (c.add G h oracle).1 = c ∧ ∀ g, contains G c g → contains G (c.add G h oracle).1 g := by
  rcases add_spec h oracle hinv.wf.toTab hinv.wf.rate_pos with ⟨he, _⟩ | ⟨_, hc⟩
  · rw [he] at hfail; exact absurd hfail (by simp)
  · exact ⟨hc, fun g hg => by rw [hc]; exact hg⟩

/-- `remove` returned `True`: the count of the key's fingerprint drops by exactly one (for the plain
    filter it is gone); the bins of other fingerprints are untouched -/
theorem C03_remove (G : Nat → Nat) (c : Cuckoo) (h : Nat) (hinv : Inv G c)
    (hret : (c.remove G h).2 = true) :
    (∀ g, g ≠ c.fingerprint h → contains G c g → contains G (c.remove G h).1 g) ∧
    (∀ g, g ≠ c.fingerprint h → cnt (c.remove G h).1 g = cnt c g) ∧
    (∀ bn : CBin, bn.1 ≠ c.fingerprint h → occBin (c.remove G h).1 bn = occBin c bn) ∧
    cnt (c.remove G h).1 (c.fingerprint h) + 1 = cnt c (c.fingerprint h) ∧
    (c.counting = false → ¬ contains G (c.remove G h).1 (c.fingerprint h)) := by
  rcases remove_spec h hinv.wf.toTab with ⟨_, ht', hs, hcon, hfr, hcnt, _⟩ | ⟨he, _⟩
  · have hinv' : Inv G (c.remove G h).1 := hinv.of_tab hs.toX ht'
    have hc : cnt (c.remove G h).1 (c.fingerprint h) + 1 = cnt c (c.fingerprint h) := by
      rw [cnt_eq, cnt_eq]; exact hcnt
    refine ⟨?_, fun g hg => frame_cnt hfr g hg, fun bn hb => frame_bin hfr bn hb, hc, ?_⟩
    · intro g hg hcg
      rw [contains_iff_cnt hinv] at hcg
      rw [contains_iff_cnt hinv', frame_cnt hfr g hg]; exact hcg
    · intro hplain
      rw [contains_iff_cnt hinv']
      -- plain filter: the count before was exactly 1
      obtain ⟨bin, hst, e⟩ := (containsL_iff_stored hinv.wf.ts _).mp hcon
      have h1 : cnt c (c.fingerprint h) = bin.2 := by
        rw [cnt_eq, tsum_unique hinv.wf.nodup (cntW (c.fingerprint h)) bin hst
          (by intro b hb; simp [cntW, e ▸ hb])]
        simp [cntW, e]
      have h2 := hinv.wf.plain hplain bin hst
      omega
  · rw [he] at hret; exact absurd hret (by simp)

theorem C03_remove_false (G : Nat → Nat) (c : Cuckoo) (h : Nat) (hinv : Inv G c)
    (hret : (c.remove G h).2 = false) :
    (c.remove G h).1 = c ∧ ¬ contains G c (c.fingerprint h) := by
  rcases remove_spec h hinv.wf.toTab with ⟨ht, _⟩ | ⟨_, hc, hn⟩
  · rw [hret] at ht; exact absurd ht (by simp)
  · exact ⟨hc, hn⟩

/-- the public `expand()`: the same bins in a table `rate` times as large, all still found by look-ups;
    or `CuckooFilterFullError` and the filter unchanged -/
theorem C03_expand (G : Nat → Nat) (c : Cuckoo) (oracle : List Nat) (hinv : Inv G c) :
    ((expandLogic G c none oracle).2.1 = none ∧
      (expandLogic G c none oracle).1.cap = c.cap * c.rate ∧
      (∀ bn : CBin, occBin (expandLogic G c none oracle).1 bn = occBin c bn) ∧
      (∀ g, cnt (expandLogic G c none oracle).1 g = cnt c g) ∧
      (∀ g, contains G c g → contains G (expandLogic G c none oracle).1 g)) ∨
    ((expandLogic G c none oracle).2.1 = some .cuckooFull ∧ (expandLogic G c none oracle).1 = c) := by
  rcases expand_spec oracle hinv.wf.toTab hinv.wf.rate_pos with ⟨he, ht', hx, hcap, hall⟩ | ⟨he, hc⟩
  · have hinv' : Inv G (expandLogic G c none oracle).1 := hinv.of_tab hx ht'
    refine Or.inl ⟨he, hcap, fun bn => by rw [occBin_eq, occBin_eq, hall], fun g => by rw [cnt_eq, cnt_eq, hall], ?_⟩
    intro g hg
    rw [contains_iff_cnt hinv] at hg
    rw [contains_iff_cnt hinv', cnt_eq, hall, ← cnt_eq]; exact hg
  · exact Or.inr ⟨he, hc⟩

/-- history with a table-free specification `m` of the count of every fingerprint; `expand` and failed
    calls do not change it -/
def stepSpec (G : Nat → Nat) : Cuckoo × (Nat → Nat) → Op × List Nat → Cuckoo × (Nat → Nat)
  | (c, m), (.add h, oracle) =>
      (step G c (.add h, oracle),
        if (c.add G h oracle).2.1 = none then
          fun g => if g = c.fingerprint h then (if c.counting then m g + 1 else 1) else m g
        else m)
  | (c, m), (.remove h, oracle) =>
      (step G c (.remove h, oracle),
        fun g => if g = c.fingerprint h then (if c.counting then m g - 1 else 0) else m g)
  | (c, m), (.expand, oracle) => (step G c (.expand, oracle), m)

/-- history with the list of live keys: added by an `add` that returned normally, and no later
    `remove` targeted their fingerprint -/
def stepLive (G : Nat → Nat) : Cuckoo × List Nat → Op × List Nat → Cuckoo × List Nat
  | (c, live), (.add h, oracle) =>
      (step G c (.add h, oracle), if (c.add G h oracle).2.1 = none then h :: live else live)
  | (c, live), (.remove h, oracle) =>
      (step G c (.remove h, oracle), live.filter (fun k => c.fingerprint k != c.fingerprint h))
  | (c, live), (.expand, oracle) => (step G c (.expand, oracle), live)

private theorem stepSpec_fst (G : Nat → Nat) (c : Cuckoo) (m : Nat → Nat) (op : Op × List Nat) :
    (stepSpec G (c, m) op).1 = step G c op := by
  obtain ⟨op, oracle⟩ := op
  cases op <;> rfl

private theorem eq_update {f m v : Nat → Nat} {a : Nat} (ha : f a = v a) (hne : ∀ g, g ≠ a → f g = m g) (g : Nat) :
    f g = if g = a then v g else m g := by
  by_cases e : g = a
  · rw [if_pos e, e, ha]
  · rw [if_neg e, hne g e]

private theorem stepSpec_ok (G : Nat → Nat) (c : Cuckoo) (m : Nat → Nat) (op : Op × List Nat)
    (hinv : Inv G c) (hm : ∀ g, cnt c g = m g) :
    ∀ g, cnt (step G c op) g = (stepSpec G (c, m) op).2 g := by
  obtain ⟨op, oracle⟩ := op
  cases op with
  | add h =>
    simp only [stepSpec, step]
    rcases C15_add_result G c h oracle hinv with hok | ⟨hfail, hc⟩
    · obtain ⟨_, _, hfr, _, hcnt⟩ := C03_add_ok G c h oracle hinv hok
      rw [if_pos hok]
      exact eq_update (by rw [hcnt, hm]) (fun g e => by rw [hfr g e, hm])
    · rw [if_neg (by rw [hfail]; exact nofun), hc]; exact hm
  | remove h =>
    simp only [stepSpec, step]
    refine eq_update ?_ ?_
    · cases hret : (c.remove G h).2 with
      | true =>
        obtain ⟨_, _, _, hcnt, hpl⟩ := C03_remove G c h hinv hret
        rw [← hm]
        cases hcount : c.counting with
        | true => rw [if_pos rfl]; omega
        | false =>
          have := hpl hcount
          rw [contains_iff_cnt (C15_remove G c h hinv)] at this
          rw [if_neg nofun]; omega
      | false =>
        obtain ⟨hc, hn⟩ := C03_remove_false G c h hinv hret
        rw [contains_iff_cnt hinv] at hn
        rw [hc, ← hm]
        split <;> omega
    · intro g e
      cases hret : (c.remove G h).2 with
      | true => rw [(C03_remove G c h hinv hret).2.1 g e, hm]
      | false => rw [(C03_remove_false G c h hinv hret).1, hm]
  | expand =>
    show ∀ g, cnt (expandLogic G c none oracle).1 g = m g
    rcases C03_expand G c oracle hinv with ⟨_, _, _, hcnt, _⟩ | ⟨_, hc⟩
    · intro g; rw [hcnt, hm]
    · rw [hc]; exact hm

theorem C03_exact (G : Nat → Nat) (c : Cuckoo) (m : Nat → Nat) (ops : List (Op × List Nat))
    (hinv : Inv G c) (hm : ∀ g, cnt c g = m g) :
    (ops.foldl (stepSpec G) (c, m)).1 = run G c ops ∧
    ∀ g, cnt (ops.foldl (stepSpec G) (c, m)).1 g = (ops.foldl (stepSpec G) (c, m)).2 g := by
  obtain ⟨h1, h2⟩ := run_ghost_induction G (stepSpec G) (fun c m => ∀ g, cnt c g = m g) (stepSpec_fst G)
    (stepSpec_ok G) c m ops hinv hm
  exact ⟨h1, by rw [h1]; exact h2⟩

theorem C03_new_cnt (counting : Bool) (cap b maxSwaps rate : Nat) (auto : Bool) (fpBits : Nat) (g : Nat) :
    cnt (Cuckoo.new counting cap b maxSwaps rate auto fpBits) g = 0 := by
  rw [cnt_eq]; exact tsum_empty_table _ _ cap rfl

/-- `check` of any key after any history on a fresh filter is the specified count of its fingerprint -/
theorem C03_exact_check (G : Nat → Nat) (counting : Bool) (cap b maxSwaps rate : Nat) (auto : Bool) (fpBits : Nat)
    (hcap : 1 ≤ cap) (hb : 1 ≤ b) (hrate : 1 ≤ rate) (ops : List (Op × List Nat)) (k : Nat) :
    check G (run G (Cuckoo.new counting cap b maxSwaps rate auto fpBits) ops) k
      = (ops.foldl (stepSpec G) (Cuckoo.new counting cap b maxSwaps rate auto fpBits, fun _ => 0)).2
          ((Cuckoo.new counting cap b maxSwaps rate auto fpBits).fingerprint k) := by
  have hinv := C15_init G counting cap b maxSwaps rate auto fpBits hcap hb hrate
  obtain ⟨h1, h2⟩ := C03_exact G _ (fun _ => 0) ops hinv (fun g => C03_new_cnt counting cap b maxSwaps rate auto fpBits g)
  rw [C03_check_eq_cnt G _ (C15_run G _ ops hinv), ← h2, h1]
  rw [fingerprint_congr (C15_capacity G _ ops hinv).2.2.2.2.2.2 k]

private theorem stepLive_fst (G : Nat → Nat) (c : Cuckoo) (live : List Nat) (op : Op × List Nat) :
    (stepLive G (c, live) op).1 = step G c op := by
  obtain ⟨op, oracle⟩ := op
  cases op <;> rfl

private theorem stepLive_ok (G : Nat → Nat) (c : Cuckoo) (live : List Nat) (op : Op × List Nat)
    (hinv : Inv G c) (hl : ∀ k ∈ live, contains G c (c.fingerprint k)) :
    ∀ k ∈ (stepLive G (c, live) op).2, contains G (step G c op) ((step G c op).fingerprint k) := by
  have hfp : ∀ k, (step G c op).fingerprint k = c.fingerprint k :=
    fun k => fingerprint_congr (C15_step_capacity G c op hinv).2.2.2.2.2.2 k
  simp only [hfp]
  obtain ⟨op, oracle⟩ := op
  cases op with
  | add h =>
    simp only [stepLive, step]
    rcases C15_add_result G c h oracle hinv with hok | ⟨hfail, hc⟩
    · obtain ⟨hnew, hmono, _⟩ := C03_add_ok G c h oracle hinv hok
      rw [if_pos hok]
      intro k hk
      rcases List.mem_cons.mp hk with rfl | hk
      · exact hnew
      · exact hmono _ (hl k hk)
    · rw [hfail, hc]; simpa using hl
  | remove h =>
    simp only [stepLive, step]
    intro k hk
    rw [List.mem_filter] at hk
    obtain ⟨hk, hne⟩ := hk
    have hne' : c.fingerprint k ≠ c.fingerprint h := by simpa using hne
    cases hret : (c.remove G h).2 with
    | true => exact (C03_remove G c h hinv hret).1 _ hne' (hl k hk)
    | false => rw [(C03_remove_false G c h hinv hret).1]; exact hl k hk
  | expand =>
    simp only [stepLive, step]
    rcases C03_expand G c oracle hinv with ⟨_, _, _, _, hmono⟩ | ⟨_, hc⟩
    · intro k hk; exact hmono _ (hl k hk)
    · rw [hc]; exact hl

/-- no key lost: every live key is reported present by `check` in the final state, whatever evictions
    and expansions happened and whichever calls failed with `CuckooFilterFullError` -/
theorem C03_history (G : Nat → Nat) (c : Cuckoo) (live : List Nat) (ops : List (Op × List Nat))
    (hinv : Inv G c) (hl : ∀ k ∈ live, 0 < check G c k) :
    (ops.foldl (stepLive G) (c, live)).1 = run G c ops ∧
    ∀ k ∈ (ops.foldl (stepLive G) (c, live)).2, 0 < check G (run G c ops) k := by
  have hl' : ∀ k ∈ live, contains G c (c.fingerprint k) :=
    fun k hk => (C03_check_pos_iff G c hinv k).mp (hl k hk)
  suffices h : (ops.foldl (stepLive G) (c, live)).1 = run G c ops ∧
      ∀ k ∈ (ops.foldl (stepLive G) (c, live)).2, contains G (run G c ops) ((run G c ops).fingerprint k) from
    ⟨h.1, fun k hk => (C03_check_pos_iff G _ (C15_run G c ops hinv) k).mpr (h.2 k hk)⟩
  exact run_ghost_induction G (stepLive G) (fun c live => ∀ k ∈ live, contains G c (c.fingerprint k))
    (stepLive_fst G) (stepLive_ok G) c live ops hinv hl'

theorem C03_history_new (G : Nat → Nat) (counting : Bool) (cap b maxSwaps rate : Nat) (auto : Bool) (fpBits : Nat)
    (hcap : 1 ≤ cap) (hb : 1 ≤ b) (hrate : 1 ≤ rate) (ops : List (Op × List Nat)) :
    ∀ k ∈ (ops.foldl (stepLive G) (Cuckoo.new counting cap b maxSwaps rate auto fpBits, [])).2,
      0 < check G (run G (Cuckoo.new counting cap b maxSwaps rate auto fpBits) ops) k :=
  (C03_history G _ [] ops (C15_init G counting cap b maxSwaps rate auto fpBits hcap hb hrate)
    (by intro k hk; simp at hk)).2

/-! tests on `G0 fp = fp / 2`, `c0` = plain filter with 2 buckets of 1 slot, `maxSwaps = 2` (see C15) -/

def c1 : Cuckoo := run G0 c0 [(.add 2, [])]

example : c1.buckets = [[(2, 1)], []] := by decide +kernel
/-- `add 4` (candidate buckets 0 and 0, both full) cannot be placed directly … -/
example : c1.insertAt 0 (4, 1) = none := by decide +kernel
/-- … so it goes through the kick loop, which succeeds by evicting 2 to bucket 1 -/
example : ((kick G0 1 c1.maxSwaps c1 (4, 1) 0 [0]).1.map (·.buckets)) = some [[(4, 1)], [(2, 1)]] := by decide +kernel
example : (c1.add G0 4 [0, 0]).2.1 = none ∧ (c1.add G0 4 [0, 0]).1 = c2 := by decide +kernel
/-- `C03_add_ok` applies on this kick path -/
example : contains G0 c2 4 ∧ contains G0 c2 2 := by
  have hinv : Inv G0 c1 := C15_run G0 c0 _ (C15_init G0 false 2 1 2 2 false 8 (by decide) (by decide) (by decide))
  have h := C03_add_ok G0 c1 4 [0, 0] hinv (by decide)
  exact ⟨h.1, h.2.1 2 (by unfold contains; decide)⟩
example : check G0 c2 4 = 1 ∧ check G0 c2 2 = 1 ∧ check G0 c2 6 = 0 := by decide +kernel
/-- a failing add: fingerprint 6 (buckets 0 and 1), both full, two swaps are not enough, under the
    oracle `[0, 0, 0]` (start at bucket 0, evict slot 0 twice); `C03_failed_add` applies -/
example : (c2.add G0 6 [0, 0, 0]).2.1 = some .cuckooFull := by decide +kernel
example : (kick G0 1 c2.maxSwaps c2 (6, 1) 0 [0, 0]).1 = none := by decide +kernel
example : (c2.add G0 6 [0, 0, 0]).1 = c2 :=
  (C03_failed_add G0 c2 6 [0, 0, 0]
    (C15_run G0 c0 _ (C15_init G0 false 2 1 2 2 false 8 (by decide) (by decide) (by decide))) (by decide)).1
/-- a history with a kick, a failed add, a remove and an expansion -/
example : (([(.add 2, []), (.add 4, [0, 0]), (.add 6, [0, 0, 0]), (.remove 2, []), (.expand, [])] :
    List (Op × List Nat)).foldl (stepLive G0) (c0, [])).2 = [4] := by decide +kernel
example : (run G0 c0 [(.add 2, []), (.add 4, [0, 0]), (.add 6, [0, 0, 0]), (.remove 2, []), (.expand, [])]).buckets
    = [[(4, 1)], [], [], []] := by decide +kernel
/-- counting filter with auto-expansion: counts survive kicks and the expansion; the specification
    function predicts them -/
example : (([(.add 2, []), (.add 4, [0, 0]), (.add 4, []), (.add 6, [0, 0, 0]), (.remove 4, [])] :
    List (Op × List Nat)).foldl (stepSpec G0) (Cuckoo.new true 2 1 2 2 true 8, fun _ => 0)).2 4 = 1 := by decide +kernel
example : (run G0 (Cuckoo.new true 2 1 2 2 true 8)
    [(.add 2, []), (.add 4, [0, 0]), (.add 4, []), (.add 6, [0, 0, 0]), (.remove 4, [])]).buckets
      = [[(4, 1)], [(2, 1)], [(6, 1)], []] := by decide +kernel
/-- fingerprint 0 is never used: a hash value that is a multiple of `2^fpBits` gets fingerprint 1 -/
example : c0.fingerprint 256 = 1 := by decide +kernel

end PyProb.C03
