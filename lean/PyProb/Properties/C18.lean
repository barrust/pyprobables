/-
  C18 — hash strategies are deterministic (functions), return exactly `depth` values, are
  prefix-stable, in range, and equal the published FNV-1a.  The two `hash_with_depth_*` decorators
  are treated as instances of one loop (section `Loop`), whose lemmas give length, prefix and range.
-/
import PyProb.Lemmas.Codec
import PyProb.Model.Hashes
import PyProb.Model.Digest
import PyProb.Spec.Fnv

namespace PyProb.C18
open PyProb

theorem C18_len_default (key : Key) (d : Nat) : (defaultFnv key d).length = d := by
  simp [defaultFnv]

/-! The two decorators run the same loop: a state is advanced by `next` and `out` of each new state is
    collected.  What holds of every such loop `g` holds of both. -/
section Loop

variable {σ : Type} {g : σ → Nat → Nat → List Nat} {next : σ → Nat → σ} {out : σ → Nat}
  (h0 : ∀ s i, g s i 0 = []) (hs : ∀ s i n, g s i (n + 1) = out (next s i) :: g (next s i) (i + 1) n)
include h0 hs

private theorem loop_length (s : σ) (i n : Nat) : (g s i n).length = n := by
  induction n generalizing s i with
  | zero => rw [h0]; rfl
  | succ n ih => rw [hs, List.length_cons, ih]

private theorem loop_prefix (s : σ) (i n n' : Nat) (h : n ≤ n') : g s i n = (g s i n').take n := by
  induction n generalizing s i n' with
  | zero => rw [h0, List.take_zero]
  | succ n ih =>
      cases n' with
      | zero => exact absurd h (Nat.not_succ_le_zero n)
      | succ k => rw [hs, hs, List.take_succ_cons, ← ih _ _ k (Nat.le_of_succ_le_succ h)]

private theorem loop_forall {P : Nat → Prop} (hP : ∀ s i, P (out (next s i))) (s : σ) (i n : Nat) :
    ∀ v ∈ g s i n, P v := by
  induction n generalizing s i with
  | zero => intro v hv; rw [h0] at hv; cases hv
  | succ n ih =>
      intro v hv
      rw [hs, List.mem_cons] at hv
      rcases hv with rfl | hv
      · exact hP s i
      · exact ih _ _ v hv

end Loop

/-- any strategy built by `hash_with_depth_bytes` from any function (hence md5, sha256) -/
theorem C18_len_bytes (f : Bytes → Nat → Bytes) (key : Key) (d : Nat) :
    (withDepthBytes f key d).length = d :=
  loop_length (g := depthBytesGo f) (next := f) (out := fun t => ofLE (t.take 8)) (fun _ _ => rfl)
    (fun _ _ _ => rfl) _ _ _

private theorem depthIntGo_zero (f : Key → Nat → Nat) (s i : Nat) : depthIntGo f s i 0 = [] := rfl

-- the collected value is the new state itself: written `id (…)` so that the loop lemmas unify with `out := id`
private theorem depthIntGo_succ (f : Key → Nat → Nat) (s i n : Nat) :
    depthIntGo f s i (n + 1) = id (f (hexText s) i) :: depthIntGo f (f (hexText s) i) (i + 1) n := rfl

/-- any strategy built by `hash_with_depth_int`, for depth ≥ 1 -/
theorem C18_len_int (f : Key → Nat → Nat) (key : Key) (d : Nat) (hd : 1 ≤ d) :
    (withDepthInt f key d).length = d := by
  show (f key 0 :: depthIntGo f (f key 0) 1 (d - 1)).length = d
  rw [List.length_cons, loop_length (depthIntGo_zero f) (depthIntGo_succ f), Nat.sub_add_cancel hd]

theorem C18_prefix_default (key : Key) (d d' : Nat) (h : d ≤ d') :
    defaultFnv key d = (defaultFnv key d').take d := by
  simp only [defaultFnv, ← List.map_take, List.take_range, Nat.min_eq_left h]

theorem C18_prefix_bytes (f : Bytes → Nat → Bytes) (key : Key) (d d' : Nat) (h : d ≤ d') :
    withDepthBytes f key d = (withDepthBytes f key d').take d :=
  loop_prefix (g := depthBytesGo f) (next := f) (out := fun t => ofLE (t.take 8)) (fun _ _ => rfl)
    (fun _ _ _ => rfl) _ _ _ _ h

theorem C18_prefix_int (f : Key → Nat → Nat) (key : Key) (d d' : Nat) (hd : 1 ≤ d) (h : d ≤ d') :
    withDepthInt f key d = (withDepthInt f key d').take d := by
  obtain ⟨n, rfl⟩ : ∃ n, d = n + 1 := ⟨d - 1, (Nat.sub_add_cancel hd).symm⟩
  show f key 0 :: depthIntGo f (f key 0) 1 n = (f key 0 :: depthIntGo f (f key 0) 1 (d' - 1)).take (n + 1)
  rw [List.take_succ_cons, ← loop_prefix (depthIntGo_zero f) (depthIntGo_succ f) _ _ n (d' - 1) (Nat.le_sub_one_of_lt h)]

private theorem mask64 : Gen.fnv64Mask = 2 ^ 64 - 1 := by decide
private theorem mask32 : Gen.fnv32Mask = 2 ^ 32 - 1 := by decide

private theorem fnvLoop_lt (prime bits h : Nat) (l : List Nat) (hh : h < 2 ^ bits) :
    fnvLoop prime (2 ^ bits - 1) h l < 2 ^ bits := by
  induction l generalizing h with
  | nil => exact hh
  | cons c cs ih =>
      apply ih
      rw [Nat.and_two_pow_sub_one_eq_mod]
      exact Nat.mod_lt _ (Nat.two_pow_pos _)

private theorem fnvStart_eq (offset mult bits : Nat) (seed : Int) :
    fnvStart offset mult (2 ^ bits - 1) seed =
      (((offset : Int) + (mult : Int) * seed) % ((2 ^ bits : Nat) : Int)).toNat := by
  unfold fnvStart
  rw [← Int.natCast_succ, Nat.succ_eq_add_one, Nat.sub_add_cancel (Nat.two_pow_pos bits)]

private theorem fnvStart_lt (offset mult bits : Nat) (seed : Int) :
    fnvStart offset mult (2 ^ bits - 1) seed < 2 ^ bits := by
  have hpos : (0 : Int) < ((2 ^ bits : Nat) : Int) := Int.natCast_pos.mpr (Nat.two_pow_pos bits)
  rw [fnvStart_eq, Int.toNat_lt (Int.emod_nonneg _ (Int.ne_of_gt hpos))]
  exact Int.emod_lt_of_pos _ hpos

/-- the source masks the seeded offset basis (extracted fact; `rfl` fails if it no longer does) -/
private theorem init64 (seed : Int) :
    fnvInit Gen.fnv64StartMasked Gen.fnv64Offset Gen.fnv64Mult Gen.fnv64Mask seed =
      fnvStart Gen.fnv64Offset Gen.fnv64Mult Gen.fnv64Mask seed := rfl

private theorem init32 (seed : Int) :
    fnvInit Gen.fnv32StartMasked Gen.fnv32Offset Gen.fnv32Mult Gen.fnv32Mask seed =
      fnvStart Gen.fnv32Offset Gen.fnv32Mult Gen.fnv32Mask seed := rfl

theorem C18_range_fnv64 (key : Key) (seed : Int) : fnv1a64 key seed < 2 ^ 64 := by
  unfold fnv1a64; rw [init64, mask64]; exact fnvLoop_lt _ 64 _ _ (fnvStart_lt _ _ 64 _)

theorem C18_range_fnv32 (key : Key) (seed : Int) : fnv1a32 key seed < 2 ^ 32 := by
  unfold fnv1a32; rw [init32, mask32]; exact fnvLoop_lt _ 32 _ _ (fnvStart_lt _ _ 32 _)

theorem C18_range_default (key : Key) (d : Nat) : ∀ v ∈ defaultFnv key d, v < 2 ^ 64 := by
  intro v hv
  simp only [defaultFnv, List.mem_map] at hv
  obtain ⟨i, _, rfl⟩ := hv
  exact C18_range_fnv64 _ _

private theorem ofLE_take8_lt (bs : Bytes) (h : ∀ x ∈ bs, x < 256) : ofLE (bs.take 8) < 2 ^ 64 :=
  calc ofLE (bs.take 8) < 256 ^ (bs.take 8).length := ofLE_lt _ (fun x hx => h x (List.mem_of_mem_take hx))
    _ ≤ 256 ^ 8 := Nat.pow_le_pow_right (by decide) (List.length_take_le 8 bs)
    _ = 2 ^ 64 := by decide

theorem C18_range_bytes (f : Bytes → Nat → Bytes) (hf : ∀ b i, ∀ x ∈ f b i, x < 256)
    (key : Key) (d : Nat) : ∀ v ∈ withDepthBytes f key d, v < 2 ^ 64 :=
  loop_forall (g := depthBytesGo f) (next := f) (out := fun t => ofLE (t.take 8)) (fun _ _ => rfl)
    (fun _ _ _ => rfl) (fun s i => ofLE_take8_lt (f s i) (hf s i)) _ _ _

private theorem fnvLoop_eq_spec (prime bits h : Nat) (l : List Nat) :
    fnvLoop prime (2 ^ bits - 1) h l = Spec.fnv1a prime bits h l := by
  induction l generalizing h with
  | nil => rfl
  | cons c cs ih =>
      simp only [fnvLoop, Spec.fnv1a, List.foldl_cons]
      rw [Nat.and_two_pow_sub_one_eq_mod]
      exact ih _

private theorem fnvStart_nat (offset mult bits : Nat) (i : Nat) :
    fnvStart offset mult (2 ^ bits - 1) (Int.ofNat i) = (offset + mult * i) % 2 ^ bits := by
  rw [fnvStart_eq, Int.ofNat_eq_natCast, ← Int.natCast_mul, ← Int.natCast_add, ← Int.natCast_emod,
    Int.toNat_natCast]

/-- `fnv_1a(key, i)` is the published 64-bit FNV-1a started from the basis advanced by `31·i`;
    the constants on the left are extracted from the source, those on the right are the published ones -/
theorem C18_fnv64_is_published (key : Key) (i : Nat) :
    fnv1a64 key (Int.ofNat i) = Spec.fnv1a64 ((Spec.fnv64Basis + 31 * i) % 2 ^ 64) key.units := by
  unfold fnv1a64 Spec.fnv1a64
  rw [init64, mask64, fnvLoop_eq_spec, fnvStart_nat]
  rfl

/-- the 32-bit variant used by the quotient filter -/
theorem C18_fnv32_is_published (key : Key) (i : Nat) :
    fnv1a32 key (Int.ofNat i) = Spec.fnv1a32 ((Spec.fnv32Basis + 31 * i) % 2 ^ 32) key.units := by
  unfold fnv1a32 Spec.fnv1a32
  rw [init32, mask32, fnvLoop_eq_spec, fnvStart_nat]
  rfl

theorem C18_default_is_published_fnv (key : Key) (d : Nat) :
    defaultFnv key d =
      (List.range d).map fun i => Spec.fnv1a64 ((Spec.fnv64Basis + 31 * i) % 2 ^ 64) key.units := by
  simp only [defaultFnv, C18_fnv64_is_published]

private theorem utf8_ascii (cps : List Nat) (h : ∀ c ∈ cps, c < 128) : utf8 cps = cps := by
  induction cps with
  | nil => rfl
  | cons c cs ih =>
      have hc := h c (by simp)
      have := ih (fun x hx => h x (by simp [hx]))
      simp only [utf8, List.flatMap_cons] at this ⊢
      rw [this]
      simp [utf8Char, hc]

/-- FNV-1a: an ASCII text key hashes like its UTF-8 bytes -/
theorem C18_ascii (cps : List Nat) (h : ∀ c ∈ cps, c < 128) (d : Nat) :
    defaultFnv ⟨true, cps⟩ d = defaultFnv ⟨false, utf8 cps⟩ d := by
  rw [utf8_ascii cps h]; rfl

/-- byte decorator (md5, sha256, any function): a text key always hashes like its UTF-8 bytes -/
theorem C18_text_bytes_digest (f : Bytes → Nat → Bytes) (cps : List Nat) (d : Nat) :
    withDepthBytes f ⟨true, cps⟩ d = withDepthBytes f ⟨false, utf8 cps⟩ d := rfl

/-! The shipped digest strategies (MD5 / SHA-256 as implemented in `Model/Digest.lean`, which the
    hashes suite compares with `hashlib`) are instances of the byte decorator -/

private theorem md5_bytes (b : Bytes) : ∀ x ∈ md5 b, x < 256 := by
  intro x hx
  simp only [md5, List.mem_append] at hx
  rcases hx with ((h | h) | h) | h <;> exact leBytes_lt _ _ x h

private theorem sha256_bytes (b : Bytes) : ∀ x ∈ sha256 b, x < 256 := by
  intro x hx
  simp only [sha256, List.mem_flatMap] at hx
  obtain ⟨w, _, hw⟩ := hx
  simp only [beBytes, List.mem_reverse] at hw
  exact leBytes_lt _ _ x hw

theorem C18_md5 (key : Key) (d d' : Nat) (h : d ≤ d') :
    (defaultMd5 key d).length = d ∧ defaultMd5 key d = (defaultMd5 key d').take d ∧
    (∀ v ∈ defaultMd5 key d, v < 2 ^ 64) :=
  ⟨C18_len_bytes _ key d, C18_prefix_bytes _ key d d' h, C18_range_bytes _ (fun b _ => md5_bytes b) key d⟩

theorem C18_sha256 (key : Key) (d d' : Nat) (h : d ≤ d') :
    (defaultSha256 key d).length = d ∧ defaultSha256 key d = (defaultSha256 key d').take d ∧
    (∀ v ∈ defaultSha256 key d, v < 2 ^ 64) :=
  ⟨C18_len_bytes _ key d, C18_prefix_bytes _ key d d' h, C18_range_bytes _ (fun b _ => sha256_bytes b) key d⟩

theorem C18_digest_text (cps : List Nat) (d : Nat) :
    defaultMd5 ⟨true, cps⟩ d = defaultMd5 ⟨false, utf8 cps⟩ d ∧
    defaultSha256 ⟨true, cps⟩ d = defaultSha256 ⟨false, utf8 cps⟩ d := ⟨rfl, rfl⟩

-- the FNV-1a vectors are the published ones

example : fnv1a64 ⟨true, [97]⟩ 0 = 0xaf63dc4c8601ec8c := by decide
example : fnv1a64 ⟨false, [102, 111, 111, 98, 97, 114]⟩ 0 = 0x85944171f73967e8 := by decide
example : fnv1a32 ⟨true, [97]⟩ 0 = 0xe40c292c := by decide
example : fnv1a32 ⟨false, [102, 111, 111, 98, 97, 114]⟩ 0 = 0xbf9cf968 := by decide
example : defaultFnv ⟨true, [97]⟩ 2 = (defaultFnv ⟨true, [97]⟩ 5).take 2 := C18_prefix_default _ 2 5 (by decide)
example : (withDepthInt (fun k i => k.units.sum + i) ⟨true, [1, 2]⟩ 3).length = 3 := C18_len_int _ _ 3 (by decide)

end PyProb.C18
