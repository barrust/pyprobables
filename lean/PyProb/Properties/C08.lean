/-
  C08 — Counting filters count exactly and removal undoes addition.

  Counting Bloom filter (`PyProb.CBF`, countingbloom.py), proved for every geometry `k ≥ 1`,
  `m ≥ 1`, every hash strategy (positions of one key may coincide), every history:
  * `C08_cbf_undo`   : below the saturation limit, `remove_alt` after `add_alt` restores the state
                        exactly (cells and counter), whatever the multiplicities of the positions.
  * `C08_cbf_cells`  : along a legitimate unsaturated history every cell equals
                        `Σ_keys outstanding(key) · multiplicity(key, cell)`, and every call returns a value.
  * `C08_cbf_lower`  : hence `check` never reports less than the key's outstanding additions.
  * `C08_cbf_absent` : removing a key that `check` reports absent changes nothing and returns 0.
  * `C08_cbf_short`  : a hash list shorter than `k` raises IndexError and changes nothing.

  Counting cuckoo filter (`PyProb.Cuckoo` with `counting = true`, countingcuckoo.py), proved for
  every fingerprint hash `G`, every oracle (sequence of random draws), every table satisfying the
  invariant `Ccf.Inv` (no duplicate fingerprint in the table, every bin in one of its two candidate
  buckets, counts ≥ 1; established by `new`, preserved by every operation).  The definitions used in
  the statements (`Ccf.Inv`, `Ccf.countOf`, `Ccf.run`, …) are in `PyProb/Lemmas/CcfCount.lean`.
  * `C08_ccf_add_present`, `C08_ccf_add_room`, `C08_ccf_remove`, `C08_ccf_remove_many`,
    `C08_ccf_remove_last`, `C08_ccf_absent` : the single operations.
  * `C08_ccf_exact`  : histories without evictions: `check key` = outstanding additions of the keys
                        sharing the key's fingerprint.
  * `C08_ccf_exact_with_kicks` : the same for ALL histories in which no call raised, i.e. after any
                        number of evictions (kick loop) and automatic expansions, for every oracle —
                        under the hypothesis `0 < expansion_rate`, which `Ccf.Inv`, unlike `C15.Inv`,
                        has no clause for (with rate 0 the model's expansion silently loses every
                        bin whereas Python raises ZeroDivisionError; see the test in `CcfCount.lean`).
  Nothing is left unproved.  Not covered: saturated counting-Bloom cells (the property is stated
  below the saturation limit), cuckoo counts beyond the uint32 export range.
-/
import PyProb.Lemmas.CcfKick
import PyProb.Lemmas.CbfCore

namespace PyProb.C08

section CountingBloom
open PyProb CBF Cbf

def WF (c : CBF) : Prop := c.cells.length = c.m ∧ 0 < c.m ∧ ∀ x ∈ c.cells, 0 ≤ x

def positions (k m : Nat) (hs : List Nat) : List Nat := (hs.take k).map (· % m)

/-- "below the saturation limit" for one `add(hs, n)`: no touched cell reaches `UINT32_MAX`,
    counting `n` once per occurrence of the cell among the positions -/
def CellRoom (c : CBF) (hs : List Nat) (n : Int) : Prop :=
  ∀ j < c.m, c.cells.getD j 0 + ((positions c.k c.m hs).count j : Int) * n < Gen.uint32Max

theorem WF_new (est fpr32 k m : Nat) (hm : 0 < m) : WF (CBF.new est fpr32 k m) :=
  ⟨List.length_replicate, hm, fun _ hx => Int.le_of_eq (List.eq_of_mem_replicate hx).symm⟩

private theorem pos_eq (c : CBF) (hs : List Nat) (h : c.cells.length = c.m) :
    Counters.touched c hs = positions c.k c.m hs := by
  rw [Counters.touched, positions, h]

private theorem room_all {c : CBF} {hs : List Nat} {n : Int} (wf : WF c) (room : CellRoom c hs n) (j : Nat) :
    c.cells.getD j 0 + ((Counters.touched c hs).count j : Int) * n < Gen.uint32Max := by
  by_cases hj : j < c.m
  · rw [pos_eq c hs wf.1]
    exact room j hj
  · -- outside the table the cell reads 0 and `j` is no position
    have hlen : c.cells.length ≤ j := wf.1 ▸ Nat.le_of_not_lt hj
    have h0 : (Counters.touched c hs).count j = 0 :=
      List.count_eq_zero.mpr fun h => Nat.not_lt.mpr hlen (touched_lt c hs (wf.1 ▸ wf.2.1) j h)
    rw [h0, getD_of_length_le _ j hlen, Int.natCast_zero, Int.zero_mul]
    decide

private theorem checkAlt_ok (c : CBF) {hs : List Nat} (hne : hs ≠ []) :
    checkAlt c hs = .ok (minList (hs.map fun h => c.cells.getD (h % c.m) 0)) := by
  cases hs with
  | nil => exact absurd rfl hne
  | cons a l => rfl

private theorem checkAlt_take (c : CBF) (hs : List Nat) (h : c.cells.length = c.m) (hne : hs.take c.k ≠ []) :
    checkAlt c (hs.take c.k) = .ok (minList ((Counters.touched c hs).map fun j => c.cells.getD j 0)) := by
  rw [checkAlt_ok c hne, Counters.touched, h, List.map_map]
  rfl

/-- the state in which every cell has changed by `d` per occurrence among the positions of `hs`:
    what `add_alt` (`d = n`) and `remove_alt` (`d = -n`) leave below the saturation limit -/
private def bumped (c : CBF) (hs : List Nat) (d count : Int) : CBF :=
  { c with cells := bump d c.cells (Counters.touched c hs), count := count }

private theorem pos_bumped (c : CBF) (hs : List Nat) (d x : Int) (hs' : List Nat) :
    Counters.touched (bumped c hs d x) hs' = Counters.touched c hs' := by
  simp only [Counters.touched, bumped, bump_length]

private theorem getD_bumped (c : CBF) (hs : List Nat) (d x : Int) (hm : 0 < c.cells.length) (j : Nat) :
    (bumped c hs d x).cells.getD j 0 = c.cells.getD j 0 + ((Counters.touched c hs).count j : Int) * d :=
  getD_bump_all d c.cells _ (touched_lt c hs hm) j

private theorem bumped_undo (c : CBF) (hs : List Nat) (n : Int) :
    bumped (bumped c hs n (c.count + n)) hs (-n) ((bumped c hs n (c.count + n)).count - n) = c := by
  rw [bumped, pos_bumped]
  show ({ c with cells := bump (-n) (bump n c.cells (Counters.touched c hs)) (Counters.touched c hs),
                 count := c.count + n - n } : CBF) = c
  rw [bump_bump_neg, Int.add_sub_cancel]

private theorem addAlt_room {c : CBF} {hs : List Nat} {n : Int} (wf : WF c) (hl : c.k ≤ hs.length)
    (hn : 0 ≤ n) (room : CellRoom c hs n) :
    c.addAlt hs n = (bumped c hs n (min (c.count + n) Gen.uint64Max),
      .ok (minList ((Counters.touched c hs).map fun j => c.cells.getD j 0 + n))) :=
  addAlt_unsat c hs n hl hn wf.2.2 fun j => Int.le_of_lt (room_all wf room j)

private theorem removeAlt_full {c : CBF} {hs : List Nat} {n : Int} (wf : WF c) (hk : 0 < c.k)
    (hl : c.k ≤ hs.length) (hn : 1 ≤ n) (hlt : ∀ j, c.cells.getD j 0 < Gen.uint32Max)
    (hge : ∀ j, ((Counters.touched c hs).count j : Int) * n ≤ c.cells.getD j 0) :
    c.removeAlt hs n = (bumped c hs (-n) (c.count - n),
      .ok (minList ((Counters.touched c hs).map fun j => c.cells.getD j 0) - n)) := by
  have hn0 : 0 ≤ n := Int.le_trans Int.one_nonneg hn
  have hne := touched_ne_nil c hs hk hl
  have hmn : n ≤ minList ((Counters.touched c hs).map fun j => c.cells.getD j 0) := by
    apply le_minList fun e => hne (List.map_eq_nil_iff.mp e)
    intro x hx
    obtain ⟨j, hj, rfl⟩ := List.mem_map.mp hx
    exact Int.le_trans (le_count_mul hj hn0) (hge j)
  refine removeAlt_ok c hs n n hl (wf.1 ▸ wf.2.1) hne hlt ?_ ?_ hn0 hge
  · exact Int.ne_of_gt (Int.lt_of_lt_of_le Int.one_pos (Int.le_trans hn hmn))
  · split
    · rfl
    · next h => exact Int.le_antisymm hmn (Int.not_lt.mp h)

/-- **Removal undoes addition.** Below the saturation limit (`CellRoom`, and the element counter
    below `UINT64_MAX`), `add_alt(hs, n)` followed by `remove_alt(hs, n)` restores the filter
    exactly, also when several of the key's positions coincide. -/
theorem C08_cbf_undo (c : CBF) (hs : List Nat) (n : Int) (wf : WF c) (hk : 0 < c.k)
    (hl : c.k ≤ hs.length) (hn : 1 ≤ n) (room : CellRoom c hs n)
    (hcount : c.count + n ≤ Gen.uint64Max) :
    ∃ v w, (c.addAlt hs n).2 = .ok v ∧
      removeAlt (c.addAlt hs n).1 hs n = (c, .ok w) ∧
      WF (c.addAlt hs n).1 ∧
      checkAlt c (hs.take c.k) = .ok (v - n) ∧
      checkAlt (c.addAlt hs n).1 (hs.take c.k) = .ok (w + n) := by
  have hn0 : 0 ≤ n := Int.le_trans Int.one_nonneg hn
  have hne : Counters.touched c hs ≠ [] := touched_ne_nil c hs hk hl
  have htake : hs.take c.k ≠ [] := fun e => hne (congrArg (List.map _) e)
  have hcell := getD_nonneg_of_mem wf.2.2
  have hmul : ∀ j, 0 ≤ ((Counters.touched c hs).count j : Int) * n := fun j =>
    Int.mul_nonneg (Int.natCast_nonneg _) hn0
  -- the state in between: every cell has grown by `n` per occurrence
  have hget := getD_bumped c hs n (c.count + n) (wf.1 ▸ wf.2.1)
  have wf' : WF (bumped c hs n (c.count + n)) := by
    refine ⟨(bump_length ..).trans wf.1, wf.2.1, forall_mem_of_forall_getD fun j _ => ?_⟩
    rw [hget]
    exact Int.add_nonneg (hcell j) (hmul j)
  have hrem := removeAlt_full wf' hk hl hn
    (fun j => hget j ▸ room_all wf room j)
    (fun j => by
      rw [pos_bumped, hget]
      exact Int.le_add_of_nonneg_left (hcell j))
  rw [bumped_undo] at hrem
  rw [addAlt_room wf hl hn0 room, Int.min_eq_left hcount]
  refine ⟨_, _, rfl, hrem, wf', ?_, ?_⟩
  · rw [minList_map_add _ _ _ hne, Int.add_sub_cancel]
    exact checkAlt_take c hs wf.1 htake
  · rw [Int.sub_add_cancel]
    exact checkAlt_take _ hs wf'.1 htake

/-- **Removing a key the filter reports absent changes nothing and says so** (returns 0).
    `check_alt` takes the minimum over all supplied hashes, `remove_alt` over the first `k`:
    the statement is for a hash list of exactly `k` hashes, as `hashes(key)` produces. -/
theorem C08_cbf_absent (c : CBF) (hs : List Nat) (n : Int) (wf : WF c) (hl : hs.length = c.k)
    (h : checkAlt c hs = .ok 0) : removeAlt c hs n = (c, .ok 0) := by
  have hne : hs ≠ [] := by
    intro e
    rw [e] at h
    cases h
  have hpne : Counters.touched c hs ≠ [] :=
    touched_ne_nil c hs (hl ▸ List.length_pos_iff.mpr hne) (Nat.le_of_eq hl.symm)
  have htake : hs.take c.k = hs := hl ▸ List.take_length
  have hmin : minList ((Counters.touched c hs).map fun k => c.cells.getD k 0) = 0 := by
    have e := checkAlt_take c hs wf.1 (htake.symm ▸ hne)
    rw [htake, h] at e
    exact (Except.ok.inj e).symm
  unfold removeAlt
  rw [indices_ok c hs (Nat.le_of_eq hl.symm)]
  cases hp : Counters.touched c hs with
  | nil => exact absurd hp hpne
  | cons a l =>
    rw [hp] at hmin
    simp only [hmin]
    rfl

theorem C08_cbf_short (c : CBF) (hs : List Nat) (n : Int) (hl : hs.length < c.k) :
    removeAlt c hs n = (c, .error .indexError) ∧ addAlt c hs n = (c, .error .indexError) := by
  simp [removeAlt, addAlt, indices_short c hs hl]

inductive Op (κ : Type) where
  | add (key : κ) (n : Int)
  | remove (key : κ) (n : Int)

def Op.key {κ} : Op κ → κ
  | .add key _ => key
  | .remove key _ => key

def Op.delta {κ} : Op κ → Int
  | .add _ n => n
  | .remove _ n => -n

variable {κ : Type} [DecidableEq κ]

/-- one call; `H key k` is `hashes(key, depth = k)` -/
def step (H : κ → Nat → List Nat) (c : CBF) : Op κ → CBF × R Int
  | .add key n => c.addAlt (H key c.k) n
  | .remove key n => c.removeAlt (H key c.k) n

def run (H : κ → Nat → List Nat) (c : CBF) (ops : List (Op κ)) : CBF :=
  ops.foldl (fun c op => (step H c op).1) c

/-- outstanding additions of `key`: added minus removed -/
def cnt (ops : List (Op κ)) (key : κ) : Int :=
  (ops.map fun op => if op.key = key then op.delta else 0).sum

def mult (H : κ → Nat → List Nat) (k m : Nat) (key : κ) (j : Nat) : Nat :=
  (positions k m (H key k)).count j

def legitAt (pre : List (Op κ)) : Op κ → Prop
  | .add _ n => 1 ≤ n
  | .remove key n => 1 ≤ n ∧ n ≤ cnt pre key

def roomAt (H : κ → Nat → List Nat) (c : CBF) : Op κ → Prop
  | .add key n => CellRoom c (H key c.k) n
  | .remove _ _ => True

/-- amounts are ≥ 1 and a removal never exceeds the key's outstanding count (prefix property) -/
def Legit (ops : List (Op κ)) : Prop :=
  ∀ i (hi : i < ops.length), legitAt (ops.take i) ops[i]

/-- no cell ever reaches the saturation limit: every `add` meets a state with room (prefix property) -/
def Unsat (H : κ → Nat → List Nat) (c0 : CBF) (ops : List (Op κ)) : Prop :=
  ∀ i (hi : i < ops.length), roomAt H (run H c0 (ops.take i)) ops[i]

theorem cnt_append (ops : List (Op κ)) (op : Op κ) (key : κ) :
    cnt (ops ++ [op]) key = cnt ops key + if op.key = key then op.delta else 0 := by
  simp [cnt, List.sum_append]

omit [DecidableEq κ] in
theorem run_append (H : κ → Nat → List Nat) (c : CBF) (ops : List (Op κ)) (op : Op κ) :
    run H c (ops ++ [op]) = (step H (run H c ops) op).1 := by
  simp [run, List.foldl_append]

theorem cnt_nonneg_step {pre : List (Op κ)} {op : Op κ} (hleg : legitAt pre op) {key : κ}
    (h : 0 ≤ cnt pre key) : 0 ≤ cnt (pre ++ [op]) key := by
  rw [cnt_append]
  by_cases e : op.key = key
  · rw [if_pos e]
    cases op with
    | add key' n =>
      have hn : 1 ≤ n := hleg
      exact Int.add_nonneg h (Int.le_trans Int.one_nonneg hn)
    | remove key' n =>
      obtain ⟨_, hle⟩ : 1 ≤ n ∧ n ≤ cnt pre key' := hleg
      subst e
      exact Int.sub_nonneg_of_le hle
  · rw [if_neg e, Int.add_zero]
    exact h

theorem cnt_nonneg (ops : List (Op κ)) (hL : Legit ops) : ∀ i, i ≤ ops.length → ∀ key, 0 ≤ cnt (ops.take i) key :=
  prefix_induction_all (fun pre => ∀ key, 0 ≤ cnt pre key) ops (fun _ => Int.le_refl 0)
    fun i hi ih key => cnt_nonneg_step (hL i hi) (ih key)

theorem cnt_nonneg_of_legit {ops : List (Op κ)} (hL : Legit ops) (key : κ) : 0 ≤ cnt ops key := by
  have := cnt_nonneg ops hL ops.length (Nat.le_refl _) key
  rwa [List.take_length] at this

private theorem sum_cnt_nil (K : List κ) (F : κ → Int) :
    (K.map fun key => cnt ([] : List (Op κ)) key * F key).sum = 0 :=
  sum_map_zero K _ fun key _ => Int.zero_mul (F key)

private theorem sum_cnt_append {K : List κ} (hK : K.Nodup) (ops : List (Op κ)) {op : Op κ} (hop : op.key ∈ K)
    (F : κ → Int) :
    (K.map fun key => cnt (ops ++ [op]) key * F key).sum
      = (K.map fun key => cnt ops key * F key).sum + op.delta * F op.key := by
  rw [← sum_map_ite_eq K op.key (fun key => op.delta * F key) hK hop, ← sum_map_add]
  refine congrArg List.sum (List.map_congr_left fun key _ => ?_)
  rw [cnt_append]
  by_cases h : op.key = key
  · rw [if_pos h, if_pos h, Int.add_mul]
  · rw [if_neg h, if_neg h, Int.add_zero, Int.add_zero]

private structure CellInv (H : κ → Nat → List Nat) (k m : Nat) (K : List κ) (ops : List (Op κ)) (c : CBF) : Prop where
  k_eq : c.k = k
  m_eq : c.m = m
  len : c.cells.length = m
  cells : ∀ j, c.cells.getD j 0 = (K.map fun key => cnt ops key * (mult H k m key j : Int)).sum
  lt : ∀ j, c.cells.getD j 0 < Gen.uint32Max

section
variable {H : κ → Nat → List Nat} {k m : Nat} {K : List κ} {ops : List (Op κ)} {c : CBF}

private theorem inv_wf (hm : 0 < m) (inv : CellInv H k m K ops c) (hc : ∀ key, 0 ≤ cnt ops key) : WF c := by
  refine ⟨inv.len.trans inv.m_eq.symm, inv.m_eq ▸ hm, forall_mem_of_forall_getD fun j _ => ?_⟩
  rw [inv.cells j]
  exact sum_map_nonneg K _ fun key _ => Int.mul_nonneg (hc key) (Int.natCast_nonneg _)

private theorem inv_count (inv : CellInv H k m K ops c) (key : κ) (j : Nat) :
    (Counters.touched c (H key c.k)).count j = mult H k m key j := by
  rw [pos_eq c _ (inv.len.trans inv.m_eq.symm), inv.k_eq, inv.m_eq]
  rfl

private theorem inv_share_le (inv : CellInv H k m K ops c) (hc : ∀ key, 0 ≤ cnt ops key) {key : κ}
    (hkey : key ∈ K) (j : Nat) : (mult H k m key j : Int) * cnt ops key ≤ c.cells.getD j 0 := by
  rw [inv.cells j, Int.mul_comm]
  exact term_le_sum K (fun key' => cnt ops key' * (mult H k m key' j : Int))
    (fun x _ => Int.mul_nonneg (hc x) (Int.natCast_nonneg _)) hkey

private theorem inv_bumped (hm : 0 < m) (hK : K.Nodup) (inv : CellInv H k m K ops c) {op : Op κ}
    (hop : op.key ∈ K) (x : Int)
    (hlt : ∀ j,
      c.cells.getD j 0 + ((Counters.touched c (H op.key c.k)).count j : Int) * op.delta < Gen.uint32Max) :
    CellInv H k m K (ops ++ [op]) (bumped c (H op.key c.k) op.delta x) := by
  have hget := getD_bumped c (H op.key c.k) op.delta x (inv.len ▸ hm)
  refine ⟨inv.k_eq, inv.m_eq, (bump_length ..).trans inv.len, ?_, ?_⟩
  · intro j
    rw [hget, inv.cells j, sum_cnt_append hK ops hop, inv_count inv, Int.mul_comm op.delta]
  · intro j
    rw [hget]
    exact hlt j

private theorem inv_step (hk : 0 < k) (hm : 0 < m)
    (hH : ∀ key, (H key k).length = k) (hK : K.Nodup) (op : Op κ) (hop : op.key ∈ K)
    (inv : CellInv H k m K ops c) (hc : ∀ key, 0 ≤ cnt ops key)
    (hleg : legitAt ops op) (hroom : roomAt H c op) :
    (∃ v, (step H c op).2 = .ok v) ∧ CellInv H k m K (ops ++ [op]) (step H c op).1 := by
  have wf := inv_wf hm inv hc
  have hk' : 0 < c.k := inv.k_eq ▸ hk
  have hl : ∀ key, c.k ≤ (H key c.k).length := fun key => Nat.le_of_eq (by rw [inv.k_eq, hH])
  cases op with
  | add key n =>
    have hn : 1 ≤ n := hleg
    rw [step, addAlt_room wf (hl key) (Int.le_trans Int.one_nonneg hn) hroom]
    exact ⟨⟨_, rfl⟩, inv_bumped hm hK inv hop _ (room_all wf hroom)⟩
  | remove key n =>
    obtain ⟨hn, hle⟩ : 1 ≤ n ∧ n ≤ cnt ops key := hleg
    -- the key's share of a cell is at least `n` per occurrence
    have hge : ∀ j, ((Counters.touched c (H key c.k)).count j : Int) * n ≤ c.cells.getD j 0 := by
      intro j
      rw [inv_count inv]
      exact Int.le_trans (Int.mul_le_mul_of_nonneg_left hle (Int.natCast_nonneg _))
        (inv_share_le inv hc hop j)
    have hlt : ∀ j, c.cells.getD j 0 + ((Counters.touched c (H key c.k)).count j : Int) * -n < Gen.uint32Max := by
      intro j
      rw [Int.mul_neg, ← Int.sub_eq_add_neg]
      exact Int.lt_of_le_of_lt (Int.sub_le_self _ (Int.mul_nonneg (Int.natCast_nonneg _)
        (Int.le_trans Int.one_nonneg hn))) (inv.lt j)
    rw [step, removeAlt_full wf hk' (hl key) hn inv.lt hge]
    exact ⟨⟨_, rfl⟩, inv_bumped hm hK inv hop _ hlt⟩

private theorem inv_new (est fpr32 : Nat) : CellInv H k m K [] (CBF.new est fpr32 k m) := by
  have hget : ∀ j, (CBF.new est fpr32 k m).cells.getD j 0 = 0 := fun j => getD_replicate _ j 0
  refine ⟨rfl, rfl, List.length_replicate, ?_, ?_⟩
  · intro j
    rw [hget, sum_cnt_nil]
  · intro j
    rw [hget]
    decide

variable {est fpr32 : Nat} (hk : 0 < k) (hm : 0 < m) (hH : ∀ key, (H key k).length = k) (hK : K.Nodup)
  (hcov : ∀ op ∈ ops, op.key ∈ K) (hL : Legit ops) (hU : Unsat H (CBF.new est fpr32 k m) ops)
include hk hm hH hK hcov hL hU

private theorem inv_prefix : ∀ i, i ≤ ops.length →
    CellInv H k m K (ops.take i) (run H (CBF.new est fpr32 k m) (ops.take i)) := by
  apply prefix_induction_all (fun pre => CellInv H k m K pre (run H (CBF.new est fpr32 k m) pre))
  · exact inv_new est fpr32
  · intro i hi inv
    rw [run_append]
    exact (inv_step hk hm hH hK ops[i] (hcov _ (List.getElem_mem hi)) inv
      (cnt_nonneg ops hL i (Nat.le_of_lt hi)) (hL i hi) (hU i hi)).2

private theorem inv_run : CellInv H k m K ops (run H (CBF.new est fpr32 k m) ops) := by
  have := inv_prefix hk hm hH hK hcov hL hU ops.length (Nat.le_refl _)
  rwa [List.take_length] at this

end

/-- **Exact cell contents.** Along any history from a fresh filter that is legitimate and stays below
    the saturation limit, for any duplicate-free list `K` of keys covering the history: every call
    returns a value (no exception) and cell `j` holds exactly `Σ_{key ∈ K} outstanding(key) · mult(key, j)`. -/
theorem C08_cbf_cells (H : κ → Nat → List Nat) (est fpr32 k m : Nat) (hk : 0 < k) (hm : 0 < m)
    (hH : ∀ key, (H key k).length = k) (K : List κ) (hK : K.Nodup) (ops : List (Op κ))
    (hcov : ∀ op ∈ ops, op.key ∈ K) (hL : Legit ops) (hU : Unsat H (CBF.new est fpr32 k m) ops) :
    WF (run H (CBF.new est fpr32 k m) ops) ∧
    (run H (CBF.new est fpr32 k m) ops).k = k ∧ (run H (CBF.new est fpr32 k m) ops).m = m ∧
    (∀ j, j < m → (run H (CBF.new est fpr32 k m) ops).cells.getD j 0
        = (K.map fun key => cnt ops key * (mult H k m key j : Int)).sum) ∧
    (∀ x ∈ (run H (CBF.new est fpr32 k m) ops).cells, x < Gen.uint32Max) ∧
    (∀ i (hi : i < ops.length),
        ∃ v, (step H (run H (CBF.new est fpr32 k m) (ops.take i)) ops[i]).2 = .ok v) := by
  have inv := inv_run hk hm hH hK hcov hL hU
  refine ⟨inv_wf hm inv (cnt_nonneg_of_legit hL), inv.k_eq, inv.m_eq, fun j _ => inv.cells j,
    forall_mem_of_forall_getD fun j _ => inv.lt j, ?_⟩
  intro i hi
  exact (inv_step hk hm hH hK ops[i] (hcov _ (List.getElem_mem hi))
    (inv_prefix hk hm hH hK hcov hL hU i (Nat.le_of_lt hi))
    (cnt_nonneg ops hL i (Nat.le_of_lt hi)) (hL i hi) (hU i hi)).1

/-- **`check` never reports less than the key's outstanding additions** (∀ key, whether or not
    it occurs in the history; positions may coincide within a key and across keys). -/
theorem C08_cbf_lower (H : κ → Nat → List Nat) (est fpr32 k m : Nat) (hk : 0 < k) (hm : 0 < m)
    (hH : ∀ key, (H key k).length = k) (ops : List (Op κ))
    (hL : Legit ops) (hU : Unsat H (CBF.new est fpr32 k m) ops) (key : κ) :
    ∃ v, checkAlt (run H (CBF.new est fpr32 k m) ops) (H key k) = .ok v ∧ cnt ops key ≤ v := by
  -- the cell formula over the keys of the history together with `key`
  have inv := inv_run hk hm hH (CmsCore.nodup_dedup (key :: ops.map Op.key))
    (fun op hop => (CmsCore.mem_dedup _ _).mpr (List.mem_cons_of_mem _ (List.mem_map.mpr ⟨op, hop, rfl⟩)))
    hL hU
  have hkey : key ∈ CmsCore.dedup (key :: ops.map Op.key) := (CmsCore.mem_dedup _ _).mpr List.mem_cons_self
  have hc := cnt_nonneg_of_legit hL
  have hne : H key k ≠ [] := List.ne_nil_of_length_pos ((hH key).symm ▸ hk)
  refine ⟨_, checkAlt_ok _ hne, ?_⟩
  apply le_minList fun e => hne (List.map_eq_nil_iff.mp e)
  intro x hx
  obtain ⟨h, hh, rfl⟩ := List.mem_map.mp hx
  rw [inv.m_eq]
  have hpos : h % m ∈ positions k m (H key k) := by
    rw [positions, List.take_of_length_le (Nat.le_of_eq (hH key))]
    exact List.mem_map.mpr ⟨h, hh, rfl⟩
  exact Int.le_trans (le_count_mul hpos (hc key)) (inv_share_le inv hc hkey _)

instance (c : CBF) (hs : List Nat) (n : Int) : Decidable (CellRoom c hs n) := by
  unfold CellRoom; infer_instance
instance (pre : List (Op κ)) (op : Op κ) : Decidable (legitAt pre op) := by
  cases op <;> simp only [legitAt] <;> infer_instance
instance (H : κ → Nat → List Nat) (c : CBF) (op : Op κ) : Decidable (roomAt H c op) := by
  cases op <;> simp only [roomAt] <;> infer_instance
instance (ops : List (Op κ)) : Decidable (Legit ops) := by unfold Legit; infer_instance
instance (H : κ → Nat → List Nat) (c0 : CBF) (ops : List (Op κ)) : Decidable (Unsat H c0 ops) := by
  unfold Unsat; infer_instance

/-- test strategy: key `x` hashes to `x, 2x, 3x, …`; with `m = 4`, `k = 3` key 2 has the
    positions 2, 0, 2 (one cell twice) and shares cells with keys 1 and 3 -/
def exH : Nat → Nat → List Nat := fun key d => (List.range d).map fun i => key * (i + 1)
def exOps : List (Op Nat) := [.add 2 3, .add 1 1, .remove 2 2, .add 3 1, .remove 1 1, .add 2 1]

example : ∀ key, (exH key 3).length = 3 := by simp [exH]
example : positions 3 4 (exH 2 3) = [2, 0, 2] := by decide +kernel
example : Legit exOps := by decide +kernel
example : Unsat exH (CBF.new 10 0 3 4) exOps := by decide +kernel

private theorem exRun : run exH (CBF.new 10 0 3 4) exOps = ⟨10, 0, 3, 4, [2, 1, 5, 1], 3⟩ := by
  decide +kernel

example : (run exH (CBF.new 10 0 3 4) exOps).cells = [2, 1, 5, 1] := by rw [exRun]
example : cnt exOps 2 = 2 ∧
    (checkAlt (run exH (CBF.new 10 0 3 4) exOps) (exH 2 3)).toOption = some 2 := by
  rw [exRun]
  decide +kernel
/-- `C08_cbf_undo` on a state with coinciding positions -/
example : WF (run exH (CBF.new 10 0 3 4) exOps) ∧
    CellRoom (run exH (CBF.new 10 0 3 4) exOps) (exH 2 3) 7 := by
  rw [exRun]
  exact ⟨⟨rfl, by decide, by decide⟩, by decide⟩
example : (addAlt (run exH (CBF.new 10 0 3 4) exOps) (exH 2 3) 7).2.toOption = some 9 ∧
    (addAlt (run exH (CBF.new 10 0 3 4) exOps) (exH 2 3) 7).1.cells = [9, 1, 19, 1] := by
  rw [exRun]
  decide +kernel
example :
    (removeAlt (addAlt (run exH (CBF.new 10 0 3 4) exOps) (exH 2 3) 7).1 (exH 2 3) 7).1
      = run exH (CBF.new 10 0 3 4) exOps ∧
    (removeAlt (addAlt (run exH (CBF.new 10 0 3 4) exOps) (exH 2 3) 7).1 (exH 2 3) 7).2.toOption
      = some 2 := by
  rw [exRun]
  decide +kernel
example : (checkAlt (CBF.new 10 0 3 4) (exH 1 3)).toOption = some 0 ∧
    (removeAlt (CBF.new 10 0 3 4) (exH 1 3) 5).1 = CBF.new 10 0 3 4 ∧
    (removeAlt (CBF.new 10 0 3 4) (exH 1 3) 5).2.toOption = some 0 := by decide +kernel

end CountingBloom

section CountingCuckoo
open PyProb Cuckoo
open PyProb.Ccf (Inv countOf SameParams SameCfg NoKick AllAddsOk outstanding)

theorem C08_ccf_inv_new (G : Nat → Nat) (cap b maxSwaps rate : Nat) (auto : Bool) (fpBits : Nat)
    (h : 0 < cap) : Inv G (Cuckoo.new true cap b maxSwaps rate auto fpBits) :=
  Ccf.inv_new G cap b maxSwaps rate auto fpBits h

theorem C08_ccf_check {G : Nat → Nat} {c : Cuckoo} (inv : Inv G c) (h : Nat) :
    check G c h = countOf c (c.fingerprint h) := Ccf.ccf_check inv h

/-- **add of a key whose fingerprint is stored**: exactly that bin's count goes up by one (all other
    bins, their order and their buckets unchanged), no random draw is consumed -/
theorem C08_ccf_add_present {G : Nat → Nat} {c : Cuckoo} (inv : Inv G c) (h : Nat) (oracle : List Nat)
    (hp : 0 < countOf c (c.fingerprint h)) :
    ∃ c', add G c h oracle = (c', none, oracle) ∧ Inv G c' ∧ SameParams c c' ∧
      c'.count = c.count + 1 ∧ c'.unique = c.unique ∧
      c'.buckets = c.buckets.map (fun bkt => bkt.map (Ccf.bump (c.fingerprint h))) ∧
      countOf c' (c.fingerprint h) = countOf c (c.fingerprint h) + 1 ∧
      (∀ fp', fp' ≠ c.fingerprint h → countOf c' fp' = countOf c fp') ∧
      check G c' h = check G c h + 1 := by
  rcases Ccf.present_cases inv (c.fingerprint h) with ⟨_, _, e0⟩ | ⟨i, v, e, _, _, hm, _⟩
  · omega
  have hadd := Ccf.add_stored_eq inv.1 h oracle e
  have hs := add_present_spec h oracle inv.tab e
  rw [hadd] at hs
  obtain ⟨hinv, _, hc1, hc2⟩ := Ccf.ccf_of_addPost inv hs
  refine ⟨_, hadd, hinv, ⟨rfl, rfl, rfl, rfl, rfl, rfl, rfl⟩, rfl, rfl, Ccf.set_map_eq inv hm _ Ccf.bump_other,
    hc1, hc2, ?_⟩
  rw [Ccf.ccf_check inv, ← hc1]
  exact Ccf.ccf_check hinv h

/-- **add of a new fingerprint when one of its two buckets has room**: stored with count 1 -/
theorem C08_ccf_add_room {G : Nat → Nat} {c : Cuckoo} (inv : Inv G c) (h : Nat) (oracle : List Nat)
    (habs : countOf c (c.fingerprint h) = 0)
    (hroom : (c.bucket (indices G c (c.fingerprint h)).1).length < c.b ∨
             (c.bucket (indices G c (c.fingerprint h)).2).length < c.b) :
    ∃ c', add G c h oracle = (c', none, oracle) ∧ Inv G c' ∧ SameParams c c' ∧
      c'.count = c.count + 1 ∧ c'.unique = c.unique + 1 ∧
      (∃ i, (i = (indices G c (c.fingerprint h)).1 ∨ i = (indices G c (c.fingerprint h)).2) ∧
          i < c.buckets.length ∧ (c.bucket i).length < c.b ∧
          c'.buckets = c.buckets.set i (c.bucket i ++ [(c.fingerprint h, 1)])) ∧
      countOf c' (c.fingerprint h) = 1 ∧
      (∀ fp', fp' ≠ c.fingerprint h → countOf c' fp' = countOf c fp') ∧
      check G c' h = 1 := by
  rcases Ccf.present_cases inv (c.fingerprint h) with ⟨e, _, _⟩ | ⟨i, v, _, _, _, _, hv, ev, _⟩
  · obtain ⟨i, hi12, hi, hlen, hins⟩ := Ccf.insertFp_room inv (c.fingerprint h) 1 oracle hroom
    obtain ⟨hb, hsame, hcount, huniq, hinv, hc1, hc2⟩ :=
      Ccf.putAt_spec inv (not_containsL_of_present e) hi hi12 hlen
    rw [habs] at hc1
    refine ⟨_, Ccf.add_fresh_eq h e hins, hinv, hsame, hcount, huniq, ⟨i, hi12, hi, hlen, hb⟩, hc1, hc2, ?_⟩
    rw [Ccf.ccf_check hinv, fingerprint_congr hsame.2.2.2.2.2.2, hc1]
  · omega

/-- **remove at count > 1**: the count is decremented, the bin stays in place -/
theorem C08_ccf_remove_many {G : Nat → Nat} {c : Cuckoo} (inv : Inv G c) (h : Nat)
    (hv : 1 < countOf c (c.fingerprint h)) :
    ∃ c', remove G c h = (c', true) ∧ Inv G c' ∧ SameParams c c' ∧
      c'.count = c.count - 1 ∧ c'.unique = c.unique ∧
      c'.buckets = c.buckets.map (fun bkt => bkt.map (Ccf.drop1 (c.fingerprint h))) ∧
      countOf c' (c.fingerprint h) = countOf c (c.fingerprint h) - 1 ∧
      (∀ fp', fp' ≠ c.fingerprint h → countOf c' fp' = countOf c fp') ∧
      check G c' h = check G c h - 1 := by
  rcases Ccf.present_cases inv (c.fingerprint h) with ⟨_, _, e0⟩ | ⟨i, v, e, _, _, hm, _, ev, ef⟩
  · omega
  have hrem := (Ccf.remove_stored_eq inv.1 h e ef).trans (if_neg (by omega))
  obtain ⟨hinv, _, hc1, hc2⟩ := Ccf.ccf_remove_any inv h hrem
  refine ⟨_, hrem, hinv, ⟨rfl, rfl, rfl, rfl, rfl, rfl, rfl⟩, rfl, rfl, Ccf.set_map_eq inv hm _ Ccf.drop1_other,
    hc1, hc2, ?_⟩
  rw [Ccf.ccf_check inv, ← hc1]
  exact Ccf.ccf_check hinv h

/-- **remove at count 1**: the bin is dropped, `check` returns 0 afterwards -/
theorem C08_ccf_remove_last {G : Nat → Nat} {c : Cuckoo} (inv : Inv G c) (h : Nat)
    (hv : countOf c (c.fingerprint h) = 1) :
    ∃ c', remove G c h = (c', true) ∧ Inv G c' ∧ SameParams c c' ∧
      c'.count = c.count - 1 ∧ c'.unique = c.unique - 1 ∧
      (∃ i, (i = (indices G c (c.fingerprint h)).1 ∨ i = (indices G c (c.fingerprint h)).2) ∧
          (c.fingerprint h, 1) ∈ c.bucket i ∧
          c'.buckets = c.buckets.set i ((c.bucket i).erase (c.fingerprint h, 1))) ∧
      c.fingerprint h ∉ c'.buckets.flatten.map (·.1) ∧
      countOf c' (c.fingerprint h) = 0 ∧
      (∀ fp', fp' ≠ c.fingerprint h → countOf c' fp' = countOf c fp') ∧
      check G c' h = 0 := by
  rcases Ccf.present_cases inv (c.fingerprint h) with ⟨_, _, e0⟩ | ⟨i, v, e, _, hi12, hm, _, ev, ef⟩
  · omega
  have hv1 : v = 1 := by omega
  subst hv1
  have hrem := (Ccf.remove_stored_eq inv.1 h e ef).trans (if_pos (Nat.le_refl 1))
  obtain ⟨hinv, _, hc1, hc2⟩ := Ccf.ccf_remove_any inv h hrem
  rw [hv] at hc1
  refine ⟨_, hrem, hinv, ⟨rfl, rfl, rfl, rfl, rfl, rfl, rfl⟩, rfl, rfl, ⟨i, hi12, hm, rfl⟩, ?_, hc1, hc2, ?_⟩
  · intro hin
    have := (Ccf.countOf_pos_iff hinv (c.fingerprint h)).mpr hin
    omega
  · exact (Ccf.ccf_check hinv h).trans hc1

/-- **remove of a present fingerprint** (both cases) -/
theorem C08_ccf_remove {G : Nat → Nat} {c : Cuckoo} (inv : Inv G c) (h : Nat)
    (hv : 0 < countOf c (c.fingerprint h)) :
    ∃ c', remove G c h = (c', true) ∧ Inv G c' ∧ SameParams c c' ∧ c'.count = c.count - 1 ∧
      countOf c' (c.fingerprint h) = countOf c (c.fingerprint h) - 1 ∧
      (∀ fp', fp' ≠ c.fingerprint h → countOf c' fp' = countOf c fp') ∧
      check G c' h = check G c h - 1 := by
  by_cases h1 : countOf c (c.fingerprint h) = 1
  · obtain ⟨c', hr, hinv, hs, hc, _, _, _, hc1, hc2, hk⟩ := C08_ccf_remove_last inv h h1
    exact ⟨c', hr, hinv, hs, hc, by rw [hc1, h1], hc2, by rw [hk, Ccf.ccf_check inv, h1]⟩
  · obtain ⟨c', hr, hinv, hs, hc, _, _, hc1, hc2, hk⟩ := C08_ccf_remove_many inv h (by omega)
    exact ⟨c', hr, hinv, hs, hc, hc1, hc2, hk⟩

/-- **Removing a key the filter reports absent changes nothing and says so.** -/
theorem C08_ccf_absent {G : Nat → Nat} {c : Cuckoo} (inv : Inv G c) (h : Nat)
    (h0 : check G c h = 0) : remove G c h = (c, false) := by
  rw [Ccf.ccf_check inv] at h0
  rcases Ccf.present_cases inv (c.fingerprint h) with ⟨e, _, _⟩ | ⟨i, v, _, _, _, _, hv, ev, _⟩
  · unfold remove
    simp only []
    rw [e]
  · omega

/-- **Exact counts, histories without evictions** (`NoKick`: every add finds its fingerprint stored
    or room in one of its two buckets): no call raised, no random draw was consumed. -/
theorem C08_ccf_exact (G : Nat → Nat) (cap b maxSwaps rate : Nat) (auto : Bool) (fpBits : Nat)
    (hcap : 0 < cap) (oracle : List Nat) (ops : List Ccf.Op)
    (hk : NoKick G (Cuckoo.new true cap b maxSwaps rate auto fpBits, oracle) ops) :
    Inv G (Ccf.run G (Cuckoo.new true cap b maxSwaps rate auto fpBits) oracle ops).1 ∧
    SameParams (Cuckoo.new true cap b maxSwaps rate auto fpBits)
      (Ccf.run G (Cuckoo.new true cap b maxSwaps rate auto fpBits) oracle ops).1 ∧
    (Ccf.run G (Cuckoo.new true cap b maxSwaps rate auto fpBits) oracle ops).2 = oracle ∧
    AllAddsOk G (Cuckoo.new true cap b maxSwaps rate auto fpBits, oracle) ops ∧
    ∀ h, check G (Ccf.run G (Cuckoo.new true cap b maxSwaps rate auto fpBits) oracle ops).1 h =
      outstanding (Cuckoo.new true cap b maxSwaps rate auto fpBits).fingerprint ops
        ((Cuckoo.new true cap b maxSwaps rate auto fpBits).fingerprint h) := by
  obtain ⟨ri, rs, ro, re, rc⟩ := Ccf.ccf_run (Ccf.inv_new G cap b maxSwaps rate auto fpBits hcap) oracle ops hk
  refine ⟨ri, rs, ro, re, fun h => ?_⟩
  rw [Ccf.ccf_check ri, Ccf.fingerprint_fun rs, rc, Ccf.countOf_new]
  rfl

/-- the full statement: evictions and automatic expansions allowed, any oracle -/
def C08_ccf_exact_with_kicks_statement : Prop :=
  ∀ (G : Nat → Nat) (cap b maxSwaps rate : Nat) (auto : Bool) (fpBits : Nat), 0 < cap → 0 < rate →
  ∀ (oracle : List Nat) (ops : List Ccf.Op),
    AllAddsOk G (Cuckoo.new true cap b maxSwaps rate auto fpBits, oracle) ops →
    ∀ h, check G (Ccf.run G (Cuckoo.new true cap b maxSwaps rate auto fpBits) oracle ops).1 h =
      outstanding (Cuckoo.new true cap b maxSwaps rate auto fpBits).fingerprint ops
        ((Cuckoo.new true cap b maxSwaps rate auto fpBits).fingerprint h)

/-- the same with the invariant and the unchanged settings at the end made explicit -/
theorem C08_ccf_exact_any (G : Nat → Nat) (cap b maxSwaps rate : Nat) (auto : Bool) (fpBits : Nat)
    (hcap : 0 < cap) (hrate : 0 < rate) (oracle : List Nat) (ops : List Ccf.Op)
    (hok : AllAddsOk G (Cuckoo.new true cap b maxSwaps rate auto fpBits, oracle) ops) :
    Inv G (Ccf.run G (Cuckoo.new true cap b maxSwaps rate auto fpBits) oracle ops).1 ∧
    SameCfg (Cuckoo.new true cap b maxSwaps rate auto fpBits)
      (Ccf.run G (Cuckoo.new true cap b maxSwaps rate auto fpBits) oracle ops).1 ∧
    ∀ h, check G (Ccf.run G (Cuckoo.new true cap b maxSwaps rate auto fpBits) oracle ops).1 h =
      outstanding (Cuckoo.new true cap b maxSwaps rate auto fpBits).fingerprint ops
        ((Cuckoo.new true cap b maxSwaps rate auto fpBits).fingerprint h) := by
  obtain ⟨ri, rs, rc⟩ := Ccf.ccf_run_any (Ccf.inv_new G cap b maxSwaps rate auto fpBits hcap) hrate oracle ops hok
  refine ⟨ri, rs, fun h => ?_⟩
  rw [Ccf.ccf_check ri, fingerprint_congr rs.2.2.2.2.2, rc, Ccf.countOf_new]
  rfl

theorem C08_ccf_exact_with_kicks : C08_ccf_exact_with_kicks_statement :=
  fun G cap b maxSwaps rate auto fpBits hcap hrate oracle ops hok =>
    (C08_ccf_exact_any G cap b maxSwaps rate auto fpBits hcap hrate oracle ops hok).2.2

def exG : Nat → Nat := fun fp => fp + 1
/-- 3 buckets of 2 slots; fingerprint 3 stored with count 2, fingerprint 4 once -/
def exT : Cuckoo := ⟨true, 3, 2, 5, 2, false, 8, [[(3, 2)], [(4, 1)], []], 3, 2⟩

example : Inv exG exT := by decide +kernel
-- key 259 shares fingerprint 3 with key 3
example : exT.fingerprint 259 = 3 ∧ check exG exT 259 = 2 ∧ check exG (add exG exT 259 []).1 3 = 3 := by decide +kernel
example : check exG (remove exG exT 3).1 259 = 1 ∧ check exG (remove exG exT 4).1 4 = 0 ∧
    (remove exG exT 4).1.buckets = [[(3, 2)], [], []] := by decide +kernel
example : check exG exT 5 = 0 ∧ remove exG exT 5 = (exT, false) := by decide +kernel
example := C08_ccf_add_present (G := exG) (c := exT) (by decide) 259 [] (by decide)
example := C08_ccf_remove_many (G := exG) (c := exT) (by decide) 3 (by decide)
example := C08_ccf_remove_last (G := exG) (c := exT) (by decide) 4 (by decide)
example := C08_ccf_absent (G := exG) (c := exT) (by decide) 5 (by decide)

/-- a history on 3 one-slot buckets with a real eviction chain (not `NoKick`), no call raising -/
def exKick : List Ccf.Op := [.add 3, .add 4, .add 6, .add 3, .remove 4]
example : ¬ NoKick exG (Cuckoo.new true 3 1 5 2 false 8, [0, 0, 0, 7]) exKick := by decide +kernel
example : AllAddsOk exG (Cuckoo.new true 3 1 5 2 false 8, [0, 0, 0, 7]) exKick := by decide +kernel
example : check exG (Ccf.run exG (Cuckoo.new true 3 1 5 2 false 8) [0, 0, 0, 7] exKick).1 3 = 2 ∧
    check exG (Ccf.run exG (Cuckoo.new true 3 1 5 2 false 8) [0, 0, 0, 7] exKick).1 4 = 0 ∧
    check exG (Ccf.run exG (Cuckoo.new true 3 1 5 2 false 8) [0, 0, 0, 7] exKick).1 6 = 1 := by decide +kernel
example := C08_ccf_exact_any exG 3 1 5 2 false 8 (by decide) (by decide) [0, 0, 0, 7] exKick (by decide)
/-- a history with an automatic expansion (capacity 1 → 2) -/
example : AllAddsOk exG (Cuckoo.new true 1 1 2 2 true 8, [0, 0, 0]) [.add 1, .add 1, .add 2] ∧
    (Ccf.run exG (Cuckoo.new true 1 1 2 2 true 8) [0, 0, 0] [.add 1, .add 1, .add 2]).1.cap = 2 ∧
    check exG (Ccf.run exG (Cuckoo.new true 1 1 2 2 true 8) [0, 0, 0] [.add 1, .add 1, .add 2]).1 1 = 2 := by
  decide +kernel

end CountingCuckoo

end PyProb.C08
