/-
  C20 — Bitarray behaves as a fixed-length vector of bits.
  Refinement of `Model.Bitarray` (utilities.py:86-192) to `List Bool`; for all sizes, all Int
  indices and values, all operation sequences.
-/
import PyProb.Lemmas.Bits
import PyProb.Lemmas.Histories

namespace PyProb.C20
open PyProb Bitarray

def WF (b : Bitarray) : Prop := b.bytes.length = (b.size + 7) / 8

abbrev abs (b : Bitarray) : List Bool := b.bits

theorem abs_length (b : Bitarray) : (abs b).length = b.size := by simp [abs, bits]

private theorem inRange_true {b : Bitarray} {idx : Int} (h0 : 0 ≤ idx) (h1 : idx < b.size) :
    b.inRange idx = true := by
  simp [inRange, h0, h1]

private theorem inRange_false {b : Bitarray} {idx : Int} (h : idx < 0 ∨ (b.size : Int) ≤ idx) :
    b.inRange idx = false := by
  simp only [inRange, Bool.and_eq_false_iff, decide_eq_false_iff_not]; omega

private theorem out_of_range {idx : Int} {n : Nat} (h : ¬ (0 ≤ idx ∧ idx < n)) : idx < 0 ∨ (n : Int) ≤ idx := by
  omega

private theorem abs_getD (b : Bitarray) (k : Nat) (hk : k < b.size) :
    (abs b).getD k false = testBitB b.bytes k := by
  simp [abs, bits, List.getD_eq_getElem?_getD, hk]

private theorem bits_zero (size n : Nat) :
    abs ⟨size, List.replicate n 0⟩ = List.replicate size false := by
  apply List.ext_getElem <;> simp [abs, bits, testBitB_replicate_zero]

private theorem bits_update (b : Bitarray) (bytes' : Bytes) (k : Nat) (v : Bool)
    (h : ∀ j, testBitB bytes' j = bif decide (j = k) then v else testBitB b.bytes j) :
    abs { b with bytes := bytes' } = (abs b).set k v := by
  apply List.ext_getElem
  · simp [bits]
  · intro j _ _
    simp only [bits, List.getElem_map, List.getElem_range, List.getElem_set, h]
    by_cases e : k = j
    · rw [if_pos e, decide_eq_true e.symm]; rfl
    · rw [if_neg e, decide_eq_false (Ne.symm e)]; rfl

private theorem bits_set (b : Bitarray) (k : Nat) (hk : k < b.size) (hw : WF b) :
    abs { b with bytes := setBitB b.bytes k } = (abs b).set k true :=
  bits_update b _ k true fun j => by
    rw [testBitB_setBitB _ _ j (hw ▸ index_in_range hk)]; cases decide (j = k) <;> rfl

private theorem bits_clear (b : Bitarray) (k : Nat) (hk : k < b.size) (hw : WF b) :
    abs { b with bytes := clearBitB b.bytes k } = (abs b).set k false :=
  bits_update b _ k false fun j => by
    rw [testBitB_clearBitB _ _ j (hw ▸ index_in_range hk)]; cases decide (j = k) <;> rfl

theorem C20_new_ok (size : Int) (h : 0 < size) :
    ∃ b, Bitarray.new size = .ok b ∧ WF b ∧ b.size = size.toNat ∧ abs b = List.replicate size.toNat false :=
  ⟨⟨size.toNat, List.replicate ((size.toNat + 7) / 8) 0⟩, if_neg (Int.not_le.mpr h), List.length_replicate, rfl,
    bits_zero _ _⟩

theorem C20_new_rejects (size : Int) (h : size ≤ 0) : Bitarray.new size = .error .valueError :=
  if_pos h

theorem C20_setBit (b : Bitarray) (idx : Int) (hw : WF b) (h0 : 0 ≤ idx) (h1 : idx < b.size) :
    ∃ b', b.setBit idx = .ok b' ∧ WF b' ∧ b'.size = b.size ∧ abs b' = (abs b).set idx.toNat true :=
  ⟨{ b with bytes := setBitB b.bytes idx.toNat }, if_pos (inRange_true h0 h1),
    (setBitB_length _ _).trans hw, rfl, bits_set b _ ((Int.toNat_lt h0).mpr h1) hw⟩

theorem C20_clearBit (b : Bitarray) (idx : Int) (hw : WF b) (h0 : 0 ≤ idx) (h1 : idx < b.size) :
    ∃ b', b.clearBit idx = .ok b' ∧ WF b' ∧ b'.size = b.size ∧ abs b' = (abs b).set idx.toNat false :=
  ⟨{ b with bytes := clearBitB b.bytes idx.toNat }, if_pos (inRange_true h0 h1),
    (clearBitB_length _ _).trans hw, rfl, bits_clear b _ ((Int.toNat_lt h0).mpr h1) hw⟩

theorem C20_setItem (b : Bitarray) (idx val : Int) (hw : WF b) (h0 : 0 ≤ idx) (h1 : idx < b.size)
    (hv : val = 0 ∨ val = 1) :
    ∃ b', b.setItem idx val = .ok b' ∧ WF b' ∧ b'.size = b.size ∧
      abs b' = (abs b).set idx.toNat (decide (val = 1)) := by
  have hr := inRange_true h0 h1
  rcases hv with rfl | rfl
  · refine ⟨{ b with bytes := clearBitB b.bytes idx.toNat }, ?_, (clearBitB_length _ _).trans hw, rfl,
      bits_clear b _ ((Int.toNat_lt h0).mpr h1) hw⟩
    simp [setItem, hr]
  · refine ⟨{ b with bytes := setBitB b.bytes idx.toNat }, ?_, (setBitB_length _ _).trans hw, rfl,
      bits_set b _ ((Int.toNat_lt h0).mpr h1) hw⟩
    simp [setItem, hr]

theorem C20_checkBit (b : Bitarray) (idx : Int) (h0 : 0 ≤ idx) (h1 : idx < b.size) :
    b.checkBit idx = .ok (if (abs b).getD idx.toNat false then 1 else 0) := by
  rw [abs_getD b _ ((Int.toNat_lt h0).mpr h1)]
  exact if_pos (inRange_true h0 h1)

theorem C20_index_rejected (b : Bitarray) (idx : Int) (h : idx < 0 ∨ (b.size : Int) ≤ idx) :
    b.setBit idx = .error .indexError ∧ b.clearBit idx = .error .indexError ∧
    b.checkBit idx = .error .indexError ∧
    (∀ val, val = 0 ∨ val = 1 → b.setItem idx val = .error .indexError) := by
  have hr := inRange_false h
  have hn : ¬ b.inRange idx = true := by rw [hr]; exact Bool.false_ne_true
  refine ⟨if_neg hn, if_neg hn, if_neg hn, ?_⟩
  rintro val (rfl | rfl) <;> simp [setItem, hr]

theorem C20_value_rejected (b : Bitarray) (idx val : Int) (h : val ≠ 0 ∧ val ≠ 1) :
    b.setItem idx val = .error .valueError :=
  if_pos (by omega)

theorem C20_clear (b : Bitarray) (hw : WF b) :
    WF b.clear ∧ b.clear.size = b.size ∧ abs b.clear = List.replicate b.size false :=
  ⟨List.length_replicate.trans hw, rfl, bits_zero _ _⟩

theorem C20_popcount_string (b : Bitarray) :
    b.numBitsSet = (abs b).count true ∧
    b.asString = String.ofList ((abs b).map fun x => if x then '1' else '0') := ⟨rfl, rfl⟩

inductive Op
  | set (idx : Int) | clr (idx : Int) | put (idx val : Int) | clear

/-- a rejected call leaves the object as it was (what Python does) -/
def step (b : Bitarray) : Op → Bitarray
  | .set i => match b.setBit i with | .ok b' => b' | .error _ => b
  | .clr i => match b.clearBit i with | .ok b' => b' | .error _ => b
  | .put i v => match b.setItem i v with | .ok b' => b' | .error _ => b
  | .clear => b.clear

def absStep (n : Nat) (l : List Bool) : Op → List Bool
  | .set i => if 0 ≤ i ∧ i < n then l.set i.toNat true else l
  | .clr i => if 0 ≤ i ∧ i < n then l.set i.toNat false else l
  | .put i v => if (v = 0 ∨ v = 1) ∧ 0 ≤ i ∧ i < n then l.set i.toNat (decide (v = 1)) else l
  | .clear => List.replicate n false

private def after (b : Bitarray) : R Bitarray → Bitarray
  | .ok b' => b'
  | .error _ => b

/-- a call that succeeds exactly under `c`, then with the bits `l'`, and is rejected otherwise -/
private theorem step_of (b : Bitarray) (r : R Bitarray) (c : Prop) [Decidable c] (l' : List Bool) (hw : WF b)
    (hok : c → ∃ b', r = .ok b' ∧ WF b' ∧ b'.size = b.size ∧ abs b' = l')
    (herr : ¬ c → ∃ e, r = .error e) :
    WF (after b r) ∧ (after b r).size = b.size ∧ abs (after b r) = if c then l' else abs b := by
  by_cases h : c
  · obtain ⟨b', rfl, r⟩ := hok h
    rw [if_pos h]
    exact r
  · obtain ⟨e, rfl⟩ := herr h
    rw [if_neg h]
    exact ⟨hw, rfl, rfl⟩

theorem C20_step (b : Bitarray) (op : Op) (hw : WF b) :
    WF (step b op) ∧ (step b op).size = b.size ∧ abs (step b op) = absStep b.size (abs b) op := by
  cases op with
  | set i =>
      exact step_of b _ _ _ hw (fun h => C20_setBit b i hw h.1 h.2)
        (fun h => ⟨_, (C20_index_rejected b i (out_of_range h)).1⟩)
  | clr i =>
      exact step_of b _ _ _ hw (fun h => C20_clearBit b i hw h.1 h.2)
        (fun h => ⟨_, (C20_index_rejected b i (out_of_range h)).2.1⟩)
  | put i v =>
      refine step_of b _ _ _ hw (fun h => C20_setItem b i v hw h.2.1 h.2.2 h.1) (fun h => ?_)
      by_cases hv : v = 0 ∨ v = 1
      · exact ⟨_, (C20_index_rejected b i (out_of_range fun c => h ⟨hv, c⟩)).2.2.2 v hv⟩
      · exact ⟨_, C20_value_rejected b i v (not_or.mp hv)⟩
  | clear => exact C20_clear b hw

theorem C20_run (b : Bitarray) (ops : List Op) (hw : WF b) :
    WF (ops.foldl step b) ∧ (ops.foldl step b).size = b.size ∧
    abs (ops.foldl step b) = ops.foldl (absStep b.size) (abs b) := by
  refine foldl_invariant₂ step (absStep b.size) (fun b' l => WF b' ∧ b'.size = b.size ∧ abs b' = l) ops b (abs b)
    ⟨hw, rfl, rfl⟩ fun b' l ⟨w, s, a⟩ op _ => ?_
  obtain ⟨w', s', a'⟩ := C20_step b' op w
  exact ⟨w', s'.trans s, by rw [a', s, a]⟩

/-- non-vacuity on a 10-bit array (not a multiple of 8) -/
example : ∃ b, Bitarray.new 10 = .ok b ∧ WF b ∧
    abs ([Op.set 3, Op.put 9 1, Op.put 10 1, Op.set (-1), Op.clr 3].foldl step b)
      = [false, false, false, false, false, false, false, false, false, true] := by
  refine ⟨⟨10, [0, 0]⟩, rfl, rfl, by decide⟩

end PyProb.C20
