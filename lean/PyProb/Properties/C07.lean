/-
  C07 — Derived sizes honour the requested accuracy and are stable across reloads.

  The sizing formulas of PyProb/Model/Sizing.lean are written once over `RealLike α`; here they
  are read at `α := ℝ` (instance in Lemmas/RealInst.lean: `ofInt` = cast, `const _ num den` =
  `num/den`, `log/exp` = `Real.log/exp`, `log2` = `Real.logb 2`, `pow` = real power, `ceilInt` =
  `⌈·⌉`, `roundInt` = round-half-even, comparisons = the real order).  The float32 narrowing is an
  arbitrary function `narrow : ℝ → ℝ` (`realLikeWith narrow`); the registered instance uses `id`,
  and `bloomBits/bloomHashes` are stated for an already narrowed rate `t`, which is how the code
  calls them.  `c1 = 8655072057804149/2^54` and `c2 = 6243314768165359/2^53` are the exact
  rational values of the code's literals `0.4804530139182` and `0.6931471805599453`.

  PROVED (all quantifiers unbounded, no extra hypotheses):
  * `C07_cms_width`   : 0 < ε → width ≥ 1 ∧ 2/width ≤ ε.
  * `C07_cms_depth`   : 0 < c < 1 → depth ≥ 1 ∧ 1 − 2^(−depth) ≥ c   (needs `c2_le_log_two`: the
                        code's literal is ≤ ln 2, Lemmas/Log2Bound.lean).
  * `C07_cuckoo`      : 0 < ε, b ≥ 1 → 2b / 2^f ≤ ε;  `C07_cuckoo_fp_pos`: f ≥ 1 for ε ≤ 1;
                        `C07_cuckoo_error_rate`: the model's `cuckooErrorRate f b` (what a reload
                        recomputes) is ≤ ε, for ε ≤ 1.
  * `C07_bloom_bits`, `C07_bloom_bits_textbook`, `C07_bloom_hashes`, `C07_bloom_hashes_pos`,
    `C07_bloom_optimum`: m ≥ 1, m·c1 ≥ −n ln t (also m·ln²2 ≥ −n ln t), |k − c2·m/n| ≤ ½, k ≥ 0,
                        exp(−c1·m/n) ≤ t.
  * `C07_bloomParams_ok`, `C07_bloomParams_ok_iff`, `C07_bloomParams_error`: exactly when
    `_get_optimized_params` succeeds and with what, and the error raised otherwise (for any
    narrowing function).
  * `C07_bloom_delivered`: whatever `(t, k, m)` `bloomParams` returns satisfies all of the above
                        (needs `narrow p ≤ 1`; `C07_narrow_le_one`: true of every monotone
                        narrowing that fixes 1).  `C07_bits_hashes_narrow_irrelevant`: bits and
                        hashes are the same function in every member of the instance family.
  * `C07_stable`, `C07_stable_real`: reload stability (any `RealLike α`; ℝ with any idempotent
    narrowing).

  ALSO PROVED: the code-independent real inequality `C07_BloomRoundingAllowance`
  ("(1 − e^{−kn/m})^k ≤ 1.07·t for the rounded k") — `C07_allowance`, analytic proof in
  `Lemmas/BloomAllowance.lean` — hence the full Bloom clause `C07_bloom_full : C07_bloom_full_statement`
  without hypotheses.  What remains outside Lean is only the IEEE-754 rounding between these real-number
  theorems and the `Float` instance the code's behaviour is compared with.
-/
import PyProb.Lemmas.BloomAllowance
import PyProb.Lemmas.RealInst
import PyProb.Lemmas.Log2Bound
import PyProb.Lemmas.SizingExamples

namespace PyProb.C07
open PyProb

theorem C07_cms_width (ε : ℝ) (h : 0 < ε) :
    1 ≤ cmsWidth (α := ℝ) ε ∧ 2 / ((cmsWidth (α := ℝ) ε : Int) : ℝ) ≤ ε := by
  rw [cmsWidth_real]
  obtain ⟨hpos, hc⟩ := ceil_div_spec two_pos h
  refine ⟨hpos, ?_⟩
  rw [div_le_iff₀ (Int.cast_pos.mpr hpos), mul_comm]
  exact hc

theorem C07_cms_depth (c : ℝ) (h0 : 0 < c) (h1 : c < 1) :
    1 ≤ cmsDepth (α := ℝ) c ∧
      c ≤ 1 - (2 : ℝ) ^ (-(((cmsDepth (α := ℝ) c : Int)) : ℝ)) := by
  rw [cmsDepth_real]
  have h1c : 0 < 1 - c := sub_pos.mpr h1
  obtain ⟨hpos, hc⟩ :=
    ceil_div_spec (neg_pos.mpr (Real.log_neg h1c (sub_lt_self 1 h0))) c2_pos
  refine ⟨hpos, ?_⟩
  generalize ⌈(-Real.log (1 - c)) / c2⌉ = D at hpos hc ⊢
  -- `D·ln 2 ≥ D·c2 ≥ −ln(1−c)`, so `2^(−D) ≤ 1 − c`
  have h3 : -Real.log (1 - c) ≤ D * Real.log 2 :=
    hc.trans (mul_le_mul_of_nonneg_left c2_le_log_two (Int.cast_nonneg hpos.le))
  rw [Real.rpow_def_of_pos two_pos, le_sub_comm, ← Real.le_log_iff_exp_le h1c]
  linarith only [h3]

theorem C07_cuckoo (ε : ℝ) (b : Nat) (hε : 0 < ε) (hb : 1 ≤ b) :
    2 * (b : ℝ) / (2 : ℝ) ^ (((cuckooFpBits (α := ℝ) ε b : Int)) : ℝ) ≤ ε := by
  rw [cuckooFpBits_real]
  have hbR : (0 : ℝ) < b := Nat.cast_pos.mpr hb
  have hle := Int.le_ceil (Real.logb 2 (1 / ε) + Real.logb 2 (b : ℝ) + 1)
  generalize ⌈Real.logb 2 (1 / ε) + Real.logb 2 (b : ℝ) + 1⌉ = f at hle ⊢
  -- `2^f ≥ 2^(log₂(1/ε) + log₂ b + 1) = (1/ε)·b·2`
  have h2 := Real.rpow_le_rpow_of_exponent_le one_le_two hle
  rw [Real.rpow_add two_pos, Real.rpow_add two_pos,
    Real.rpow_logb two_pos (by norm_num) (one_div_pos.mpr hε),
    Real.rpow_logb two_pos (by norm_num) hbR, Real.rpow_one] at h2
  rw [div_le_iff₀ (Real.rpow_pos_of_pos two_pos _)]
  calc 2 * (b : ℝ) = ε * (1 / ε * b * 2) := by
        rw [mul_assoc, ← mul_assoc, mul_one_div_cancel hε.ne', one_mul, mul_comm]
    _ ≤ ε * (2 : ℝ) ^ (f : ℝ) := mul_le_mul_of_nonneg_left h2 hε.le

theorem C07_cuckoo_fp_pos (ε : ℝ) (b : Nat) (hε : 0 < ε) (hε1 : ε ≤ 1) (hb : 1 ≤ b) :
    1 ≤ cuckooFpBits (α := ℝ) ε b := by
  rw [cuckooFpBits_real]
  have h1 : 0 ≤ Real.logb 2 (1 / ε) := Real.logb_nonneg one_lt_two ((one_le_div hε).mpr hε1)
  have h2 : 0 ≤ Real.logb 2 (b : ℝ) := Real.logb_nonneg one_lt_two (Nat.one_le_cast.mpr hb)
  exact Int.ceil_pos.mpr (add_pos_of_nonneg_of_pos (add_nonneg h1 h2) one_pos)

/-- the error rate the code re-derives from the stored fingerprint width
    (`_calc_error_rate`) is within the request -/
theorem C07_cuckoo_error_rate (ε : ℝ) (b : Nat) (hε : 0 < ε) (hε1 : ε ≤ 1) (hb : 1 ≤ b) :
    cuckooErrorRate (α := ℝ) (cuckooFpBits (α := ℝ) ε b).toNat b ≤ ε := by
  have hpos := C07_cuckoo_fp_pos ε b hε hε1 hb
  have hmain := C07_cuckoo ε b hε hb
  rw [cuckooErrorRate_real, toNat_cast_real (zero_le_one.trans hpos)]
  generalize cuckooFpBits (α := ℝ) ε b = f at hmain ⊢
  -- `2^(f − (log₂ b + 1)) = 2^f / (b·2)`
  rw [Real.rpow_sub two_pos, Real.rpow_add two_pos,
    Real.rpow_logb two_pos (by norm_num) (Nat.cast_pos.mpr hb), Real.rpow_one, one_div_div,
    mul_comm (b : ℝ) 2]
  exact hmain

theorem C07_bloom_bits (n : Nat) (t : ℝ) (hn : 1 ≤ n) (h0 : 0 < t) (h1 : t < 1) :
    1 ≤ bloomBits (α := ℝ) n t ∧
      -(n : ℝ) * Real.log t ≤ ((bloomBits (α := ℝ) n t : Int) : ℝ) * c1 := by
  rw [bloomBits_real]
  exact ceil_div_spec
    (mul_pos_of_neg_of_neg (neg_neg_of_pos (Nat.cast_pos.mpr hn)) (Real.log_neg h0 h1)) c1_pos

theorem C07_bloom_bits_textbook (n : Nat) (t : ℝ) (hn : 1 ≤ n) (h0 : 0 < t) (h1 : t < 1) :
    -(n : ℝ) * Real.log t ≤ ((bloomBits (α := ℝ) n t : Int) : ℝ) * (Real.log 2) ^ 2 := by
  obtain ⟨hm, h⟩ := C07_bloom_bits n t hn h0 h1
  exact h.trans (mul_le_mul_of_nonneg_left c1_le_log_two_sq
    (Int.cast_nonneg (zero_le_one.trans hm)))

theorem C07_bloom_hashes (n : Nat) (m : Int) :
    |((bloomHashes (α := ℝ) n m : Int) : ℝ) - c2 * (m : ℝ) / (n : ℝ)| ≤ 1 / 2 := by
  rw [bloomHashes_real]
  exact abs_roundHalfEven_sub_le _

/-- with `m ≥ 0` the hash count is never negative, so `k ≠ 0` (the code's check) is `k ≥ 1` -/
theorem C07_bloom_hashes_pos (n : Nat) (m : Int) (hm : 0 ≤ m) :
    0 ≤ bloomHashes (α := ℝ) n m := by
  rw [bloomHashes_real]
  exact roundHalfEven_nonneg
    (div_nonneg (mul_nonneg c2_pos.le (Int.cast_nonneg hm)) (Nat.cast_nonneg n))

theorem C07_bloom_optimum (n : Nat) (t : ℝ) (hn : 1 ≤ n) (h0 : 0 < t) (h1 : t < 1) :
    Real.exp (-(c1 * ((bloomBits (α := ℝ) n t : Int) : ℝ) / (n : ℝ))) ≤ t := by
  obtain ⟨_, h⟩ := C07_bloom_bits n t hn h0 h1
  refine (Real.le_log_iff_exp_le h0).mp (neg_le.mp ((le_div_iff₀ (Nat.cast_pos.mpr hn)).mpr ?_))
  rw [mul_comm (-Real.log t), ← neg_mul_comm, mul_comm c1]
  exact h

theorem C07_bits_hashes_narrow_irrelevant (nr : ℝ → ℝ) (n : Nat) (t : ℝ) (m : Int) :
    @bloomBits ℝ (realLikeWith nr) n t = bloomBits (α := ℝ) n t ∧
      @bloomHashes ℝ (realLikeWith nr) n m = bloomHashes (α := ℝ) n m :=
  ⟨rfl, rfl⟩

open RealLike in
theorem bloomParams_eq_ok_iff {α : Type} [RealLike α] (n : Int) (p : α) (r : α × Nat × Nat) :
    bloomParams n p = .ok r ↔
      ¬ n ≤ 0 ∧ (le (ofInt 0) p && lt p (ofInt 1)) = true ∧ lt (ofInt 0) (narrow32 p) = true ∧
        bloomHashes (α := α) n.toNat (bloomBits n.toNat (narrow32 p)) ≠ 0 ∧
        r = (narrow32 p, (bloomHashes (α := α) n.toNat (bloomBits n.toNat (narrow32 p))).toNat,
          (bloomBits n.toNat (narrow32 p)).toNat) := by
  simp only [bloomParams]
  split_ifs with h1 h2 h3 h4
  · exact ⟨nofun, fun h => absurd h1 h.1⟩
  · exact ⟨nofun, fun h => by simp [h.2.1] at h2⟩
  · exact ⟨nofun, fun h => by simp [h.2.2.1] at h3⟩
  · exact ⟨nofun, fun h => absurd (beq_iff_eq.mp h4) h.2.2.2.1⟩
  · rw [Bool.not_eq_true', Bool.not_eq_false] at h2 h3
    exact ⟨fun h => ⟨h1, h2, h3, fun h0 => h4 (beq_iff_eq.mpr h0), (Except.ok.inj h).symm⟩,
      fun h => h.2.2.2.2 ▸ rfl⟩

theorem C07_bloomParams_ok_iff (nr : ℝ → ℝ) (n : Int) (p : ℝ) (r : ℝ × Nat × Nat) :
    @bloomParams ℝ (realLikeWith nr) n p = .ok r ↔
      1 ≤ n ∧ 0 ≤ p ∧ p < 1 ∧ 0 < nr p ∧
        bloomHashes (α := ℝ) n.toNat (bloomBits (α := ℝ) n.toNat (nr p)) ≠ 0 ∧
        r = (nr p,
             (bloomHashes (α := ℝ) n.toNat (bloomBits (α := ℝ) n.toNat (nr p))).toNat,
             (bloomBits (α := ℝ) n.toNat (nr p)).toNat) := by
  rw [@bloomParams_eq_ok_iff ℝ (realLikeWith nr)]
  simp only [rl_le, rl_lt, rl_ofInt, rl_narrow32, Int.cast_zero, Int.cast_one, Bool.and_eq_true,
    decide_eq_true_eq, not_le, and_assoc]
  exact Iff.rfl

/-- The error branches: `InitializationError` for `n ≤ 0` or `p ∉ [0,1)`, `ValueError`
    (`math.log` of a non-positive number) when the narrowed rate is not positive, and
    `InitializationError` when the hash count rounds to 0. -/
theorem C07_bloomParams_error (nr : ℝ → ℝ) (n : Int) (p : ℝ) :
    ((n ≤ 0 ∨ p < 0 ∨ 1 ≤ p) → @bloomParams ℝ (realLikeWith nr) n p = .error .initError) ∧
    (1 ≤ n → 0 ≤ p → p < 1 → nr p ≤ 0 →
        @bloomParams ℝ (realLikeWith nr) n p = .error .valueError) ∧
    (1 ≤ n → 0 ≤ p → p < 1 → 0 < nr p →
        bloomHashes (α := ℝ) n.toNat (bloomBits (α := ℝ) n.toNat (nr p)) = 0 →
        @bloomParams ℝ (realLikeWith nr) n p = .error .initError) := by
  rw [bloomParams_real]
  refine ⟨?_, ?_, ?_⟩
  · intro h
    refine ite_eq_left_iff.mpr fun h1 => if_pos fun ⟨h2, h3⟩ => ?_
    rcases h with h | h | h
    exacts [h1 h, h.not_ge h2, h.not_gt h3]
  · intro h1 h2 h3 h4
    rw [if_neg (by omega), if_neg (not_not.mpr ⟨h2, h3⟩), if_pos (not_lt.mpr h4)]
  · intro h1 h2 h3 h4 h5
    rw [if_neg (by omega), if_neg (not_not.mpr ⟨h2, h3⟩), if_neg (not_not.mpr h4)]
    exact if_pos h5

/-- The form used by the constructor with the registered instance (rate already narrowed):
    for `n ≥ 1` and `0 < t < 1` the call succeeds with `(t, k, m)` exactly when `k ≠ 0`, and
    raises `InitializationError` when `k = 0`; `k` and `m` are non-negative, so converting them to
    naturals loses nothing. -/
theorem C07_bloomParams_ok (n : Int) (t : ℝ) (hn : 1 ≤ n) (h0 : 0 < t) (h1 : t < 1) :
    let m := bloomBits (α := ℝ) n.toNat t
    let k := bloomHashes (α := ℝ) n.toNat m
    bloomParams (α := ℝ) n t =
        (if k = 0 then .error .initError else .ok (t, k.toNat, m.toNat)) ∧
      ((k.toNat : Int) = k) ∧ ((m.toNat : Int) = m) ∧ 1 ≤ m := by
  intro m k
  have hm := (C07_bloom_bits n.toNat t (by omega) h0 h1).1
  have hk := C07_bloom_hashes_pos n.toNat m (by omega)
  refine ⟨?_, Int.toNat_of_nonneg hk, Int.toNat_of_nonneg (by omega), hm⟩
  have hreal := bloomParams_real id n t
  simp only [id] at hreal
  rw [if_neg (by omega), if_neg (not_not.mpr ⟨h0.le, h1⟩), if_neg (not_not.mpr h0)] at hreal
  exact hreal

/-- `hle`: the narrowing does not push a rate `< 1` above 1 — true of every monotone rounding,
    since 1 is a float32 (`C07_narrow_le_one`). -/
theorem C07_bloom_delivered (nr : ℝ → ℝ) (n : Int) (p t : ℝ) (k m : Nat)
    (hle : nr p ≤ 1)
    (hok : @bloomParams ℝ (realLikeWith nr) n p = .ok (t, k, m)) :
    1 ≤ n ∧ t = nr p ∧ 0 < t ∧ t < 1 ∧ 1 ≤ k ∧ 1 ≤ m ∧
      -(n : ℝ) * Real.log t ≤ (m : ℝ) * c1 ∧
      |(k : ℝ) - c2 * (m : ℝ) / (n : ℝ)| ≤ 1 / 2 ∧
      Real.exp (-(c1 * (m : ℝ) / (n : ℝ))) ≤ t := by
  obtain ⟨hn, -, -, ht0, hk0, hr⟩ := (C07_bloomParams_ok_iff nr n p _).mp hok
  cases hr
  have hn1 : 1 ≤ n.toNat := by omega
  -- the narrowed rate cannot be 1: then `m = 0` and `k = 0`
  have ht1 : nr p < 1 := by
    refine lt_of_le_of_ne hle fun h => hk0 ?_
    rw [bloomHashes_real, bloomBits_real, h]
    simp [roundHalfEven]
  obtain ⟨hm1, hbits⟩ := C07_bloom_bits n.toNat (nr p) hn1 ht0 ht1
  have hm0 : 0 ≤ bloomBits (α := ℝ) n.toNat (nr p) := zero_le_one.trans hm1
  have hkpos := C07_bloom_hashes_pos n.toNat _ hm0
  rw [toNat_cast_real hm0, toNat_cast_real hkpos, ← toNat_cast_real (zero_le_one.trans hn)]
  exact ⟨hn, rfl, ht0, ht1, by omega, by omega, hbits, C07_bloom_hashes _ _,
    C07_bloom_optimum n.toNat (nr p) hn1 ht0 ht1⟩

theorem C07_narrow_le_one (nr : ℝ → ℝ) (hmono : Monotone nr) (hone : nr 1 = 1) (p : ℝ)
    (hp : p < 1) : nr p ≤ 1 := hone ▸ hmono hp.le

/-- Code-independent real inequality (`c1`, `c2` spelled out as the rational numbers they are).
    A `Prop` of its own, so that `C07_bloom_partial` shows that this inequality is all the full
    statement needs beyond the code; `C07_allowance` proves it. -/
def C07_BloomRoundingAllowance : Prop :=
  ∀ (n m k : Nat) (t : ℝ), 1 ≤ n → 1 ≤ m → 1 ≤ k → 0 < t → t < 1 →
    -(n : ℝ) * Real.log t ≤ (m : ℝ) * (8655072057804149 / 18014398509481984) →
    |(k : ℝ) - (6243314768165359 / 9007199254740992) * (m : ℝ) / (n : ℝ)| ≤ 1 / 2 →
    (1 - Real.exp (-((k : ℝ) * (n : ℝ) / (m : ℝ)))) ^ k ≤ (107 / 100) * t

/-- The Bloom clause of C07 at full strength: whatever geometry `_get_optimized_params` returns,
    the model's `current_false_positive_rate` formula evaluated at the planned load `n` is at most
    1.07 × the (narrowed) requested rate. -/
def C07_bloom_full_statement : Prop :=
  ∀ (nr : ℝ → ℝ) (n : Int) (p t : ℝ) (k m : Nat), nr p ≤ 1 →
    @bloomParams ℝ (realLikeWith nr) n p = .ok (t, k, m) →
    currentFpr (α := ℝ) m k n ≤ (107 / 100) * t

theorem C07_bloom_partial (h : C07_BloomRoundingAllowance) : C07_bloom_full_statement := by
  intro nr n p t k m hle hok
  obtain ⟨hn, -, ht0, ht1, hk, hm, hbits, hhash, -⟩ := C07_bloom_delivered nr n p t k m hle hok
  have hnn : ((n.toNat : Nat) : ℝ) = (n : ℝ) := toNat_cast_real (zero_le_one.trans hn)
  rw [← hnn, c1_eq] at hbits
  rw [← hnn, c2_eq] at hhash
  have key := h n.toNat m k t (by omega) hm hk ht0 ht1 hbits hhash
  rw [hnn] at key
  rw [currentFpr_real, Real.rpow_natCast,
    show ((((k : Int) * (-1) * n : Int)) : ℝ) / (m : ℝ) = -((k : ℝ) * (n : ℝ) / (m : ℝ)) by
      push_cast; ring]
  exact key

open RealLike in
/-- Generic over every instance (in particular `Float`, the executed one): if narrowing is
    idempotent at `p`, the triple obtained from `p` carries `t = narrow32 p`, and feeding that
    stored `t` through the same function again (what a reload does) re-derives the same triple —
    it can only fail the range test on `t`, never return a different geometry. -/
theorem C07_stable {α : Type} [RealLike α] (n : Int) (p : α) (r : α × Nat × Nat)
    (hidem : narrow32 (narrow32 p) = narrow32 p)
    (hok : bloomParams n p = .ok r) :
    r.1 = narrow32 p ∧
      ((le (ofInt 0) r.1 && lt r.1 (ofInt 1)) = true → bloomParams n r.1 = .ok r) ∧
      (∀ r', bloomParams n r.1 = .ok r' → r' = r) := by
  obtain ⟨hn, -, hpos, hk, rfl⟩ := (bloomParams_eq_ok_iff n p r).mp hok
  -- the reload runs the same tests on the same narrowed rate; only the range test is new
  have hre : ∀ r', bloomParams n (narrow32 p) = .ok r' ↔
      (le (ofInt 0) (narrow32 p) && lt (narrow32 p) (ofInt 1)) = true ∧
        r' = (narrow32 p, (bloomHashes (α := α) n.toNat (bloomBits n.toNat (narrow32 p))).toNat,
          (bloomBits n.toNat (narrow32 p)).toNat) := by
    intro r'
    rw [bloomParams_eq_ok_iff, hidem]
    exact ⟨fun h => ⟨h.2.1, h.2.2.2.2⟩, fun h => ⟨hn, h.1, hpos, hk, h.2⟩⟩
  exact ⟨rfl, fun hr => (hre _).mpr ⟨hr, rfl⟩, fun r' h => ((hre r').mp h).2⟩

theorem C07_stable_real (nr : ℝ → ℝ) (n : Int) (p t : ℝ) (k m : Nat)
    (hidem : nr (nr p) = nr p) (hle : nr p ≤ 1)
    (hok : @bloomParams ℝ (realLikeWith nr) n p = .ok (t, k, m)) :
    @bloomParams ℝ (realLikeWith nr) n t = .ok (t, k, m) := by
  obtain ⟨_, ht, ht0, ht1, _⟩ := C07_bloom_delivered nr n p t k m hle hok
  have h := (@C07_stable ℝ (realLikeWith nr) n p (t, k, m) hidem hok).2.1
  apply h
  simp [ht0.le, ht1]

example : cmsWidth (α := ℝ) (1 / 100) = 200 ∧ (2 : ℝ) / ((200 : Int) : ℝ) ≤ 1 / 100 := by
  rw [cmsWidth_real]
  norm_num

example : cmsDepth (α := ℝ) (95 / 100) = 5 ∧
    (95 / 100 : ℝ) ≤ 1 - (2 : ℝ) ^ (-(((5 : Int)) : ℝ)) := by
  have h := (C07_cms_depth (95 / 100) (by norm_num) (by norm_num)).2
  rw [cmsDepth_95] at h
  exact ⟨cmsDepth_95, h⟩

/-- ε = 0.1 %, buckets of 4: 13 fingerprint bits (`log₂ 1000 ≈ 9.97`, + 2 + 1) -/
example : cuckooFpBits (α := ℝ) (1 / 1000) 4 = 13 := by
  rw [cuckooFpBits_real, Int.ceil_eq_iff]
  have h4 : Real.logb 2 ((4 : Nat) : ℝ) = 2 := by
    rw [show ((4 : Nat) : ℝ) = (2 : ℝ) ^ (2 : ℝ) by norm_num]
    exact Real.logb_rpow (by norm_num) (by norm_num)
  have h9 : 9 < Real.logb 2 (1 / (1 / 1000)) := by
    rw [Real.lt_logb_iff_rpow_lt (by norm_num) (by norm_num)]; norm_num
  have h10 : Real.logb 2 (1 / (1 / 1000)) ≤ 10 := by
    rw [Real.logb_le_iff_le_rpow (by norm_num) (by norm_num)]; norm_num
  rw [h4]; push_cast; constructor <;> linarith

example : bloomParams (α := ℝ) 1 (1 / 2) = .ok (1 / 2, 1, 2) := by
  have h := (C07_bloomParams_ok 1 (1 / 2) (by norm_num) (by norm_num) (by norm_num)).1
  simp only [Int.toNat_one, bloomBits_1_half, bloomHashes_1_2] at h
  simpa using h

/-- the `number_hashes == 0` rejection is reachable: 10 elements at rate 0.9 -/
example : bloomParams (α := ℝ) 10 (9 / 10) = .error .initError := by
  have hm := (C07_bloom_bits 10 (9 / 10) (by norm_num) (by norm_num) (by norm_num)).1
  -- `m ≤ 7` (in fact 3), and `c2·7/10 < ½`
  have hup : bloomBits (α := ℝ) 10 (9 / 10) ≤ 7 := by
    rw [bloomBits_real, Int.ceil_le, div_le_iff₀ c1_pos]
    push_cast
    linarith only [Real.one_sub_inv_le_log_of_pos (show (0 : ℝ) < 9 / 10 by norm_num), c1_bounds.1]
  have hk : bloomHashes (α := ℝ) 10 (bloomBits (α := ℝ) 10 (9 / 10)) = 0 := by
    rw [bloomHashes_real]
    generalize bloomBits (α := ℝ) 10 (9 / 10) = m at hm hup
    have h0 : (0 : ℝ) ≤ m := by exact_mod_cast zero_le_one.trans hm
    have h7 : (m : ℝ) ≤ 7 := by exact_mod_cast hup
    apply roundHalfEven_eq_of_lt_half <;> push_cast
    · exact div_nonneg (mul_nonneg c2_pos.le h0) (by norm_num)
    · rw [div_lt_iff₀ (by norm_num)]
      linarith only [mul_le_mul c2_bounds.2 h7 h0 (by norm_num)]
  exact (C07_bloomParams_error id 10 (9 / 10)).2.2 (by norm_num) (by norm_num) (by norm_num)
    (by norm_num) hk

/-- With the narrowing `upHalf` (round up to a multiple of ½ — idempotent, monotone, fixes 1,
    and really moves the rate): requested 0.3 is narrowed to 0.5 and gives `(k, m) = (1, 2)`;
    reloading with the stored 0.5 gives the same triple, as an instance of `C07_stable_real`. -/
example : @bloomParams ℝ (realLikeWith upHalf) 1 (3 / 10) = .ok (1 / 2, 1, 2) ∧
    @bloomParams ℝ (realLikeWith upHalf) 1 (1 / 2) = .ok (1 / 2, 1, 2) := by
  have h : @bloomParams ℝ (realLikeWith upHalf) 1 (3 / 10) = .ok (1 / 2, 1, 2) := by
    rw [C07_bloomParams_ok_iff, upHalf_three_tenths, Int.toNat_one, bloomBits_1_half,
      bloomHashes_1_2]
    refine ⟨le_refl _, by norm_num, by norm_num, by norm_num, by norm_num, rfl⟩
  exact ⟨h, C07_stable_real upHalf 1 (3 / 10) (1 / 2) 1 2 (upHalf_idem _)
    (C07_narrow_le_one upHalf upHalf_monotone upHalf_one _ (by norm_num)) h⟩

/-- `BloomAllowance.allowance_real` at the code's two literals and the load `n/m` -/
theorem C07_allowance : C07_BloomRoundingAllowance := by
  intro n m k t hn hm hk ht0 _ hbits hhash
  have hnR : (0 : ℝ) < n := Nat.cast_pos.mpr hn
  have hmR : (0 : ℝ) < m := Nat.cast_pos.mpr hm
  rw [← c1_eq] at hbits
  rw [← c2_eq, ← div_div_eq_mul_div] at hhash
  have hbits' : -Real.log t ≤ c1 / ((n : ℝ) / (m : ℝ)) := by
    rw [div_div_eq_mul_div, le_div_iff₀ hnR]
    linarith only [hbits]
  rw [mul_div_assoc]
  exact BloomAllowance.allowance_real BloomAllowance.consts_c2 c1_le_c2_sq k hk (div_pos hnR hmR)
    ht0 hbits' hhash

theorem C07_bloom_full : C07_bloom_full_statement := C07_bloom_partial C07_allowance

end PyProb.C07
