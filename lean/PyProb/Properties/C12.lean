/-
  C12 — Union and join equal the structure built from both streams.

  Proved here, for every geometry, every history length and arbitrary hash lists (hence every hash
  strategy `H`; key-level corollary `C12_bloom_keys`):
  * Bloom (`Bloom.union`): the **byte list** of the union of two filters built from fresh filters by
    the histories `xs`, `ys` is the byte list of the single filter fed `xs ++ ys`
    (`C12_bloom`); more generally for two arbitrary well-formed start filters of one geometry
    the union of the grown filters is the grown union (`C12_bloom_general`).  No hypothesis on the
    lengths of the hash lists: a too short list sets what it has and raises, in both worlds.
    Consequence: the union reports whatever either operand reports (`C12_bloom_member`).
  * counting Bloom (`CBF.union`), non-negative amounts: the cells of the union equal the cells of
    the single filter fed both streams, saturated cells included (`cbf_union_runs`, of which
    `C12_cbf` is the case below saturation); below saturation — the exact per-cell counts
    `cbfTot k m j zs` fit a uint32 cell — a cell array holds the exact counts (`C12_cbf_cells`).
    `C12_cbf_simple`: for that it suffices that `k * Σ amounts ≤ 2^32-1` (a hash list may hit one
    cell up to `k` times, each time adding `n`).
  * count-min (`CMS.join`), `d` hashes per call and non-negative amounts:
    `join (run a) (run b) = run (a ++ b)` as whole sketches, i.e. on bins, total, width, depth and
    mode, clamped bins and a clamped total included (`cms_join_runs`, of which `C12_cms` is the case
    where nothing clamps); when nothing clamps — per-bin exact counts fit int32, the sum of the
    amounts fits int64 — the sketch holds the exact counts and the exact total (`C12_cms_cells`).
    `C12_cms_simple`: for that it suffices that `Σ amounts ≤ 2^31-1`.

  Not proved here: the on-disk operands (C11 shows they expose the same byte list), the estimate
  bound that follows from the bins equality (C02), the `elements_added` estimate of a union (the
  estimator is a parameter).
-/
import PyProb.Properties.C01
import PyProb.Lemmas.CbfOps
import PyProb.Lemmas.CmsJoin

namespace PyProb.C12
open PyProb

theorem min_cap_add {M t n : Int} (hn : 0 ≤ n) : min M (min M t + n) = min M (t + n) := by
  rcases Int.le_total t M with h | h
  · rw [Int.min_eq_right h]
  · rw [Int.min_eq_left h, Int.min_eq_left (Int.le_add_of_nonneg_right hn),
      Int.min_eq_left (Int.le_trans h (Int.le_add_of_nonneg_right hn))]

theorem min_cap_add_cap {M t u : Int} (hM : 0 ≤ M) (ht : 0 ≤ t) (hu : 0 ≤ u) :
    min M (min M t + min M u) = min M (t + u) := by
  rcases Int.le_total t M with h | h
  · rw [Int.min_eq_right h, Int.add_comm t, min_cap_add ht, Int.add_comm]
  · rw [Int.min_eq_left h, Int.min_eq_left (Int.le_add_of_nonneg_right (Int.le_min.2 ⟨hM, hu⟩)),
      Int.min_eq_left (Int.le_trans h (Int.le_add_of_nonneg_right hu))]

/-- two tabulated lists combined cell by cell, the way `union` and `join` build their result -/
theorem map_range_combine (F : Int → Int → Int) (f g h : Nat → Int) (n : Nat)
    (H : ∀ i, i < n → F (f i) (g i) = h i) :
    ((List.range n).map fun i => F (((List.range n).map f).getD i 0) (((List.range n).map g).getD i 0))
      = (List.range n).map h := by
  apply List.map_congr_left
  intro i hi
  rw [getD_map_range f (List.mem_range.1 hi), getD_map_range g (List.mem_range.1 hi)]
  exact H i (List.mem_range.1 hi)

abbrev runB (b : Bloom) (xs : List (List Nat)) : Bloom := b.runAdds xs

theorem C12_runB_wf (b : Bloom) (xs : List (List Nat)) (h : C01.WF b) :
    C01.WF (runB b xs) ∧ (runB b xs).k = b.k ∧ (runB b xs).m = b.m :=
  ⟨Bloom.runAdds_wf xs b h, (Bloom.runAdds_spec xs b).1, (Bloom.runAdds_spec xs b).2.1⟩

theorem C12_bloom_general (est : Estimator) (a₀ b₀ u₀ : Bloom) (ha : C01.WF a₀) (hb : C01.WF b₀)
    (h₀ : Bloom.union est a₀ b₀ true = some u₀) (xs ys : List (List Nat)) :
    ∃ r, Bloom.union est (runB a₀ xs) (runB b₀ ys) true = some r ∧
      r.bits = (runB u₀ (xs ++ ys)).bits ∧ r.k = a₀.k ∧ r.m = a₀.m := by
  obtain ⟨hsim, uk, um, _, _, ub⟩ := Bloom.union_eq_some est a₀ b₀ u₀ true h₀
  obtain ⟨ek, em, _⟩ := (Bloom.similar_iff a₀ b₀ true).1 hsim
  obtain ⟨ak, am, _, _, ab⟩ := Bloom.runAdds_spec xs a₀
  obtain ⟨bk, bm, _, _, bb⟩ := Bloom.runAdds_spec ys b₀
  have hsim' : (runB a₀ xs).similar (runB b₀ ys) true = true :=
    (Bloom.similar_iff _ _ _).2 ⟨by rw [ak, bk, ek], by rw [am, bm, em], rfl⟩
  obtain ⟨r, hr⟩ := Bloom.union_of_similar est _ _ true hsim'
  obtain ⟨_, rk, rm, _, _, rb⟩ := Bloom.union_eq_some est _ _ r true hr
  refine ⟨r, hr, ?_, by rw [rk, ak], by rw [rm, am]⟩
  have hn : (runB a₀ xs).bloomLength = Bloom.lengthOf a₀.m := by
    show Bloom.lengthOf (runB a₀ xs).m = _; rw [am]
  have hpos : ∀ (c : Bloom) (zs : List (List Nat)), 0 < c.m →
      ∀ p ∈ zs.flatMap (posOf c.k c.m), p / 8 < Bloom.lengthOf c.m := by
    intro c zs hc p hp
    obtain ⟨hs, _, hp⟩ := List.mem_flatMap.1 hp
    exact index_in_range (posOf_lt _ _ hs hc p hp)
  have hlb : b₀.bits.length = Bloom.lengthOf a₀.m := by rw [em]; exact hb.1
  rw [rb, hn, ab, bb, zipOr_foldl_right _ _ _ _ hlb (em ▸ hpos b₀ ys hb.2),
    zipOr_foldl_left _ _ _ _ ha.1 (hpos a₀ xs ha.2)]
  obtain ⟨_, _, _, _, ue⟩ := Bloom.runAdds_spec (xs ++ ys) u₀
  rw [ue, uk, um, ub, List.flatMap_append, List.foldl_append, ← ek, ← em]
  rfl

theorem C12_bloom (est : Estimator) (e f k m : Nat) (hm : 0 < m) (xs ys : List (List Nat)) :
    ∃ r, Bloom.union est (runB (Bloom.new e f k m) xs) (runB (Bloom.new e f k m) ys) true = some r ∧
      r.bits = (runB (Bloom.new e f k m) (xs ++ ys)).bits ∧ r.k = k ∧ r.m = m := by
  have hw := Bloom.new_wf e f k m hm
  obtain ⟨u₀, hu⟩ := Bloom.union_of_similar est (Bloom.new e f k m) (Bloom.new e f k m) true
    ((Bloom.similar_iff _ _ _).2 ⟨rfl, rfl, rfl⟩)
  obtain ⟨r, hr, hb, hk, hm'⟩ := C12_bloom_general est _ _ u₀ hw hw hu xs ys
  refine ⟨r, hr, ?_, hk, hm'⟩
  obtain ⟨_, uk, um, _, _, ub⟩ := Bloom.union_eq_some est _ _ u₀ true hu
  have hub : u₀.bits = (Bloom.new e f k m).bits := by
    rw [ub]; exact zipOr_zero _
  rw [hb, (Bloom.runAdds_spec (xs ++ ys) u₀).2.2.2.2, (Bloom.runAdds_spec (xs ++ ys) (Bloom.new e f k m)).2.2.2.2,
    uk, um, hub]

theorem C12_bloom_keys (H : Key → Nat → List Nat) (est : Estimator) (e f k m : Nat) (hm : 0 < m)
    (xs ys : List Key) :
    ∃ r, Bloom.union est (runB (Bloom.new e f k m) (xs.map (H · k)))
        (runB (Bloom.new e f k m) (ys.map (H · k))) true = some r ∧
      r.bits = (runB (Bloom.new e f k m) ((xs ++ ys).map (H · k))).bits := by
  obtain ⟨r, h1, h2, _⟩ := C12_bloom est e f k m hm (xs.map (H · k)) (ys.map (H · k))
  exact ⟨r, h1, by rw [h2, List.map_append]⟩

theorem C12_bloom_member (est : Estimator) (a b r : Bloom) (same : Bool) (ha : C01.WF a)
    (hu : Bloom.union est a b same = some r) (hs : List Nat)
    (h : a.checkAlt hs = .ok true ∨ b.checkAlt hs = .ok true) : r.checkAlt hs = .ok true := by
  rcases h with h | h
  · exact C01.C01_union_left est a b r same ha hu hs h
  · exact C01.C01_union_right est a b r same ha hu hs h

abbrev runC (c : CBF) (xs : List (List Nat × Int)) : CBF := c.runAdds xs

theorem C12_cbfTot_cons (k m j : Nat) (hs : List Nat) (n : Int) (xs : List (List Nat × Int)) :
    cbfTot k m j ((hs, n) :: xs)
      = (if k ≤ hs.length then cbfInc n j ((hs.take k).map (· % m)) else 0) + cbfTot k m j xs := rfl

/-- a history of non-negative amounts leaves in every cell of a fresh filter its exact count, capped
    at the cell limit: by induction on the last call, which `Cbf.addAlt_eq` describes cell by cell -/
private theorem cbf_fresh (e f k m : Nat) (zs : List (List Nat × Int)) (hn : ∀ p ∈ zs, 0 ≤ p.2) :
    (runC (CBF.new e f k m) zs).cells = (List.range m).map (fun j => min Gen.uint32Max (cbfTot k m j zs)) ∧
    (runC (CBF.new e f k m) zs).k = k ∧ (runC (CBF.new e f k m) zs).m = m := by
  induction zs using snoc_induction with
  | nil =>
    have h0 : min Gen.uint32Max (0 : Int) = 0 := by decide
    exact ⟨by simp [CBF.runAdds, CBF.new, cbfTot, List.map_const', h0], rfl, rfl⟩
  | snoc zs p ih =>
    have hp : 0 ≤ p.2 := hn p (by simp)
    have hnz : ∀ q ∈ zs, 0 ≤ q.2 := fun q hq => hn q (List.mem_append_left _ hq)
    have hlast : ∀ j, cbfTot k m j (zs ++ [p]) = cbfTot k m j zs +
        ((if k ≤ p.1.length then cbfInc p.2 j (cbfIdx k m p.1) else 0) + 0) := fun j => cbfTot_append k m j zs [p]
    have hM : (0 : Int) ≤ Gen.uint32Max := by decide
    obtain ⟨hc, hk, hm⟩ := ih hnz
    rw [show runC (CBF.new e f k m) (zs ++ [p]) = ((runC (CBF.new e f k m) zs).addAlt p.1 p.2).1 from
      List.foldl_append]
    generalize runC (CBF.new e f k m) zs = s at hc hk hm ⊢
    have hlen : s.cells.length = m := by rw [hc, List.length_map, List.length_range]
    have hget : ∀ j, j < m → s.cells.getD j 0 = min Gen.uint32Max (cbfTot k m j zs) := fun j hj => by
      rw [hc, getD_map_range _ hj]
    by_cases hl : k ≤ p.1.length
    · rw [Cbf.addAlt_eq s p.1 p.2 hp (by rw [hk]; exact hl) (Cbf.forall_mem_of_forall_getD fun j hj => by
        rw [hget j (hlen ▸ hj)]
        exact ⟨Int.le_min.2 ⟨hM, cbfTot_nonneg k m j zs hnz⟩, Int.min_le_left _ _⟩)]
      refine ⟨ext_getD 0 (by simp [hlen]) fun j hj => ?_, hk, hm⟩
      have hj' : j < m := by
        rw [← hlen]
        simpa using hj
      rw [Cbf.getD_bumpWith _ _ _ _ (hlen ▸ hj'), hget j hj', Cbf.repeat_clampAdd hp _ (Int.min_le_left _ _),
        Counters.touched, hk, hlen, getD_map_range _ hj', hlast, if_pos hl, cbfInc_eq, Int.add_zero, cbfIdx]
      exact min_cap_add (Int.mul_nonneg (Int.natCast_nonneg _) hp)
    · rw [show (s.addAlt p.1 p.2).1 = s by
        rw [CBF.addAlt, Cbf.indices_short s p.1 (by rw [hk]; omega)]]
      simp only [hlast, if_neg hl, Int.add_zero]
      exact ⟨hc, hk, hm⟩

theorem C12_cbf_cells (e f k m : Nat) (hm : 0 < m) (zs : List (List Nat × Int))
    (hn : ∀ p ∈ zs, 0 ≤ p.2) (hu : ∀ j, j < m → cbfTot k m j zs ≤ Gen.uint32Max) :
    (runC (CBF.new e f k m) zs).cells = (List.range m).map fun j => cbfTot k m j zs := by
  rw [(cbf_fresh e f k m zs hn).1]
  exact List.map_congr_left fun j hj => Int.min_eq_right (hu j (List.mem_range.1 hj))

/-- saturated cells included: capping the two counts and then their sum is capping the sum -/
theorem cbf_union_runs (est : Estimator) (e f k m : Nat) (xs ys : List (List Nat × Int))
    (hn : ∀ p ∈ xs ++ ys, 0 ≤ p.2) :
    ∃ r, CBF.union est (runC (CBF.new e f k m) xs) (runC (CBF.new e f k m) ys) true = some r ∧
      r.cells = (runC (CBF.new e f k m) (xs ++ ys)).cells ∧ r.k = k ∧ r.m = m := by
  obtain ⟨hnx, hny⟩ := List.forall_mem_append.1 hn
  obtain ⟨xc, xk, xm⟩ := cbf_fresh e f k m xs hnx
  obtain ⟨yc, yk, ym⟩ := cbf_fresh e f k m ys hny
  obtain ⟨r, hr⟩ := CBF.union_of_similar est (runC (CBF.new e f k m) xs) (runC (CBF.new e f k m) ys) true
    ((CBF.similar_iff _ _ _).2 ⟨by rw [xk, yk], by rw [xm, ym], rfl⟩)
  obtain ⟨_, rk, rm, _, _, rc⟩ := CBF.union_eq_some est _ _ r true hr
  refine ⟨r, hr, ?_, by rw [rk, xk], by rw [rm, xm]⟩
  rw [rc, (cbf_fresh e f k m (xs ++ ys) hn).1, xc, yc, List.length_map, List.length_range]
  refine map_range_combine (fun x y => CBF.clampCell (x + y)) _ _ _ m fun i _ => ?_
  rw [cbfTot_append, Cbf.clampCell_eq_min]
  exact min_cap_add_cap (by decide) (cbfTot_nonneg k m i xs hnx) (cbfTot_nonneg k m i ys hny)

theorem C12_cbf (est : Estimator) (e f k m : Nat) (hm : 0 < m) (xs ys : List (List Nat × Int))
    (hn : ∀ p ∈ xs ++ ys, 0 ≤ p.2)
    (hunsat : ∀ j, j < m → cbfTot k m j (xs ++ ys) ≤ Gen.uint32Max) :
    ∃ r, CBF.union est (runC (CBF.new e f k m) xs) (runC (CBF.new e f k m) ys) true = some r ∧
      r.cells = (runC (CBF.new e f k m) (xs ++ ys)).cells ∧ r.k = k ∧ r.m = m :=
  cbf_union_runs est e f k m xs ys hn

theorem C12_cbf_simple (est : Estimator) (e f k m : Nat) (hm : 0 < m) (xs ys : List (List Nat × Int))
    (hn : ∀ p ∈ xs ++ ys, 0 ≤ p.2)
    (hsum : (k : Int) * (cbfAmt xs + cbfAmt ys) ≤ Gen.uint32Max) :
    ∃ r, CBF.union est (runC (CBF.new e f k m) xs) (runC (CBF.new e f k m) ys) true = some r ∧
      r.cells = (runC (CBF.new e f k m) (xs ++ ys)).cells ∧ r.k = k ∧ r.m = m := by
  apply C12_cbf est e f k m hm xs ys hn
  intro j _
  have := cbfTot_le_amt k m j (xs ++ ys) hn
  rw [cbfAmt_append] at this
  omega

abbrev runS (c : CMS) (xs : List (List Nat × Int)) : CMS := c.runAdds xs

theorem C12_cmsTot_cons (w j : Nat) (hs : List Nat) (n : Int) (xs : List (List Nat × Int)) :
    cmsTot w j ((hs, n) :: xs)
      = (if j ∈ (CMS.new w hs.length .min).binIdx hs then n else 0) + cmsTot w j xs := rfl

private theorem clamp32_cap {t n : Int} (ht : 0 ≤ t) (hn : 0 ≤ n) :
    CmsCore.clamp32 (min Gen.int32Max t + n) = min Gen.int32Max (t + n) := by
  have hmin : Gen.int32Min ≤ (0 : Int) := by decide
  rw [CmsCore.clamp32, min_cap_add hn]
  exact Int.max_eq_right (Int.le_trans hmin (Int.le_min.2 ⟨by decide, Int.add_nonneg ht hn⟩))

/-- a bin at its limit stays there, any other takes the capped sum -/
private theorem joinCell_cap {t u : Int} (ht : 0 ≤ t) (hu : 0 ≤ u) :
    CMS.joinCell (min Gen.int32Max t) (min Gen.int32Max u) = min Gen.int32Max (t + u) := by
  have hmin : Gen.int32Min < (0 : Int) := by decide
  have hmax : (0 : Int) ≤ Gen.int32Max := by decide
  unfold CMS.joinCell
  simp only [beq_iff_eq, Bool.or_eq_true]
  by_cases h : Gen.int32Max ≤ t
  · rw [Int.min_eq_left h, if_pos (Or.inr rfl), Int.min_eq_left (Int.le_trans h (Int.le_add_of_nonneg_right hu))]
  · rw [Int.min_eq_right (Int.le_of_lt (Int.not_le.1 h)), if_neg (by omega), CmsCore.clamp_ite CmsCore.int32_le,
      Int.add_comm t, min_cap_add ht, Int.add_comm u]
    exact Int.max_eq_right (Int.le_trans (Int.le_of_lt hmin) (Int.le_min.2 ⟨hmax, Int.add_nonneg ht hu⟩))

/-- a history of non-negative amounts on a fresh sketch: every bin holds its exact count and the total
    the exact sum, each capped at its limit; by induction on the last call, which `CmsCore.addAlt_eq`
    describes bin by bin -/
private theorem cms_fresh (w d : Nat) (mode : Mode) (hw : 0 < w) (zs : List (List Nat × Int))
    (hl : ∀ p ∈ zs, p.1.length = d) (hn : ∀ p ∈ zs, 0 ≤ p.2) :
    runS (CMS.new w d mode) zs =
      ⟨w, d, (List.range (w * d)).map fun j => min Gen.int32Max (cmsTot w j zs),
        min Gen.int64Max (cmsAmt zs), mode⟩ := by
  induction zs using snoc_induction with
  | nil =>
    have h32 : min Gen.int32Max (0 : Int) = 0 := by decide
    have h64 : min Gen.int64Max (0 : Int) = 0 := by decide
    simp [CMS.runAdds, CMS.new, cmsTot, cmsAmt, List.map_const', h32, h64]
  | snoc zs p ih =>
    have hp : 0 ≤ p.2 := hn p (by simp)
    have hnz : ∀ q ∈ zs, 0 ≤ q.2 := fun q hq => hn q (List.mem_append_left _ hq)
    have hlast : ∀ j, cmsTot w j (zs ++ [p]) = cmsTot w j zs + (cmsHit (cmsIdx w p.1) p.2 j + 0) :=
      fun j => cmsTot_append w j zs [p]
    have hamt : cmsAmt (zs ++ [p]) = cmsAmt zs + (p.2 + 0) := cmsAmt_append zs [p]
    have htot := fun j => (cmsTot_bounds w j zs hnz).1
    have hmin : Gen.int32Min ≤ (0 : Int) := by decide
    have hmax : (0 : Int) ≤ Gen.int32Max := by decide
    have hrun : runS (CMS.new w d mode) (zs ++ [p]) = ((runS (CMS.new w d mode) zs).addAlt p.1 p.2).1 :=
      List.foldl_append
    rw [hrun, ih (fun q hq => hl q (List.mem_append_left _ hq)) hnz]
    let s : CMS := ⟨w, d, (List.range (w * d)).map fun j => min Gen.int32Max (cmsTot w j zs),
      min Gen.int64Max (cmsAmt zs), mode⟩
    have hin : ∀ x ∈ cmsIdx w p.1, x < w * d :=
      CmsCore.binIdx_lt s p.1 hw (Nat.le_of_eq (hl p (by simp)))
    have hlen : s.bins.length = w * d := (List.length_map _).trans List.length_range
    have hany : (s.binIdx p.1).any (· ≥ s.bins.length) = false :=
      CmsCore.any_ge_eq_false.2 fun x hx => hlen ▸ hin x hx
    rw [CmsCore.addAlt_eq s p.1 p.2 hany
      (fun x hx => by
        show _ ≤ ((List.range (w * d)).map fun j => min Gen.int32Max (cmsTot w j zs)).getD x 0 + p.2
        rw [getD_map_range _ (hin x hx)]
        exact Int.le_trans hmin (Int.add_nonneg (Int.le_min.2 ⟨hmax, htot x⟩) hp))]
    show CMS.mk w d (CmsCore.bumpBins s p.1 p.2)
      (min Gen.int64Max (min Gen.int64Max (cmsAmt zs) + p.2)) mode = _
    congr 1
    · apply ext_getD 0 (by rw [CmsCore.bumpBins_length, hlen, List.length_map, List.length_range])
      intro j hj
      rw [CmsCore.bumpBins_length, hlen] at hj
      rw [CmsCore.bumpBins_getD s p.1 p.2 hany j, getD_map_range _ hj, getD_map_range _ hj, hlast, cmsHit,
        clamp32_cap (htot j) hp, Int.add_zero]
      show (if j ∈ cmsIdx w p.1 then _ else _) = _
      split
      · rfl
      · rw [Int.add_zero]
    · rw [hamt, Int.add_zero]
      exact min_cap_add hp

theorem C12_cms_cells (w d : Nat) (mode : Mode) (hw : 0 < w) (zs : List (List Nat × Int))
    (hl : ∀ p ∈ zs, p.1.length = d) (hn : ∀ p ∈ zs, 0 ≤ p.2)
    (hu : ∀ j, j < w * d → cmsTot w j zs ≤ Gen.int32Max) (ht : cmsAmt zs ≤ Gen.int64Max) :
    runS (CMS.new w d mode) zs =
      ⟨w, d, (List.range (w * d)).map fun j => cmsTot w j zs, cmsAmt zs, mode⟩ := by
  rw [cms_fresh w d mode hw zs hl hn, Int.min_eq_right ht]
  congr 1
  exact List.map_congr_left fun j hj => Int.min_eq_right (hu j (List.mem_range.1 hj))

/-- clamped bins and a clamped total included: capping two counts and then their sum is capping
    the sum, and a bin at its limit stays there -/
theorem cms_join_runs (w d : Nat) (mode : Mode) (hw : 0 < w) (xs ys : List (List Nat × Int))
    (hl : ∀ p ∈ xs ++ ys, p.1.length = d) (hn : ∀ p ∈ xs ++ ys, 0 ≤ p.2) :
    CMS.join (runS (CMS.new w d mode) xs) (runS (CMS.new w d mode) ys) true
      = .ok (runS (CMS.new w d mode) (xs ++ ys)) := by
  obtain ⟨hlx, hly⟩ := List.forall_mem_append.1 hl
  obtain ⟨hnx, hny⟩ := List.forall_mem_append.1 hn
  have hax := cmsAmt_nonneg xs hnx
  have hay := cmsAmt_nonneg ys hny
  rw [cms_fresh w d mode hw (xs ++ ys) hl hn, cms_fresh w d mode hw xs hlx hnx,
    cms_fresh w d mode hw ys hly hny]
  simp only [CMS.join, bne_self_eq_false, Bool.not_true, Bool.or_self, Bool.false_eq_true, if_false]
  have h64 : Gen.int64Min ≤ (0 : Int) ∧ (0 : Int) ≤ Gen.int64Max := by decide
  rw [CmsCore.clamp_ite CmsCore.int64_le, cmsAmt_append, min_cap_add_cap h64.2 hax hay,
    Int.max_eq_right (Int.le_trans h64.1 (Int.le_min.2 ⟨h64.2, Int.add_nonneg hax hay⟩))]
  congr 2
  refine map_range_combine CMS.joinCell _ _ _ (w * d) fun i _ => ?_
  rw [cmsTot_append]
  exact joinCell_cap (cmsTot_bounds w i xs hnx).1 (cmsTot_bounds w i ys hny).1

theorem C12_cms (w d : Nat) (mode : Mode) (hw : 0 < w) (xs ys : List (List Nat × Int))
    (hl : ∀ p ∈ xs ++ ys, p.1.length = d) (hn : ∀ p ∈ xs ++ ys, 0 ≤ p.2)
    (hu : ∀ j, j < w * d → cmsTot w j (xs ++ ys) ≤ Gen.int32Max)
    (ht : cmsAmt (xs ++ ys) ≤ Gen.int64Max) :
    CMS.join (runS (CMS.new w d mode) xs) (runS (CMS.new w d mode) ys) true
      = .ok (runS (CMS.new w d mode) (xs ++ ys)) :=
  cms_join_runs w d mode hw xs ys hl hn

theorem C12_cms_simple (w d : Nat) (mode : Mode) (hw : 0 < w) (xs ys : List (List Nat × Int))
    (hl : ∀ p ∈ xs ++ ys, p.1.length = d) (hn : ∀ p ∈ xs ++ ys, 0 ≤ p.2)
    (hsum : cmsAmt xs + cmsAmt ys ≤ Gen.int32Max) :
    CMS.join (runS (CMS.new w d mode) xs) (runS (CMS.new w d mode) ys) true
      = .ok (runS (CMS.new w d mode) (xs ++ ys)) := by
  have hamt := cmsAmt_append xs ys
  apply C12_cms w d mode hw xs ys hl hn
  · intro j _
    have := cmsTot_bounds w j (xs ++ ys) hn
    omega
  · simp only [Gen.int32Max, Gen.int64Max] at *; omega

example :
    (Bloom.union (fun _ _ _ => 0) (runB (Bloom.new 5 0 3 10) [[3, 14, 25], [7]])
        (runB (Bloom.new 5 0 3 10) [[9, 19, 1000]]) true).map (·.bits) = some [185, 2] ∧
    (runB (Bloom.new 5 0 3 10) ([[3, 14, 25], [7]] ++ [[9, 19, 1000]])).bits = [185, 2] := by decide

/-- test: a counting filter with a hash list hitting one cell twice; the hypotheses of `C12_cbf` hold -/
example :
    let xs : List (List Nat × Int) := [([3, 13, 5], 2), ([1], 7)]
    let ys : List (List Nat × Int) := [([3, 4, 5], 1)]
    (∀ p ∈ xs ++ ys, 0 ≤ p.2) ∧ (∀ j, j < 10 → cbfTot 3 10 j (xs ++ ys) ≤ Gen.uint32Max) ∧
    (runC (CBF.new 5 0 3 10) (xs ++ ys)).cells = [0, 0, 0, 5, 1, 3, 0, 0, 0, 0] ∧
    (CBF.union (fun _ _ _ => 0) (runC (CBF.new 5 0 3 10) xs) (runC (CBF.new 5 0 3 10) ys) true).map (·.cells)
      = some [0, 0, 0, 5, 1, 3, 0, 0, 0, 0] := by decide

/-- test: a 4 x 2 sketch; the hypotheses of `C12_cms` hold and the join is the single-stream sketch -/
example :
    let xs : List (List Nat × Int) := [([3, 13], 2), ([1, 1], 7)]
    let ys : List (List Nat × Int) := [([3, 4], 1)]
    (∀ p ∈ xs ++ ys, p.1.length = 2) ∧ (∀ p ∈ xs ++ ys, 0 ≤ p.2) ∧
    (∀ j, j < 4 * 2 → cmsTot 4 j (xs ++ ys) ≤ Gen.int32Max) ∧ cmsAmt (xs ++ ys) ≤ Gen.int64Max ∧
    (runS (CMS.new 4 2 .min) (xs ++ ys)).bins = [0, 7, 0, 3, 1, 9, 0, 0] ∧
    (runS (CMS.new 4 2 .min) (xs ++ ys)).total = 10 := by decide

end PyProb.C12
