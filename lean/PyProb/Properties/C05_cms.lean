/-
  C05 — export followed by load reproduces the structure: count-min sketch family.  The overview
  of the whole property, with the hypotheses and what they mean, is in `Properties/C05.lean`; the
  Bloom part is in `Properties/C05_bloom.lean` and the cuckoo part in `Properties/C05_cuckoo.lean`.
-/
import PyProb.Lemmas.FormatsCms
import PyProb.Lemmas.WFOpsCms

namespace PyProb.C05
open PyProb

structure CMSWF (c : CMS) : Prop where
  len : c.bins.length = c.w * c.d
  bins : ∀ x ∈ c.bins, -2147483648 ≤ x ∧ x ≤ 2147483647
  w : c.w < 2 ^ 32
  d : c.d < 2 ^ 32
  total0 : -9223372036854775808 ≤ c.total
  total1 : c.total ≤ 9223372036854775807

theorem C05_cms_export_ok (c : CMS) (wf : CMSWF c) : ∃ bytes, c.exportBytes = .ok bytes := by
  have h1 := wf.w; have h2 := wf.d; have h3 := wf.total0; have h4 := wf.total1
  unfold CMS.exportBytes
  rw [cmsFooter_pack, if_neg (by omega), if_neg (by omega), if_neg (by omega)]
  exact ⟨_, rfl⟩

/-- the loader rebuilds the receiver's class: the query mode is re-supplied -/
theorem C05_cms_roundtrip (mode : Mode) (c : CMS) (bytes : Bytes)
    (hlen : c.bins.length = c.w * c.d)
    (hbins : ∀ x ∈ c.bins, -2147483648 ≤ x ∧ x ≤ 2147483647)
    (h : c.exportBytes = .ok bytes) : CMS.load mode bytes = .ok { c with mode := mode } := by
  rw [CMS.exportBytes_eq] at h
  obtain ⟨f, hf, rfl⟩ := map_eq_ok h
  unfold CMS.load
  rw [cms_lastN_append _ _ _ (pack_length _ _ _ hf), unpack_pack _ _ _ hf]
  have hcl : (cellsBytes .i32 c.bins).length = 4 * (c.w * c.d) := by rw [cellsBytes_length, hlen]; rfl
  simp only [cmsCell_size, Int.toNat_natCast]
  rw [List.take_left' hcl, hcl]
  rw [if_neg (by simp)]
  rw [bytesCells_cellsBytes _ _ _ (by omega) hbins]

theorem C05_cms_roundtrip_same_mode (c : CMS) (bytes : Bytes)
    (hlen : c.bins.length = c.w * c.d)
    (hbins : ∀ x ∈ c.bins, -2147483648 ≤ x ∧ x ≤ 2147483647)
    (h : c.exportBytes = .ok bytes) : CMS.load c.mode bytes = .ok c :=
  C05_cms_roundtrip c.mode c bytes hlen hbins h

theorem C05_cms_stable (mode : Mode) (c : CMS) (bytes : Bytes)
    (hlen : c.bins.length = c.w * c.d)
    (hbins : ∀ x ∈ c.bins, -2147483648 ≤ x ∧ x ≤ 2147483647)
    (h : c.exportBytes = .ok bytes) :
    ∃ c', CMS.load mode bytes = .ok c' ∧ c'.exportBytes = .ok bytes :=
  ⟨_, C05_cms_roundtrip mode c bytes hlen hbins h, h⟩

theorem C05_cms_new_wf (w d : Nat) (mode : Mode) (hw : w < 2 ^ 32) (hd : d < 2 ^ 32) :
    CMSWF (CMS.new w d mode) := by
  refine ⟨by simp [CMS.new], ?_, hw, hd, by simp [CMS.new], by simp [CMS.new]⟩
  intro x hx
  simp only [CMS.new, List.mem_replicate] at hx
  omega

theorem C05_cms_add_wf (c : CMS) (hs : List Nat) (n : Int)
    (hlen : c.bins.length = c.w * c.d) (hbins : ∀ x ∈ c.bins, -2147483648 ≤ x ∧ x ≤ 2147483647) :
    (c.addAlt hs n).1.bins.length = (c.addAlt hs n).1.w * (c.addAlt hs n).1.d ∧
      ∀ x ∈ (c.addAlt hs n).1.bins, -2147483648 ≤ x ∧ x ≤ 2147483647 := by
  obtain ⟨h1, h2, h3, h4⟩ := cms_addAlt_ok c hs n (BinsOK_iff.mpr hbins)
  exact ⟨by rw [h2, h3, h4, hlen], BinsOK_iff.mp h1⟩

theorem C05_cms_remove_wf (c : CMS) (hs : List Nat) (n : Int)
    (hlen : c.bins.length = c.w * c.d) (hbins : ∀ x ∈ c.bins, -2147483648 ≤ x ∧ x ≤ 2147483647) :
    (c.removeAlt hs n).1.bins.length = (c.removeAlt hs n).1.w * (c.removeAlt hs n).1.d ∧
      ∀ x ∈ (c.removeAlt hs n).1.bins, -2147483648 ≤ x ∧ x ≤ 2147483647 := by
  obtain ⟨h1, h2, h3, h4⟩ := cms_removeAlt_ok c hs n (BinsOK_iff.mpr hbins)
  exact ⟨by rw [h2, h3, h4, hlen], BinsOK_iff.mp h1⟩

private def s23 : CMS := ⟨2, 3, [1, -2147483648, 0, 2147483647, -1, 5], -7, .mean⟩
example : CMS.load .mean (s23.exportBytes.toOption.getD []) = .ok s23 := by rfl

end PyProb.C05
