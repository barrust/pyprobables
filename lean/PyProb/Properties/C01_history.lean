/-
  C01, second module — the property at full strength over the whole operation language of its
  statement: add / push / union / query / clear **and export+load (bytes and hex channels) and
  close+reopen** as steps of one history.  The reload steps are strict (a failing export, load or
  reopen would abort the run); the theorems show they never fail on reachable states and are
  invisible: the run equals the run with the reloads erased.  Proofs in `Lemmas/FullHistory.lean`
  (built on C01, C05 and C11).
-/
import PyProb.Lemmas.FullHistory

namespace PyProb.C01
open PyProb PyProb.FullHistory

theorem C01_bloom_reloads_invisible (geom : Geom) (est : Estimator) (ops : List BOp) (b₀ : Bloom)
    (h : BInv geom b₀ (adds ops)) (hu : UnionsOK est ops) :
    brun geom est b₀ ops = .ok (C01.run est b₀ (eraseReloads ops)) :=
  (bloom_run_eq geom est ops b₀ h hu).1

/-- **C01, in-memory, full operation language**: every hash list added since the last clear is reported
    present after any sequence of add / union / query / clear / export+load (bytes or hex) -/
theorem C01_bloom_full_history (geom : Geom) (est : Estimator) (b₀ : Bloom) (ops : List BOp)
    (h : BInv geom b₀ (adds ops)) (hu : UnionsOK est ops) (hs : List Nat)
    (hmem : hs ∈ FullHistory.addedSinceLastClear ops) (hl : b₀.k ≤ hs.length) :
    ∃ b, brun geom est b₀ ops = .ok b ∧ b.checkAlt hs = .ok true :=
  bloom_full_history geom est b₀ ops h hu hs hmem hl

theorem C01_bloom_full_history_keys (H : Key → Nat → List Nat) (hH : ∀ key d, d ≤ (H key d).length)
    (geom : Geom) (est : Estimator) (b₀ : Bloom) (ops : List BKOp)
    (h : BInv geom b₀ (adds (ops.map (BKOp.toOp H b₀.k))))
    (hu : UnionsOK est (ops.map (BKOp.toOp H b₀.k))) (key : Key)
    (hmem : key ∈ FullHistory.keysAddedSinceLastClear ops) :
    ∃ b, brun geom est b₀ (ops.map (BKOp.toOp H b₀.k)) = .ok b ∧ b.checkAlt (H key b₀.k) = .ok true := by
  apply bloom_full_history geom est b₀ _ h hu _ _ (hH key b₀.k)
  have hm := List.mem_map_of_mem (f := (H · b₀.k)) hmem
  rw [FullHistory.keysAddedSinceLastClear, ← foldl_map_comm (List.map (H · b₀.k)) (BKOp.toOp H b₀.k)
    FullHistory.bliveK FullHistory.blive (fun _ op => by cases op <;> rfl)] at hm
  exact hm

/-- **expanding filter**: add(force) / push / export+load in any order -/
theorem C01_expanding_full_history (geom : Geom) (e₀ : Expanding) (ops : List FullHistory.EOp)
    (h : EInv geom e₀ (work ops)) (hs : List Nat) (hmem : hs ∈ FullHistory.eadded ops)
    (hl : e₀.k ≤ hs.length) :
    ∃ e, FullHistory.erun geom e₀ ops = .ok e ∧ e.checkAlt hs = .ok true :=
  expanding_full_history geom e₀ ops h hs hmem hl

/-- **on-disk filter**: from a freshly created file, any history of add and close+reopen cycles (fewer
    than 2^64 adds) keeps every added hash list -/
theorem C01_ondisk_full_history (geom : Geom) (est fpr32 k m : Nat) (hm : 0 < m)
    (he : est < 2 ^ 64) (hf : fpr32 < 2 ^ 32) (hg : C05.GeomStable geom est fpr32 k m) :
    ∃ o₀, OnDisk.create est fpr32 k m = .ok o₀ ∧
      ∀ (ops : List C11.Op), C11.adds ops < 2 ^ 64 → ∀ hs ∈ dadded ops, k ≤ hs.length →
        ∃ o, drun geom o₀ ops = .ok o ∧ o.checkAlt hs = .ok true := by
  obtain ⟨o, hc, hk, hi⟩ := dinv_create geom est fpr32 k m hm he hf hg
  exact ⟨o, hc, fun ops hn hs hmem hl =>
    ondisk_full_history geom o ops (hi _ hn) hs hmem (by rw [hk]; exact hl)⟩

end PyProb.C01
