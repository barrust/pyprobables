/-
  C04, second module — "every call terminates": the recursion budget the model hands to
  `add_alt` / `resize` / `merge` always suffices on reachable states, so the only outcomes are a normal
  return or `QuotientFilterError`; `diverged` never occurs.  (Termination of look-up, iteration, remove
  and non-resizing add is in `Properties/C04.lean`.)  Proofs in `Lemmas/QFBudget.lean`.
-/
import PyProb.Lemmas.QFBudget

namespace PyProb.C04
open PyProb PyProb.Spec PyProb.QF

/-- after any history that did not raise, the next call — add, remove, resize or merge with in-range
    arguments, run with the budget the driver gives it — returns normally or raises
    `QuotientFilterError`; it never runs out of budget -/
theorem C04_step_terminates (q : Int) (auto : Bool) (b₀ : Nat) (ops : List Op)
    (hops : ∀ op ∈ ops, op.InRange) (s0 s : QF) (hnew : QF.new q auto = .ok s0)
    (hrun : run b₀ s0 ops = .ok s) (op : Op) (hop : op.InRange) (b : Nat) (hb : opBudget s op ≤ b) :
    ((∃ t, step b s op = .ok t) ∨ step b s op = .error .qfError) ∧ step b s op ≠ .error .diverged :=
  QF.step_no_diverge q auto b₀ ops hops s0 s hnew hrun op hop b hb

/-- **every history terminates**: run the way the driver runs it (each call with the model's budget
    for the state it is applied to), every history from `QuotientFilter(q, auto)` ends in a state that
    is the canonical table of its set, or in `QuotientFilterError`; never in `diverged` — with NO
    "no call raised" hypothesis -/
theorem C04_history_terminates (q : Int) (auto : Bool) (ops : List Op) (hops : ∀ op ∈ ops, op.InRange) :
    let r := QF.new q auto >>= fun s0 => runB s0 ops
    ((∃ t, r = .ok t ∧ Inv auto t (absRun auto ⟨q.toNat, []⟩ ops)) ∨ r = .error .qfError) ∧
    r ≠ .error .diverged :=
  QF.runB_no_diverge q auto ops hops

/-- the model's budget `budgetOf` suffices for `add_alt` on a canonical table (`|H| + 3` units do:
    `QF.addAlt_no_diverge`, and that bound is attained) -/
theorem C04_add_budget (q : Nat) (auto : Bool) (H : List Nat) (h : Nat) (h3 : 3 ≤ q) (h31 : q ≤ 31)
    (hs : SortedN H) (hr : ∀ x ∈ H, x < 2 ^ 32) (hl : H.length < 2 ^ q) (hh : h < 2 ^ 32) :
    addAlt (budgetOf (layout q auto (pairs q H))) (layout q auto (pairs q H)) h ≠ .error .diverged :=
  QF.addAlt_no_diverge_budgetOf q auto H h h3 h31 hs hr hl hh

theorem C04_resize_budget (q : Nat) (auto : Bool) (H : List Nat) (qn : Option Int) (h3 : 3 ≤ q)
    (h31 : q ≤ 31) (hs : SortedN H) (hr : ∀ x ∈ H, x < 2 ^ 32) (hl : H.length < 2 ^ q) :
    QF.resize (budgetOf (layout q auto (pairs q H))) (layout q auto (pairs q H)) qn ≠ .error .diverged :=
  QF.resize_no_diverge_budgetOf q auto H qn h3 h31 hs hr hl

theorem C04_merge_budget (q : Nat) (auto : Bool) (H hs : List Nat) (h3 : 3 ≤ q) (h31 : q ≤ 31)
    (hsH : SortedN H) (hr : ∀ x ∈ H, x < 2 ^ 32) (hl : H.length < 2 ^ q) (hhs : ∀ h ∈ hs, h < 2 ^ 32) :
    (QF.merge (layout q auto (pairs q H)) hs).2 ≠ some .diverged :=
  (QF.merge_no_diverge q auto H hs h3 h31 hsH hr hl hhs).2

end PyProb.C04
