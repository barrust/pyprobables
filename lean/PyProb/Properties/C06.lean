/-
  C06 — the exported bytes are exactly the documented, C-compatible layout.

  The specification `PyProb/Spec/Layout.lean` is written from the documentation, independently of
  the model: fixed-width little-endian integers byte by byte, the 20/16/28/8-byte footers, the bit
  addressing rule, the hashing rule with the *published* FNV-1a constants (`Spec/Fnv.lean`),
  reference readers that work on the file bytes only, and reference writers.  The model packs every
  footer, and the expanding filter's per-sub-filter count, through a layout of `Generated/Repo.lean`
  (extracted from the Python source), and takes the FNV and sizing constants from there, so the
  theorems below tie the source to the documentation: an edit of `"QQf"`, of the FNV constants, of
  `k // 8` or of the hex byte order makes one of them false.  Not everything is tied in this way:
  the cell arrays are written by `cellsBytes` with the field type given in the model, the cuckoo
  model writes its slots with the literal `leBytes 4` and packs the footer of both cuckoo classes
  with `Gen.cuckooFooter` (`Model/Cuckoo.lean`, `exportBytes`); nothing reads `Gen.cuckooCell`,
  `Gen.ccfBin` or `Gen.ccfFooter`.

  Proved (unbounded sizes, keys and histories):
    * layout, as a total characterisation of `export`
      (`= if <ranges> then .ok <documented file> else .error struct.error`): `C06_bloom_footer`,
      `C06_bloom_file`, `C06_bloom_hex_file`, `C06_cbf_file`, `C06_cms_file_flat`, `C06_cms_file`
      (row-major; the last three for cells within their field);
    * layout, success and failure apart: `C06_expanding_file` / `C06_rotating_file` (all values fit)
      with `C06_expanding_error` (some value does not fit: `struct.error`); `C06_cuckoo_file`,
      `C06_counting_cuckoo_file` (bins, bucket size and swap limit below 2^32) with
      `C06_cuckoo_overflow` (a bin does not fit: `OverflowError`).  The remaining cuckoo case, bins
      that fit with a bucket size or swap limit of 2^32 or more (`struct.error` from the footer), is
      not stated;
    * addressing: `C06_bloom_bit_addressing`, `C06_cbf_cell_addressing`, `C06_cms_cell_addressing`;
    * the reference readers agree with the library on the exported file, for every key, error
      branches (k = 0, depth 0, width 1) included: `C06_reader_bloom` (`_iff`), `C06_reader_cbf`,
      `C06_reader_cms_min`, `C06_reader_cms_mean`, `C06_reader_cms_meanmin`;
    * the reference writers produce the library's file from the same additions (default hashing):
      `C06_writer_bloom`, `C06_writer_cbf`, `C06_writer_cms`, `C06_writer_expanding`,
      `C06_writer_rotating` (growth and rotation decisions are recomputed by the writer).
  Keys enter through `Key.units`: for a `bytes` key these are its bytes, for a `str` key the code
  units the library's FNV loop consumes (equal to the UTF-8 bytes for ASCII text, `C18_ascii`).

  Not stated: a reference *writer* for the cuckoo filters.  Their file is a function of the table
  (`C06_cuckoo_file` / `C06_counting_cuckoo_file`, i.e. a writer that is given the eviction
  decisions in the form of the resulting table); which table results from a history is the subject
  of C03 / C15.  The Bloom-family readers receive `k` and `m` as inputs (the C code re-derives them
  from the footer with floating point, which the model keeps outside as the parameter `geom`, see
  C05 / C07; `C06_sizing_constants_documented` covers the constants).
-/
import PyProb.Lemmas.Reference
import PyProb.Lemmas.ExpandingWriter

namespace PyProb.C06
open PyProb

/-- the documented 20 bytes: `Gen.bloomFooter` ("QQf") packs as uint64 LE, uint64 LE, float32 LE
    without padding -/
theorem C06_bloom_footer (b : Bloom) :
    b.exportBytes =
      if b.est < 2 ^ 64 ∧ 0 ≤ b.count ∧ b.count < 2 ^ 64 ∧ b.fpr32 < 2 ^ 32
      then .ok (b.bits ++ Spec.bloomFooter b.est b.count.toNat b.fpr32)
      else .error .structError := by
  rw [Bloom.exportBytes_eq]
  exact map_pack_spec Gen.bloomFooter rfl _ _ _ (bloomFooter_range b.est b.fpr32 b.count)

theorem C06_bloom_footer_length (est added fpr32 : Nat) : (Spec.bloomFooter est added fpr32).length = 20 := rfl

theorem C06_bloom_bit_addressing (b : Bloom) (file : Bytes) (i : Nat)
    (hlen : b.bits.length = Bloom.lengthOf b.m) (hi : i < b.m)
    (h : b.exportBytes = .ok file) :
    testBitB b.bits i = Nat.testBit (file.getD (i / 8) 0) (i % 8) := by
  rw [C06_bloom_footer] at h
  split at h
  · injection h with h; subst h
    have : i / 8 < b.bits.length := by rw [hlen]; exact index_in_range hi
    exact (bitOfFile_append _ _ _ this).symm
  · cases h

theorem C06_bloom_file (b : Bloom)
    (hlen : b.bits.length = Bloom.lengthOf b.m) (hbytes : ∀ x ∈ b.bits, x < 256) :
    b.exportBytes =
      if b.est < 2 ^ 64 ∧ 0 ≤ b.count ∧ b.count < 2 ^ 64 ∧ b.fpr32 < 2 ^ 32
      then .ok (Spec.bloomFile b.m (testBitB b.bits) b.est b.count.toNat b.fpr32)
      else .error .structError := by
  rw [C06_bloom_footer]
  have : b.bits = (List.range ((b.m + 7) / 8)).map fun j => Spec.byteOfBits fun t => testBitB b.bits (8 * j + t) := by
    have h := bits_eq_byteOfBits b.bits hbytes
    rw [hlen] at h
    exact h
  unfold Spec.bloomFile
  rw [← this]

/-- the hex channel: hex of the payload, then hex of the same three values, most significant
    byte first -/
theorem C06_bloom_hex_file (b : Bloom) (hlen : b.bits.length = Bloom.lengthOf b.m) :
    b.exportHex =
      if b.est < 2 ^ 64 ∧ 0 ≤ b.count ∧ b.count < 2 ^ 64 ∧ b.fpr32 < 2 ^ 32
      then .ok (hexlify b.bits ++ hexlify ((Spec.u64le b.est).reverse ++ (Spec.u64le b.count.toNat).reverse ++
        (Spec.u32le b.fpr32).reverse))
      else .error .structError := by
  have htake : b.bits.take b.bloomLength = b.bits := List.take_of_length_le (by simp [Bloom.bloomLength, hlen])
  rw [Bloom.exportHex_eq, htake]
  exact map_pack_spec Gen.bloomFooterHex rfl _ _ _ (bloomFooter_range b.est b.fpr32 b.count)

theorem C06_reader_bloom (b : Bloom) (file : Bytes) (key : Key)
    (hlen : b.bits.length = Bloom.lengthOf b.m) (hm : 0 < b.m)
    (h : b.exportBytes = .ok file) :
    b.checkAlt (defaultFnv key b.k) = .ok (Spec.refReaderBloom b.k b.m file key.units) := by
  rw [C06_bloom_footer] at h
  split at h
  · injection h with h; subst h
    unfold Bloom.checkAlt
    rw [Bloom.checkGo_ok _ _ _ _ (by rw [C18.C18_len_default]; exact Nat.le_refl _)]
    rw [List.take_of_length_le (by rw [C18.C18_len_default]; exact Nat.le_refl _), defaultFnv_spec]
    unfold Spec.refReaderBloom Spec.bloomPositions
    rw [List.all_map, List.all_map]
    congr 2
    funext i
    simp only [Function.comp_def]
    have hp : Spec.hashI key.units i % b.m / 8 < b.bits.length := by
      rw [hlen]; exact index_in_range (Nat.mod_lt _ hm)
    exact (bitOfFile_append _ _ _ hp).symm
  · cases h

theorem C06_reader_bloom_iff (b : Bloom) (file : Bytes) (key : Key)
    (hlen : b.bits.length = Bloom.lengthOf b.m) (hm : 0 < b.m)
    (h : b.exportBytes = .ok file) :
    Spec.refReaderBloom b.k b.m file key.units = true ↔ b.checkAlt (defaultFnv key b.k) = .ok true := by
  rw [C06_reader_bloom b file key hlen hm h]
  constructor
  · intro h; rw [h]
  · intro h; injection h

def bloomRun (est fpr32 k m : Nat) (keys : List Key) : Bloom :=
  keys.foldl (fun b key => (b.addAlt (defaultFnv key k)).1) (Bloom.new est fpr32 k m)

theorem C06_writer_bloom (est fpr32 k m : Nat) (keys : List Key)
    (he : est < 2 ^ 64) (hf : fpr32 < 2 ^ 32) (hn : keys.length < 2 ^ 64) :
    (bloomRun est fpr32 k m keys).exportBytes =
      .ok (Spec.refWriterBloom est fpr32 k m (keys.map Key.units)) := by
  unfold bloomRun
  rw [bloomRun_eq k m keys (Bloom.new est fpr32 k m) rfl rfl, C06_bloom_footer]
  simp only [Bloom.new, Int.zero_add]
  rw [if_pos ⟨he, by omega, by omega, hf⟩]
  simp [Spec.refWriterBloom, Bloom.lengthOf, Gen.bloomBitsPerElm]

/-- m uint32 LE counters, then the Bloom footer -/
theorem C06_cbf_file (c : CBF) (hcells : ∀ x ∈ c.cells, 0 ≤ x ∧ x ≤ 4294967295) :
    c.exportBytes =
      if c.est < 2 ^ 64 ∧ 0 ≤ c.count ∧ c.count < 2 ^ 64 ∧ c.fpr32 < 2 ^ 32
      then .ok (Spec.cbfFile (c.cells.map Int.toNat) c.est c.count.toNat c.fpr32)
      else .error .structError := by
  rw [CBF.exportBytes_eq, cellsBytes_spec .u32 _ hcells]
  unfold Spec.cbfFile
  rw [List.flatMap_map]
  exact map_pack_spec Gen.bloomFooter rfl _ _ _ (bloomFooter_range c.est c.fpr32 c.count)

theorem C06_cbf_cell_addressing (c : CBF) (file : Bytes) (p : Nat)
    (hcells : ∀ x ∈ c.cells, 0 ≤ x ∧ x ≤ 4294967295) (hp : p < c.cells.length)
    (h : c.exportBytes = .ok file) :
    c.cells.getD p 0 = (Spec.rdU32 file (4 * p) : Int) := by
  rw [C06_cbf_file c hcells] at h
  split at h
  · injection h with h; subst h
    unfold Spec.cbfFile
    rw [rdU32_cells _ _ p (by simpa using hp)]
    · have := hcells c.cells[p] (List.getElem_mem hp)
      simp only [List.getD_eq_getElem?_getD, List.getElem?_map, List.getElem?_eq_getElem hp, Option.map_some,
        Option.getD_some]
      omega
    · intro x hx
      simp only [List.mem_map] at hx
      obtain ⟨v, hv, rfl⟩ := hx
      have := hcells v hv
      omega
  · cases h

theorem C06_reader_cbf (c : CBF) (file : Bytes) (key : Key)
    (hlen : c.cells.length = c.m) (hm : 0 < c.m)
    (hcells : ∀ x ∈ c.cells, 0 ≤ x ∧ x ≤ 4294967295)
    (h : c.exportBytes = .ok file) :
    c.checkAlt (defaultFnv key c.k) =
      match Spec.refReaderCbf c.k c.m file key.units with
      | some v => .ok (v : Int)
      | none => .error .valueError := by
  have hcell : ∀ x : Nat, c.cells.getD (x % c.m) 0 = (Spec.rdU32 file (4 * (x % c.m)) : Int) := fun x =>
    C06_cbf_cell_addressing c file _ hcells (by rw [hlen]; exact Nat.mod_lt _ hm) h
  have hpos : Spec.bloomPositions c.k c.m key.units = ((List.range c.k).map (Spec.hashI key.units)).map (· % c.m) := by
    simp [Spec.bloomPositions, List.map_map, Function.comp_def]
  unfold CBF.checkAlt Spec.refReaderCbf
  rw [defaultFnv_spec, hpos]
  cases (List.range c.k).map (Spec.hashI key.units) with
  | nil => rfl
  | cons x xs =>
      simp only [List.map_cons, CBF.minList, hcell, natCast_foldl_min, List.map_map]
      rfl

def cbfRun (est fpr32 k m : Nat) (keys : List Key) : CBF :=
  keys.foldl (fun c key => (c.addAlt (defaultFnv key k) 1).1) (CBF.new est fpr32 k m)

/-- positions that coincide within a key are incremented once per hash, as the library does -/
theorem C06_writer_cbf (est fpr32 k m : Nat) (keys : List Key)
    (he : est < 2 ^ 64) (hf : fpr32 < 2 ^ 32) (hn : keys.length < 2 ^ 64) :
    (cbfRun est fpr32 k m keys).exportBytes =
      .ok (Spec.refWriterCbf est fpr32 k m (keys.map Key.units)) := by
  have h0 : CellsOK (List.replicate m 0) := by
    intro x hx; rw [(List.mem_replicate.mp hx).2]; omega
  have hinv := foldl_keys_incrI k m (keys.map Key.units) (List.replicate m 0) h0
  unfold cbfRun
  rw [cbfRun_eq k m keys (CBF.new est fpr32 k m) rfl rfl (by simp [CBF.new]) h0 (by simp only [CBF.new]; omega)]
  have hcells : ∀ x : Int, x ∈ _ → 0 ≤ x ∧ x ≤ 4294967295 := hinv.1
  rw [C06_cbf_file _ hcells]
  simp only [CBF.new, Int.zero_add]
  rw [if_pos ⟨he, by omega, by omega, hf⟩, hinv.2]
  simp [Spec.refWriterCbf]

/-- int32 LE counters, then uint32 LE width, uint32 LE depth, int64 LE elements_added
    (`Gen.cmsFooter` "IIq" has no padding: 16 bytes) -/
theorem C06_cms_file_flat (c : CMS) (hbins : ∀ x ∈ c.bins, -2147483648 ≤ x ∧ x ≤ 2147483647) :
    c.exportBytes =
      if c.w < 2 ^ 32 ∧ c.d < 2 ^ 32 ∧ -9223372036854775808 ≤ c.total ∧ c.total ≤ 9223372036854775807
      then .ok (Spec.cmsFileFlat c.w c.d c.bins c.total)
      else .error .structError := by
  rw [CMS.exportBytes_eq, cellsBytes_spec .i32 _ hbins]
  exact map_pack_spec Gen.cmsFooter rfl _ _ _ (cmsFooter_range c.w c.d c.total)

theorem C06_cms_file (c : CMS) (hlen : c.bins.length = c.w * c.d)
    (hbins : ∀ x ∈ c.bins, -2147483648 ≤ x ∧ x ≤ 2147483647) :
    c.exportBytes =
      if c.w < 2 ^ 32 ∧ c.d < 2 ^ 32 ∧ -9223372036854775808 ≤ c.total ∧ c.total ≤ 9223372036854775807
      then .ok (Spec.cmsFile c.w c.d (fun i j => c.bins.getD (i * c.w + j) 0) c.total)
      else .error .structError := by
  rw [C06_cms_file_flat c hbins]
  unfold Spec.cmsFileFlat Spec.cmsFile
  rw [flatMap_rows c.w c.d c.bins Spec.i32le hlen]

theorem C06_cms_footer_length (w d : Nat) (t : Int) : (Spec.cmsFooter w d t).length = 16 := rfl

theorem C06_cms_cell_addressing (c : CMS) (file : Bytes) (i j : Nat)
    (hlen : c.bins.length = c.w * c.d)
    (hbins : ∀ x ∈ c.bins, -2147483648 ≤ x ∧ x ≤ 2147483647)
    (hi : i < c.d) (hj : j < c.w)
    (h : c.exportBytes = .ok file) :
    c.bins.getD (i * c.w + j) 0 = Spec.rdI32 file (4 * (i * c.w + j)) := by
  rw [C06_cms_file_flat c hbins] at h
  split at h
  · injection h with h; subst h
    unfold Spec.cmsFileFlat
    rw [rdI32_cells _ _ _ (by rw [hlen, Nat.add_comm]; exact CmsCore.row_col_lt hi hj) hbins]
  · cases h

theorem C06_cms_file_inv (c : CMS) (file : Bytes)
    (hbins : ∀ x ∈ c.bins, -2147483648 ≤ x ∧ x ≤ 2147483647) (h : c.exportBytes = .ok file) :
    file = Spec.cmsFileFlat c.w c.d c.bins c.total ∧
      -9223372036854775808 ≤ c.total ∧ c.total ≤ 9223372036854775807 := by
  rw [C06_cms_file_flat c hbins] at h
  split at h
  · rename_i hr
    injection h with h
    exact ⟨h.symm, hr.2.2⟩
  · cases h

/-- reference reader, min query (`CountMinSketch`) -/
theorem C06_reader_cms_min (c : CMS) (file : Bytes) (key : Key)
    (hmode : c.mode = .min)
    (hlen : c.bins.length = c.w * c.d) (hw : 0 < c.w)
    (hbins : ∀ x ∈ c.bins, -2147483648 ≤ x ∧ x ≤ 2147483647)
    (h : c.exportBytes = .ok file) :
    c.checkAlt (defaultFnv key c.d) =
      match Spec.refReaderCmsMin c.w c.d file key.units with
      | some v => .ok v
      | none => .error .indexError := by
  obtain ⟨rfl, -⟩ := C06_cms_file_inv c file hbins h
  rw [cms_check_default c key hlen hw (BinsOK_iff.mpr hbins), ← cmsSorted_head]
  unfold CMS.query
  simp only [hmode]
  cases Spec.cmsSorted c.w c.d (Spec.cmsFileFlat c.w c.d c.bins c.total) key.units <;> rfl

/-- reference reader, mean query (`CountMeanSketch`) -/
theorem C06_reader_cms_mean (c : CMS) (file : Bytes) (key : Key)
    (hmode : c.mode = .mean)
    (hlen : c.bins.length = c.w * c.d) (hw : 0 < c.w)
    (hbins : ∀ x ∈ c.bins, -2147483648 ≤ x ∧ x ≤ 2147483647)
    (h : c.exportBytes = .ok file) :
    c.checkAlt (defaultFnv key c.d) =
      match Spec.refReaderCmsMean c.w c.d file key.units with
      | some v => .ok v
      | none => .error .zeroDivision := by
  obtain ⟨rfl, -⟩ := C06_cms_file_inv c file hbins h
  rw [cms_check_default c key hlen hw (BinsOK_iff.mpr hbins)]
  unfold CMS.query Spec.refReaderCmsMean
  simp only [hmode, cmsSorted_sum]
  by_cases hd : c.d = 0
  · simp [hd]
  · simp [hd]

/-- reference reader, mean-min query (`CountMeanMinSketch`); `elements_added` comes from the
    file's footer -/
theorem C06_reader_cms_meanmin (c : CMS) (file : Bytes) (key : Key)
    (hmode : c.mode = .meanMin)
    (hlen : c.bins.length = c.w * c.d) (hw : 0 < c.w)
    (hbins : ∀ x ∈ c.bins, -2147483648 ≤ x ∧ x ≤ 2147483647)
    (h : c.exportBytes = .ok file) :
    c.checkAlt (defaultFnv key c.d) =
      match Spec.refReaderCmsMeanMin c.w c.d file key.units with
      | some v => .ok v
      | none => if c.d = 0 then .error .indexError else .error .zeroDivision := by
  obtain ⟨rfl, ht0, ht1⟩ := C06_cms_file_inv c file hbins h
  rw [cms_check_default c key hlen hw (BinsOK_iff.mpr hbins)]
  unfold Spec.refReaderCmsMeanMin
  rw [rdI64_cmsFile c.w c.d c.bins c.total hlen ht0 ht1]
  have hl := cmsSorted_length c.w c.d (Spec.cmsFileFlat c.w c.d c.bins c.total) key.units
  generalize Spec.cmsSorted c.w c.d (Spec.cmsFileFlat c.w c.d c.bins c.total) key.units = s at hl
  unfold CMS.query
  simp only [hmode]
  cases s with
  | nil =>
      have hd : c.d = 0 := hl.symm
      simp only [List.head?_nil, hd, if_true]
  | cons x xs =>
      have hd : c.d ≠ 0 := by rw [← hl]; exact Nat.succ_ne_zero _
      cases hlast : (x :: xs).getLast? with
      | none => exact absurd (List.getLast?_eq_none_iff.mp hlast) (List.cons_ne_nil _ _)
      | some y =>
          simp only [List.head?_cons, CMS.sortInts, beq_iff_eq, Bool.and_eq_true, hd, if_false]
          by_cases hz : x = 0 ∧ y = 0
          · rw [if_pos hz, if_pos hz]
          · rw [if_neg hz, if_neg hz]
            by_cases hw1 : c.w = 1
            · rw [if_pos hw1, if_pos hw1]
            · -- both sides index the same sorted list of `d` corrected counters, inside its bounds
              rw [if_neg hw1, if_neg hw1]
              clear hz hw1 hlast ht0 ht1 hw
              have hmm : (((x :: xs).map fun t => t - (c.total - t) / ((c.w : Int) - 1)).mergeSort
                  fun a b => decide (a ≤ b)).length = c.d := by rw [List.length_mergeSort, List.length_map, hl]
              generalize ((x :: xs).map fun t => t - (c.total - t) / ((c.w : Int) - 1)).mergeSort
                  (fun a b => decide (a ≤ b)) = mm at hmm
              have h1 : c.d / 2 < mm.length := by
                rw [hmm]
                exact Nat.div_lt_self (Nat.pos_of_ne_zero hd) (by decide)
              have get : ∀ i, i < mm.length → mm[i]? = some (mm.getD i 0) := fun i hi => by
                rw [List.getD_eq_getElem?_getD, List.getElem?_eq_getElem hi]
                rfl
              by_cases hev : c.d % 2 = 0
              · rw [if_pos hev, if_pos hev, get _ h1, get _ (Nat.lt_of_le_of_lt (Nat.sub_le _ _) h1)]
                exact if_neg (by omega)
              · rw [if_neg hev, if_neg hev, get _ h1]

def cmsRun (w d : Nat) (mode : Mode) (keys : List Key) : CMS :=
  keys.foldl (fun c key => (c.addAlt (defaultFnv key d) 1).1) (CMS.new w d mode)

theorem C06_writer_cms (w d : Nat) (mode : Mode) (keys : List Key)
    (hw0 : 0 < w) (hw : w < 2 ^ 32) (hd : d < 2 ^ 32) (hn : keys.length ≤ 9223372036854775807) :
    (cmsRun w d mode keys).exportBytes = .ok (Spec.refWriterCms w d (keys.map Key.units)) := by
  have h0 : BinsOK (List.replicate (w * d) 0) := by
    intro x hx; rw [(List.mem_replicate.mp hx).2]; omega
  unfold cmsRun
  rw [cmsRun_eq w d hw0 keys (CMS.new w d mode) rfl rfl (by simp [CMS.new]) h0 (by simp only [CMS.new]; omega)]
  rw [C06_cms_file_flat _ (BinsOK_iff.mp (cms_keys_range w d _ _ h0))]
  simp only [CMS.new, Int.zero_add]
  rw [if_pos ⟨hw, hd, by omega, by omega⟩]
  simp [Spec.refWriterCms]

/-- per sub-filter uint64 LE count then its bits; then the 28-byte footer
    (`Gen.expFooter` "QQQf": no padding) -/
theorem C06_expanding_file (e : Expanding)
    (hcounts : ∀ b ∈ e.blooms, 0 ≤ b.count ∧ b.count < 2 ^ 64)
    (hsize : e.blooms.length < 2 ^ 64) (hest : e.est < 2 ^ 64) (hfpr : e.fpr32 < 2 ^ 32)
    (ha0 : 0 ≤ e.added) (ha1 : e.added < 2 ^ 64) :
    e.exportBytes =
      .ok (Spec.expandingFile (e.blooms.map fun b => (b.count.toNat, b.bits)) e.est e.added.toNat e.fpr32) := by
  rw [Expanding.exportBytes_eq, expanding_go_spec _ hcounts]
  refine (map_pack_spec Gen.expFooter rfl _ _ _ (expFooter_range _ e.est e.fpr32 e.added)).trans ?_
  rw [if_pos ⟨hsize, hest, ha0, ha1, hfpr⟩]
  simp [Spec.expandingFile]
  rfl

theorem C06_rotating_file (r : Rotating)
    (hcounts : ∀ b ∈ r.blooms, 0 ≤ b.count ∧ b.count < 2 ^ 64)
    (hsize : r.blooms.length < 2 ^ 64) (hest : r.est < 2 ^ 64) (hfpr : r.fpr32 < 2 ^ 32)
    (ha0 : 0 ≤ r.added) (ha1 : r.added < 2 ^ 64) :
    r.toExpanding.exportBytes =
      .ok (Spec.expandingFile (r.blooms.map fun b => (b.count.toNat, b.bits)) r.est r.added.toNat r.fpr32) :=
  C06_expanding_file r.toExpanding hcounts hsize hest hfpr ha0 ha1

theorem C06_expanding_error (e : Expanding)
    (h : (∃ b ∈ e.blooms, ¬ (0 ≤ b.count ∧ b.count < 2 ^ 64)) ∨
      ¬ (e.blooms.length < 2 ^ 64 ∧ e.est < 2 ^ 64 ∧ 0 ≤ e.added ∧ e.added < 2 ^ 64 ∧ e.fpr32 < 2 ^ 32)) :
    e.exportBytes = .error .structError := by
  rw [Expanding.exportBytes_eq]
  by_cases hc : ∃ b ∈ e.blooms, ¬ (0 ≤ b.count ∧ b.count < 2 ^ 64)
  · rw [expanding_go_error _ hc]
    rfl
  · rcases h with h | h
    · exact absurd h hc
    · rw [expanding_go_spec _ (by intro b hb; exact Classical.not_not.mp (fun hn => hc ⟨b, hb, hn⟩))]
      exact (map_pack_spec Gen.expFooter rfl _ _ _ (expFooter_range _ e.est e.fpr32 e.added)).trans (if_neg h)

def expandingRun (est fpr32 k m : Nat) (keys : List Key) : Expanding :=
  keys.foldl (fun e key => (e.addAlt (defaultFnv key k) false).1) (Expanding.new est fpr32 k m)

def rotatingRun (est fpr32 k m q : Nat) (keys : List Key) : Rotating :=
  keys.foldl (fun r key => (r.addAlt (defaultFnv key k) false).1) (Rotating.new est fpr32 k m q)

private theorem writer_core (e : Expanding) (est fpr32 : Nat) (st : List Spec.Sub × Nat) (n : Nat)
    (habs : absE e = st) (hinv : ∀ b ∈ e.blooms, 0 ≤ b.count) (ha : 0 ≤ e.added)
    (hest : e.est = est) (hfpr : e.fpr32 = fpr32)
    (hb1 : ∀ s ∈ st.1, s.1 ≤ st.2) (hb2 : st.1.length ≤ st.2 + 1) (hb3 : st.2 = n)
    (he : est < 2 ^ 64) (hf : fpr32 < 2 ^ 32) (hn : n < 2 ^ 63) :
    e.exportBytes = .ok (Spec.expandingFile st.1 est st.2 fpr32) := by
  have h1 : e.blooms.map absB = st.1 := congrArg Prod.fst habs
  have h2 : e.added.toNat = st.2 := congrArg Prod.snd habs
  have hcounts : ∀ b ∈ e.blooms, 0 ≤ b.count ∧ b.count < 2 ^ 64 := by
    intro b hb
    have h0 := hinv b hb
    have : absB b ∈ st.1 := by rw [← h1]; exact List.mem_map_of_mem hb
    have := hb1 _ this
    simp only [absB] at this
    refine ⟨h0, ?_⟩
    omega
  have hsize : e.blooms.length < 2 ^ 64 := by
    have : e.blooms.length = st.1.length := by rw [← h1]; simp
    omega
  rw [C06_expanding_file e hcounts hsize (hest ▸ he) (hfpr ▸ hf) ha (by omega)]
  rw [← h1, h2, hest, hfpr]
  rfl

theorem C06_writer_expanding (est fpr32 k m : Nat) (keys : List Key)
    (he : est < 2 ^ 64) (hf : fpr32 < 2 ^ 32) (hn : keys.length < 2 ^ 63) :
    (expandingRun est fpr32 k m keys).exportBytes =
      .ok (Spec.refWriterExpanding est fpr32 k m (keys.map Key.units)) := by
  obtain ⟨r1, r2, r3, r4, r5⟩ := expanding_run est fpr32 k m keys (Expanding.new est fpr32 k m) rfl rfl rfl rfl
    (SubsInv_new est fpr32 k m) (Int.le_refl 0)
  rw [absE_new] at r1
  obtain ⟨b1, b2, b3⟩ := addStep_bound m _ (growExpanding_ok est m) k (keys.map Key.units) ([Spec.freshSub m], 0)
    ⟨by simp [Spec.freshSub], by simp⟩
  exact writer_core _ est fpr32 _ keys.length r1 (fun b hb => (r2.2 b hb).2) r3 r4 r5 b1 b2 (by simpa using b3)
    he hf hn

theorem C06_writer_rotating (est fpr32 k m q : Nat) (keys : List Key)
    (he : est < 2 ^ 64) (hf : fpr32 < 2 ^ 32) (hn : keys.length < 2 ^ 63) :
    (rotatingRun est fpr32 k m q keys).toExpanding.exportBytes =
      .ok (Spec.refWriterRotating est fpr32 k m q (keys.map Key.units)) := by
  obtain ⟨r1, r2, r3, r4, r5⟩ := rotating_run est fpr32 k m q keys (Rotating.new est fpr32 k m q) rfl rfl rfl rfl rfl
    (SubsInv_new est fpr32 k m) (Int.le_refl 0)
  rw [show absR (Rotating.new est fpr32 k m q) = _ from absE_new est fpr32 k m] at r1
  obtain ⟨b1, b2, b3⟩ := addStep_bound m _ (growRotating_ok est q m) k (keys.map Key.units) ([Spec.freshSub m], 0)
    ⟨by simp [Spec.freshSub], by simp⟩
  exact writer_core _ est fpr32 _ keys.length r1 (fun b hb => (r2.2 b hb).2) r3 r4 r5 b1 b2 (by simpa using b3)
    he hf hn

private theorem cuckoo_export_ok (c : Cuckoo)
    (hbins : ∀ bkt ∈ c.buckets, ∀ bin ∈ bkt, bin.1 < 2 ^ 32 ∧ bin.2 < 2 ^ 32)
    (hb : c.b < 2 ^ 32) (hs : c.maxSwaps < 2 ^ 32) :
    c.exportBytes =
      .ok (c.buckets.flatMap (bucketBytes c.counting c.b) ++ (Spec.u32le c.b ++ Spec.u32le c.maxSwaps)) := by
  have hfit : ¬ c.buckets.any (fun bkt => bkt.any fun bin => bin.1 ≥ 2 ^ 32 ∨ bin.2 ≥ 2 ^ 32) = true := by
    simp only [List.any_eq_true, decide_eq_true_eq, not_exists, not_and]
    intro bkt hbkt bin hbin
    have := hbins bkt hbkt bin hbin
    omega
  rw [Cuckoo.exportBytes_eq, if_neg hfit, cuckooFooter_pack, if_neg (by omega), if_neg (by omega)]
  simp only
  rw [leBytesInt4_nat (by omega) (by omega), leBytesInt4_nat (by omega) (by omega)]
  rfl

/-- plain cuckoo filter: `capacity * bucket_size` uint32 LE fingerprints, 0 = empty slot,
    every bucket padded, then uint32 LE bucket_size, uint32 LE max_swaps -/
theorem C06_cuckoo_file (c : Cuckoo) (hplain : c.counting = false)
    (hbins : ∀ bkt ∈ c.buckets, ∀ bin ∈ bkt, bin.1 < 2 ^ 32 ∧ bin.2 < 2 ^ 32)
    (hb : c.b < 2 ^ 32) (hs : c.maxSwaps < 2 ^ 32) :
    c.exportBytes = .ok (Spec.cuckooFile c.b c.maxSwaps (c.buckets.map fun bkt => bkt.map fun bin => bin.1)) := by
  rw [cuckoo_export_ok c hbins hb hs, hplain]
  simp only [Spec.cuckooFile, List.flatMap_map, List.append_assoc, List.length_map]
  congr 2
  exact flatMap_congr_left fun bkt _ => bucketBytes_plain_spec c.b bkt

/-- counting cuckoo filter: the slots are (uint32 LE fingerprint, uint32 LE count) pairs -/
theorem C06_counting_cuckoo_file (c : Cuckoo) (hcounting : c.counting = true)
    (hbins : ∀ bkt ∈ c.buckets, ∀ bin ∈ bkt, bin.1 < 2 ^ 32 ∧ bin.2 < 2 ^ 32)
    (hb : c.b < 2 ^ 32) (hs : c.maxSwaps < 2 ^ 32) :
    c.exportBytes = .ok (Spec.countingCuckooFile c.b c.maxSwaps c.buckets) := by
  rw [cuckoo_export_ok c hbins hb hs, hcounting]
  simp only [Spec.countingCuckooFile, List.append_assoc]
  congr 2
  exact flatMap_congr_left fun bkt _ => bucketBytes_counting_spec c.b bkt

theorem C06_cuckoo_overflow (c : Cuckoo)
    (h : ∃ bkt ∈ c.buckets, ∃ bin ∈ bkt, ¬ (bin.1 < 2 ^ 32 ∧ bin.2 < 2 ^ 32)) :
    c.exportBytes = .error .overflow := by
  rw [Cuckoo.exportBytes_eq, if_pos]
  simp only [List.any_eq_true, decide_eq_true_eq]
  obtain ⟨bkt, hbkt, bin, hbin, hbad⟩ := h
  exact ⟨bkt, hbkt, bin, hbin, by omega⟩

/-! ## test vectors; the hypotheses of the reader and writer theorems can be met

  The byte strings below are the output of the real library (`bytes(BloomFilter(10, 0.05))` with
  `b"a"`, `b"bc"` added; `CountMinSketch(width=7, depth=3)` with `b"a"`, `b"bc"`, `b"a"` added). -/

private def ka : Key := ⟨false, [97]⟩
private def kb : Key := ⟨false, [98, 99]⟩

/-- k = 4, m = 63 for est 10, rate 0.05 -/
example : Spec.refWriterBloom 10 1028443341 4 63 [[97], [98, 99]] =
    [8, 162, 0, 129, 0, 8, 0, 32, 10, 0, 0, 0, 0, 0, 0, 0, 2, 0, 0, 0, 0, 0, 0, 0, 205, 204, 76, 61] := by decide +kernel
example : (bloomRun 10 1028443341 4 63 [ka, kb]).exportBytes =
    .ok [8, 162, 0, 129, 0, 8, 0, 32, 10, 0, 0, 0, 0, 0, 0, 0, 2, 0, 0, 0, 0, 0, 0, 0, 205, 204, 76, 61] :=
  (C06_writer_bloom 10 1028443341 4 63 [ka, kb] (by decide) (by decide) (by decide)).trans (by rfl)
example : Spec.refReaderBloom 4 63 (Spec.refWriterBloom 10 1028443341 4 63 [[97], [98, 99]]) [97] = true := by decide +kernel
example : Spec.refReaderBloom 4 63 (Spec.refWriterBloom 10 1028443341 4 63 [[97], [98, 99]]) [100] = false := by decide +kernel
example : (bloomRun 10 1028443341 4 63 [ka, kb]).checkAlt (defaultFnv ka 4) = .ok true := by
  have h := C06_writer_bloom 10 1028443341 4 63 [ka, kb] (by decide) (by decide) (by decide)
  have hb : (bloomRun 10 1028443341 4 63 [ka, kb]).bits.length = Bloom.lengthOf 63 := by decide +kernel
  have := C06_reader_bloom _ _ ka hb (by decide) h
  exact this.trans (congrArg Except.ok (by decide +kernel))

example : Spec.refWriterCms 7 3 [[97], [98, 99], [97]] =
    [0, 0, 0, 0, 1, 0, 0, 0, 0, 0, 0, 0, 0, 0, 0, 0, 0, 0, 0, 0, 2, 0, 0, 0, 0, 0, 0, 0, 0, 0, 0, 0, 1, 0, 0, 0,
     0, 0, 0, 0, 2, 0, 0, 0, 0, 0, 0, 0, 0, 0, 0, 0, 0, 0, 0, 0, 0, 0, 0, 0, 0, 0, 0, 0, 0, 0, 0, 0, 3, 0, 0, 0,
     0, 0, 0, 0, 0, 0, 0, 0, 0, 0, 0, 0, 7, 0, 0, 0, 3, 0, 0, 0, 3, 0, 0, 0, 0, 0, 0, 0] := by decide +kernel
example : (cmsRun 7 3 .min [ka, kb, ka]).exportBytes = .ok (Spec.refWriterCms 7 3 [[97], [98, 99], [97]]) :=
  C06_writer_cms 7 3 .min [ka, kb, ka] (by decide) (by decide) (by decide) (by decide)
example : Spec.refReaderCmsMin 7 3 (Spec.refWriterCms 7 3 [[97], [98, 99], [97]]) [97] = some 2 := by decide +kernel
example : Spec.refReaderCmsMean 7 3 (Spec.refWriterCms 7 3 [[97], [98, 99], [97]]) [97] = some 2 := by decide +kernel
example : Spec.refReaderCmsMin 7 3 (Spec.refWriterCms 7 3 [[97], [98, 99], [97]]) [120] = some 0 := by decide +kernel
example : (cmsRun 7 3 .meanMin [ka, kb, ka]).checkAlt (defaultFnv ka 3) =
    match Spec.refReaderCmsMeanMin 7 3 (Spec.refWriterCms 7 3 [[97], [98, 99], [97]]) [97] with
    | some v => .ok v
    | none => .error .zeroDivision :=
  C06_reader_cms_meanmin (cmsRun 7 3 .meanMin [ka, kb, ka]) _ ka rfl (by decide) (by decide) (by decide)
    (C06_writer_cms 7 3 .meanMin [ka, kb, ka] (by decide) (by decide) (by decide) (by decide))

example : (cbfRun 10 1028443341 3 5 [ka, kb, ka]).exportBytes =
    .ok (Spec.refWriterCbf 10 1028443341 3 5 [[97], [98, 99], [97]]) :=
  C06_writer_cbf 10 1028443341 3 5 [ka, kb, ka] (by decide) (by decide) (by decide)
example : Spec.refReaderCbf 3 5 (Spec.refWriterCbf 10 1028443341 3 5 [[97], [98, 99], [97]]) [97] = some 2 := by decide +kernel

/-- `ExpandingBloomFilter(3, 0.05)` after a, bc, d, a, e, f — one expansion; `RotatingBloomFilter(2,
    0.05, max_queue_size=2)` after a, bc, d, a, e, f, g — the oldest sub-filter was dropped -/
example : Spec.refWriterExpanding 3 1028443341 4 19 [[97], [98, 99], [100], [97], [101], [102]] =
    [3, 0, 0, 0, 0, 0, 0, 0, 177, 61, 1, 2, 0, 0, 0, 0, 0, 0, 0, 108, 135, 0, 2, 0, 0, 0, 0, 0, 0, 0,
     3, 0, 0, 0, 0, 0, 0, 0, 6, 0, 0, 0, 0, 0, 0, 0, 205, 204, 76, 61] := by decide +kernel
example : Spec.refWriterRotating 2 1028443341 5 13 2 [[97], [98, 99], [100], [97], [101], [102], [103]] =
    [2, 0, 0, 0, 0, 0, 0, 0, 71, 23, 2, 0, 0, 0, 0, 0, 0, 0, 221, 9, 2, 0, 0, 0, 0, 0, 0, 0,
     2, 0, 0, 0, 0, 0, 0, 0, 7, 0, 0, 0, 0, 0, 0, 0, 205, 204, 76, 61] := by decide +kernel
example : (expandingRun 3 1028443341 4 19 [ka, kb, ⟨false, [100]⟩, ka, ⟨false, [101]⟩, ⟨false, [102]⟩]).exportBytes =
    .ok (Spec.refWriterExpanding 3 1028443341 4 19 [[97], [98, 99], [100], [97], [101], [102]]) :=
  C06_writer_expanding 3 1028443341 4 19 _ (by decide) (by decide) (by decide)

/-- hand-made states: odd bit count, negative counters, partially filled buckets -/
example : (⟨10, 1028443341, 3, 13, [0x25, 0x11], 2⟩ : Bloom).exportBytes =
    .ok (Spec.bloomFile 13 (fun i => i ∈ [0, 2, 5, 8, 12]) 10 2 1028443341) := by rfl
example : (⟨2, 3, [1, -2147483648, 0, 2147483647, -1, 5], -7, .mean⟩ : CMS).exportBytes =
    .ok (Spec.cmsFile 2 3 (fun i j => [[1, -2147483648], [0, 2147483647], [-1, 5]][i]![j]!) (-7)) := by rfl
example : (⟨false, 3, 2, 500, 2, true, 8, [[(7, 1)], [], [(255, 1), (1, 1)]], 3, 0⟩ : Cuckoo).exportBytes =
    .ok (Spec.cuckooFile 2 500 [[7], [], [255, 1]]) := by rfl
example : (⟨true, 3, 2, 500, 2, true, 8, [[(7, 4)], [], [(255, 1), (1, 9)]], 14, 3⟩ : Cuckoo).exportBytes =
    .ok (Spec.countingCuckooFile 2 500 [[(7, 4)], [], [(255, 1), (1, 9)]]) := by rfl
example : (⟨10, 1028443341, 3, 13, [⟨10, 1028443341, 3, 13, [0xff, 0x1f], 10⟩, ⟨10, 1028443341, 3, 13, [1, 0], 1⟩], 11⟩
      : Expanding).exportBytes =
    .ok (Spec.expandingFile [(10, [0xff, 0x1f]), (1, [1, 0])] 10 11 1028443341) := by rfl

/-! ### the geometry a C reader re-derives from the footer

    The documented C library derives `(number_hashes, number_bits)` from the footer's
    `(estimated_elements, false_positive_rate)` with the double literals `0.4804530139182` (ln²2,
    truncated) and `0.6931471805599453`.  The reference readers above take `(k, m)` as inputs; this
    obligation closes the gap on the Lean side: the constants the Python source sizes with (the
    extraction evaluates constant expressions such as `math.log(2.0) ** 2`) ARE the documented doubles,
    bit for bit.  Any other value changes some geometry: `math.log(2.0)**2` gives 19332643 instead of
    19332644 bits at est = 2648873, p = 0.03. -/
theorem C06_sizing_constants_documented :
    Gen.bloomLn2SqBits = 4602326691975710069 ∧   -- the double 0.4804530139182
    Gen.bloomLn2Bits = 4604418534313441775 :=    -- the double 0.6931471805599453
  ⟨rfl, rfl⟩

end PyProb.C06
