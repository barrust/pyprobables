/-
  C01 — Bloom filters never report an added key as absent.

  Proved here, about `Model/Bloom.lean` (`Bloom`) and `Model/Expanding.lean` (`Expanding`), for every
  geometry `m ≥ 1`, every `k`, every hash strategy and every history:
  * `Bloom.new` is well formed, `add_alt`/`clear`/`union` preserve well-formedness;
  * `add_alt hs` followed by `check_alt hs` answers present (`hs` at least `k` long);
  * set bits stay set, a present answer stays present under any later `add_alt` (also one that
    raises IndexError half-way because its hash list is too short) and under `union` with any
    filter and any estimator;
  * for every sequence of add / union / query / clear: every hash list (resp. key, through an
    arbitrary strategy `H` with `(H key d).length ≥ d`) added since the last `clear` is present;
    `clear` does forget (a cleared filter reports nothing when `k ≥ 1`);
  * for the expanding filter: for every sequence of `add_alt hs force` / `push`, every hash list
    ever added is present afterwards, whatever growth events happened.

  Not proved here: export/load and reopen round trips (C05/C11), the rotating filter (it forgets by
  design).  The hash lists themselves are arbitrary: `H` is a parameter.
-/
import PyProb.Lemmas.BloomOps
import PyProb.Lemmas.ExpandingOps

namespace PyProb.C01
open PyProb

abbrev WF (b : Bloom) : Prop := b.WF

theorem C01_wf_iff (b : Bloom) : WF b ↔ b.bits.length = (b.m + 7) / 8 ∧ 0 < b.m := Iff.rfl

theorem C01_lengthOf (m : Nat) : Bloom.lengthOf m = (m + 7) / 8 := Bloom.lengthOf_eq m

theorem C01_new_wf (est fpr k m : Nat) (hm : 0 < m) : WF (Bloom.new est fpr k m) :=
  Bloom.new_wf est fpr k m hm

theorem C01_addAlt_wf (b : Bloom) (hs : List Nat) (hw : WF b) :
    WF (b.addAlt hs).1 ∧ (b.addAlt hs).1.k = b.k ∧ (b.addAlt hs).1.m = b.m :=
  ⟨Bloom.addAlt_wf b hs hw, Bloom.addAlt_k b hs, Bloom.addAlt_m b hs⟩

theorem C01_clear_wf (b : Bloom) (hw : WF b) : WF b.clear := Bloom.clear_wf b hw

theorem C01_add_then_check (b : Bloom) (hs : List Nat) (hw : WF b) (hl : b.k ≤ hs.length) :
    (b.addAlt hs).1.checkAlt hs = .ok true ∧ (b.addAlt hs).2 = none :=
  ⟨Bloom.checkAlt_addAlt_self b hs hw hl, Bloom.addAlt_err_of_le b hs hl⟩

theorem C01_add_short (b : Bloom) (hs : List Nat) (hl : hs.length < b.k) :
    (b.addAlt hs).2 = some .indexError ∧ (b.addAlt hs).1.count = b.count := by
  rw [Bloom.addAlt_err, Bloom.addAlt_count]; simp [hl]

theorem C01_check_short (b : Bloom) (hs : List Nat) (hl : hs.length < b.k) :
    b.checkAlt hs = .error .indexError ∨ b.checkAlt hs = .ok false :=
  Bloom.checkGo_short _ _ _ _ hl

theorem C01_addAlt_bits (b : Bloom) (hs : List Nat) (hw : WF b) (j : Nat) :
    testBitB (b.addAlt hs).1.bits j = (decide (j ∈ b.positions hs) || testBitB b.bits j) :=
  Bloom.testBitB_addAlt b hs j hw

theorem C01_bit_mono (b : Bloom) (hs : List Nat) (hw : WF b) (j : Nat) (h : testBitB b.bits j = true) :
    testBitB (b.addAlt hs).1.bits j = true := Bloom.testBitB_addAlt_mono b hs j hw h

theorem C01_check_mono (b : Bloom) (hs hs' : List Nat) (hw : WF b) (h : b.checkAlt hs = .ok true) :
    (b.addAlt hs').1.checkAlt hs = .ok true := Bloom.checkAlt_addAlt_mono b hs hs' hw h

private theorem union_keeps (est : Estimator) (a b r x : Bloom) (same : Bool) (hw : WF a)
    (hu : Bloom.union est a b same = some r) (xk : x.k = a.k) (xm : x.m = a.m)
    (hx : ∀ p, testBitB x.bits p = true → (testBitB a.bits p || testBitB b.bits p) = true)
    (hs : List Nat) (h : x.checkAlt hs = .ok true) : r.checkAlt hs = .ok true := by
  obtain ⟨_, hk, hm, _, _, _⟩ := Bloom.union_eq_some est a b r same hu
  rw [Bloom.checkAlt_true_iff] at h ⊢
  rw [hk, ← xk]
  refine ⟨h.1, fun p hp => ?_⟩
  have hp' : p ∈ x.positions hs := by simpa [Bloom.positions, hk, hm, xk, xm] using hp
  have hlt : p < 8 * a.bloomLength :=
    Bloom.pos_lt_bits _ _ (by rw [← xm]; exact Bloom.positions_lt x hs (by rw [xm]; exact hw.2) p hp')
  rw [Bloom.testBitB_union est a b r same hu p hlt]
  exact hx p (h.2 p hp')

theorem C01_union_left (est : Estimator) (a b r : Bloom) (same : Bool) (hw : WF a)
    (hu : Bloom.union est a b same = some r) (hs : List Nat) (h : a.checkAlt hs = .ok true) :
    r.checkAlt hs = .ok true :=
  union_keeps est a b r a same hw hu rfl rfl (fun p hp => by rw [hp]; rfl) hs h

theorem C01_union_right (est : Estimator) (a b r : Bloom) (same : Bool) (hw : WF a)
    (hu : Bloom.union est a b same = some r) (hs : List Nat) (h : b.checkAlt hs = .ok true) :
    r.checkAlt hs = .ok true := by
  obtain ⟨ek, em, _⟩ := (Bloom.similar_iff a b same).1 (Bloom.union_eq_some est a b r same hu).1
  exact union_keeps est a b r b same hw hu ek.symm em.symm (fun p hp => by rw [hp, Bool.or_true]) hs h

theorem C01_union_wf (est : Estimator) (a b r : Bloom) (same : Bool) (hw : WF a)
    (hu : Bloom.union est a b same = some r) : WF r ∧ r.k = a.k ∧ r.m = a.m := by
  obtain ⟨_, hk, hm, _⟩ := Bloom.union_eq_some est a b r same hu
  exact ⟨Bloom.union_wf est a b r same hw.2 hu, hk, hm⟩

theorem C01_clear_forgets (b : Bloom) (hs : List Nat) (hk : 0 < b.k) : b.clear.checkAlt hs ≠ .ok true := by
  intro h
  obtain ⟨hl, hb⟩ := (Bloom.checkAlt_true_iff _ _).1 h
  obtain ⟨n, hn⟩ : ∃ n, b.k = n + 1 := Nat.exists_eq_succ_of_ne_zero (Nat.ne_of_gt hk)
  cases hs with
  | nil => exact absurd hl (Nat.not_le.mpr hk)
  | cons x xs =>
      -- `k ≥ 1`: the first hash is looked up, in an array of zero bytes
      have := hb (x % b.m) (by show _ ∈ ((x :: xs).take b.k).map _; rw [hn]; exact List.mem_cons_self)
      rw [show b.clear.bits = List.replicate _ 0 from rfl, testBitB_replicate_zero] at this
      cases this

/-- operations on a filter: `add_alt` with any hash list (a short one raises half-way), rebinding
    the filter to its union with another one, a query, `clear()` -/
inductive Op
  | add (hs : List Nat)
  | union (other : Bloom) (sameProbe : Bool)
  | query (hs : List Nat)
  | clear

def step (est : Estimator) (b : Bloom) : Op → Bloom
  | .add hs => (b.addAlt hs).1
  | .union o same => match Bloom.union est b o same with | some r => r | none => b
  | .query _ => b
  | .clear => b.clear

def run (est : Estimator) (b : Bloom) (ops : List Op) : Bloom := ops.foldl (step est) b

def live (acc : List (List Nat)) : Op → List (List Nat)
  | .add hs => hs :: acc
  | .clear => []
  | _ => acc

def addedSinceLastClear (ops : List Op) : List (List Nat) := ops.foldl live []

private theorem step_inv (est : Estimator) (b : Bloom) (op : Op) (L : List (List Nat)) (hw : WF b)
    (hL : ∀ hs ∈ L, b.k ≤ hs.length → b.checkAlt hs = .ok true) :
    WF (step est b op) ∧ (step est b op).k = b.k ∧
      ∀ hs ∈ live L op, b.k ≤ hs.length → (step est b op).checkAlt hs = .ok true := by
  cases op with
  | add hs' =>
      refine ⟨Bloom.addAlt_wf b hs' hw, Bloom.addAlt_k b hs', fun hs hm hl => ?_⟩
      rcases List.mem_cons.1 hm with e | hm
      · subst e; exact Bloom.checkAlt_addAlt_self b hs hw hl
      · exact Bloom.checkAlt_addAlt_mono b hs hs' hw (hL hs hm hl)
  | union o same =>
      simp only [step, live]
      cases hu : Bloom.union est b o same with
      | none => exact ⟨hw, rfl, hL⟩
      | some r =>
          obtain ⟨w, k, _⟩ := C01_union_wf est b o r same hw hu
          exact ⟨w, k, fun hs hm hl => C01_union_left est b o r same hw hu hs (hL hs hm hl)⟩
  | query _ => exact ⟨hw, rfl, hL⟩
  | clear => exact ⟨Bloom.clear_wf b hw, rfl, fun hs hm => by simp [live] at hm⟩

private theorem run_inv (est : Estimator) (b : Bloom) (ops : List Op) (L : List (List Nat)) (hw : WF b)
    (hL : ∀ hs ∈ L, b.k ≤ hs.length → b.checkAlt hs = .ok true) :
    WF (run est b ops) ∧ (run est b ops).k = b.k ∧
      ∀ hs ∈ ops.foldl live L, b.k ≤ hs.length → (run est b ops).checkAlt hs = .ok true := by
  refine foldl_invariant₂ (step est) live
    (fun b' L' => WF b' ∧ b'.k = b.k ∧ ∀ hs ∈ L', b.k ≤ hs.length → b'.checkAlt hs = .ok true) ops b L
    ⟨hw, rfl, hL⟩ fun b' L' ⟨w, k, h⟩ op _ => ?_
  obtain ⟨w', k', h'⟩ := step_inv est b' op L' w (by rw [k]; exact h)
  exact ⟨w', k'.trans k, by rw [k] at h'; exact h'⟩

theorem C01_run_wf (est : Estimator) (b₀ : Bloom) (ops : List Op) (hw : WF b₀) :
    WF (run est b₀ ops) ∧ (run est b₀ ops).k = b₀.k := by
  obtain ⟨w, k, _⟩ := run_inv est b₀ ops [] hw (by simp)
  exact ⟨w, k⟩

/-- **C01** on hash lists: after any sequence of operations on a well-formed filter, every hash
    list (of at least `k` hashes) added since the last `clear` is reported present -/
theorem C01_bloom (est : Estimator) (b₀ : Bloom) (ops : List Op) (hw : WF b₀) (hs : List Nat)
    (hmem : hs ∈ addedSinceLastClear ops) (hl : b₀.k ≤ hs.length) :
    (run est b₀ ops).checkAlt hs = .ok true :=
  (run_inv est b₀ ops [] hw (by simp)).2.2 hs hmem hl

theorem C01_bloom_keeps (est : Estimator) (b₀ : Bloom) (ops : List Op) (hw : WF b₀) (hs : List Nat)
    (h0 : b₀.checkAlt hs = .ok true) (hnc : ∀ op ∈ ops, op ≠ Op.clear) :
    (run est b₀ ops).checkAlt hs = .ok true :=
  (run_inv est b₀ ops [hs] hw (fun x hx _ => by rw [List.mem_singleton.1 hx]; exact h0)).2.2 hs
    (foldl_invariant live (hs ∈ ·) ops [hs] (List.mem_singleton_self hs) fun L hL op hop => by
      cases op with
      | add hs' => exact List.mem_cons_of_mem _ hL
      | clear => exact absurd rfl (hnc _ hop)
      | _ => exact hL)
    ((Bloom.checkAlt_true_iff b₀ hs).1 h0).1

inductive KOp
  | add (key : Key)
  | union (other : Bloom) (sameProbe : Bool)
  | query (key : Key)
  | clear

/-- `add(key)` is `add_alt(self.hashes(key))`, `check(key)` is `check_alt(self.hashes(key))` -/
def KOp.toOp (H : Key → Nat → List Nat) (k : Nat) : KOp → Op
  | .add key => .add (H key k)
  | .union o s => .union o s
  | .query key => .query (H key k)
  | .clear => .clear

def liveK (acc : List Key) : KOp → List Key
  | .add key => key :: acc
  | .clear => []
  | _ => acc

def keysAddedSinceLastClear (ops : List KOp) : List Key := ops.foldl liveK []

/-- **C01** on keys: for every hash strategy `H` that returns at least `depth` values, every
    key added since the last `clear` is reported present after any history -/
theorem C01_bloom_keys (H : Key → Nat → List Nat) (hH : ∀ key d, d ≤ (H key d).length)
    (est : Estimator) (b₀ : Bloom) (ops : List KOp) (hw : WF b₀) (key : Key)
    (hmem : key ∈ keysAddedSinceLastClear ops) :
    (run est b₀ (ops.map (KOp.toOp H b₀.k))).checkAlt (H key b₀.k) = .ok true := by
  apply C01_bloom est b₀ _ hw _ _ (hH key b₀.k)
  have hm := List.mem_map_of_mem (f := (H · b₀.k)) hmem
  rw [keysAddedSinceLastClear, ← foldl_map_comm (List.map (H · b₀.k)) (KOp.toOp H b₀.k) liveK live
    (fun _ op => by cases op <;> rfl)] at hm
  exact hm

abbrev WFE (e : Expanding) : Prop := e.WF

theorem C01_wfe_iff (e : Expanding) :
    WFE e ↔ 0 < e.m ∧ e.blooms ≠ [] ∧ ∀ b ∈ e.blooms, WF b ∧ b.k = e.k ∧ b.m = e.m := Iff.rfl

theorem C01_expanding_new_wf (est fpr k m : Nat) (hm : 0 < m) : WFE (Expanding.new est fpr k m) :=
  Expanding.new_wf est fpr k m hm

inductive EOp
  | add (hs : List Nat) (force : Bool)
  | push

def estep (e : Expanding) : EOp → Expanding
  | .add hs force => (e.addAlt hs force).1
  | .push => e.push

def erun (e : Expanding) (ops : List EOp) : Expanding := ops.foldl estep e

def eadded : List EOp → List (List Nat)
  | [] => []
  | .add hs _ :: ops => hs :: eadded ops
  | .push :: ops => eadded ops

private theorem erun_inv (e : Expanding) (ops : List EOp) (hw : WFE e) :
    WFE (erun e ops) ∧ (erun e ops).k = e.k ∧
      (∀ hs, Reports e.blooms hs → Reports (erun e ops).blooms hs) ∧
      (∀ hs ∈ eadded ops, e.k ≤ hs.length → Reports (erun e ops).blooms hs) := by
  induction ops generalizing e with
  | nil => exact ⟨hw, rfl, fun _ h => h, fun hs hm => nomatch hm⟩
  | cons op ops ih =>
      cases op with
      | add hs' f =>
          obtain ⟨a, b, c, d⟩ := Expanding.addAlt_spec e hs' f hw
          obtain ⟨a', b', c', d'⟩ := ih (e.addAlt hs' f).1 a
          refine ⟨a', b'.trans b, fun hs h => c' hs (c hs h), fun hs hm hl => ?_⟩
          rcases List.mem_cons.1 hm with rfl | hm
          · exact c' hs (d hl)
          · exact d' hs hm (by rw [b]; exact hl)
      | push =>
          obtain ⟨a, b, c⟩ := Expanding.push_spec e hw
          obtain ⟨a', b', c', d'⟩ := ih e.push a
          exact ⟨a', b'.trans b, fun hs h => c' hs (c hs h), fun hs hm hl => d' hs hm (by rw [b]; exact hl)⟩

theorem C01_expanding_run_wf (e₀ : Expanding) (ops : List EOp) (hw : WFE e₀) :
    WFE (erun e₀ ops) ∧ (erun e₀ ops).k = e₀.k :=
  ⟨(erun_inv e₀ ops hw).1, (erun_inv e₀ ops hw).2.1⟩

/-- **C01** for the expanding filter: after any sequence of `add_alt(hs, force)` and `push()`
    — hence any number of growth events — every hash list ever added is reported present -/
theorem C01_expanding (e₀ : Expanding) (ops : List EOp) (hw : WFE e₀) (hs : List Nat)
    (hmem : hs ∈ eadded ops) (hl : e₀.k ≤ hs.length) :
    (erun e₀ ops).checkAlt hs = .ok true := by
  obtain ⟨a, b, _, d⟩ := erun_inv e₀ ops hw
  exact (Expanding.checkAlt_iff _ hs a (by rw [b]; exact hl)).2 (d hs hmem hl)

theorem C01_expanding_keeps (e₀ : Expanding) (ops : List EOp) (hw : WFE e₀) (hs : List Nat)
    (hl : e₀.k ≤ hs.length) (h0 : e₀.checkAlt hs = .ok true) : (erun e₀ ops).checkAlt hs = .ok true := by
  obtain ⟨a, b, c, _⟩ := erun_inv e₀ ops hw
  exact (Expanding.checkAlt_iff _ hs a (by rw [b]; exact hl)).2
    (c hs ((Expanding.checkAlt_iff e₀ hs hw hl).1 h0))

theorem C01_expanding_keys (H : Key → Nat → List Nat) (hH : ∀ key d, d ≤ (H key d).length)
    (e₀ : Expanding) (hw : WFE e₀) (ops : List (Option (Key × Bool))) (key : Key) (force : Bool)
    (hmem : some (key, force) ∈ ops) :
    (erun e₀ (ops.map fun o => match o with
        | some (key, f) => EOp.add (H key e₀.k) f
        | none => EOp.push)).checkAlt (H key e₀.k) = .ok true := by
  apply C01_expanding e₀ _ hw _ _ (hH key e₀.k)
  induction ops with
  | nil => cases hmem
  | cons o ops ih =>
      rcases List.mem_cons.1 hmem with e1 | hm
      · subst e1; simp [eadded]
      · cases o with
        | none => simpa [eadded] using ih hm
        | some p => simp only [List.map_cons, eadded]; exact List.mem_cons_of_mem _ (ih hm)

/-- two bytes, not a multiple of 8 -/
example : WF (Bloom.new 5 0 3 10) := C01_new_wf 5 0 3 10 (by decide)

example :
    let ops := [Op.add [3, 14, 25], .clear, .add [7, 19, 1000], .add [1], .add [9, 9, 9, 9],
      .union ((Bloom.new 5 0 3 10).addAlt [4, 5, 6]).1 true, .query [1, 2, 3]]
    [7, 19, 1000] ∈ addedSinceLastClear ops ∧
    (run (fun _ _ _ => 0) (Bloom.new 5 0 3 10) ops).checkAlt [7, 19, 1000] = .ok true ∧
    (run (fun _ _ _ => 0) (Bloom.new 5 0 3 10) ops).checkAlt [4, 5, 6] = .ok true ∧
    (run (fun _ _ _ => 0) (Bloom.new 5 0 3 10) ops).checkAlt [3, 14, 25] = .ok false ∧
    (run (fun _ _ _ => 0) (Bloom.new 5 0 3 10) ops).bits = [243, 2] := by
  intro ops
  have h : run (fun _ _ _ => 0) (Bloom.new 5 0 3 10) ops = ⟨5, 0, 3, 10, [243, 2], 0⟩ := by
    decide +kernel
  rw [h]
  exact ⟨by decide, rfl, rfl, rfl, rfl⟩

/-- the hypothesis on the hash strategy is satisfiable (the default strategy returns exactly `depth` values) -/
example :
    let H : Key → Nat → List Nat := fun key d => (List.range d).map (· * 7 + key.units.length)
    (∀ key d, d ≤ (H key d).length) ∧
    (run (fun _ _ _ => 0) (Bloom.new 5 0 3 10)
      ([KOp.add ⟨true, [104, 105]⟩, .add ⟨false, [1]⟩].map (KOp.toOp H 3))).checkAlt (H ⟨true, [104, 105]⟩ 3)
      = .ok true := by
  refine ⟨by intro key d; simp, ?_⟩
  exact C01_bloom_keys _ (by intro key d; simp) _ _ _ (C01_new_wf 5 0 3 10 (by decide)) _ (by decide)

example :
    let ops := [EOp.add [3, 14, 25] false, .add [7, 19, 1000] false, .push, .add [1, 2, 3] true,
      .add [3, 14, 25] false, .add [40, 41, 42] false, .add [55, 66, 77] false]
    WFE (Expanding.new 2 0 3 10) ∧ (erun (Expanding.new 2 0 3 10) ops).blooms.length = 3 ∧
    (erun (Expanding.new 2 0 3 10) ops).checkAlt [3, 14, 25] = .ok true := by
  refine ⟨C01_expanding_new_wf 2 0 3 10 (by decide), by decide, rfl⟩

end PyProb.C01
