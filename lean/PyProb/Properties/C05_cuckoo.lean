/-
  C05 — export followed by load reproduces the structure: cuckoo and counting cuckoo filters.  The
  overview of the whole property, with the hypotheses and what they mean, is in `Properties/C05.lean`.
-/
import PyProb.Lemmas.FormatsCuckoo
import PyProb.Lemmas.CuckooAcct
import PyProb.Properties.C15

namespace PyProb.C05
open PyProb

/-- `tsum wCnt` and `tsum wOne` on a bare list of buckets: what `load`, which has no counters to read,
    recomputes `elements_added` and `unique_elements` from -/
def binCount (bks : List (List CBin)) : Nat := (bks.map fun bkt => (bkt.map (·.2)).sum).sum
def binNumber (bks : List (List CBin)) : Nat := (bks.map List.length).sum

/-- the table part of the cuckoo well-formedness: implied by the table invariant of reachable
    states (property C15) together with "no stored fingerprint is 0" -/
structure CuckooTableWF (c : Cuckoo) : Prop where
  cap : c.buckets.length = c.cap
  bpos : 0 < c.b
  bkts : ∀ bkt ∈ c.buckets, bkt.length ≤ c.b ∧
    ∀ bin ∈ bkt, 0 < bin.1 ∧ (c.counting = false → bin.2 = 1)

structure CuckooWF (c : Cuckoo) : Prop extends CuckooTableWF c where
  count : c.count = (binCount c.buckets : Int)
  unique : c.unique = if c.counting then (binNumber c.buckets : Int) else 0

/-- everything fits its 32-bit field (otherwise `export` raises) -/
structure CuckooFits (c : Cuckoo) : Prop where
  blt : c.b < 2 ^ 32
  swaps : c.maxSwaps < 2 ^ 32
  bins : ∀ bkt ∈ c.buckets, ∀ bin ∈ bkt, bin.1 < 2 ^ 32 ∧ bin.2 < 2 ^ 32

private theorem cuckoo_export_congr {c c' : Cuckoo} (h1 : c'.counting = c.counting) (h2 : c'.b = c.b)
    (h3 : c'.maxSwaps = c.maxSwaps) (h4 : c'.buckets = c.buckets) : c'.exportBytes = c.exportBytes := by
  rw [Cuckoo.exportBytes_eq, Cuckoo.exportBytes_eq, h1, h2, h3, h4]

theorem C05_cuckoo_export_ok (c : Cuckoo) (fits : CuckooFits c) : ∃ bytes, c.exportBytes = .ok bytes := by
  have h1 := fits.blt; have h2 := fits.swaps
  rw [Cuckoo.exportBytes_eq, if_neg]
  · rw [cuckooFooter_pack, if_neg (by omega), if_neg (by omega)]
    exact ⟨_, rfl⟩
  · simp only [List.any_eq_true, decide_eq_true_eq, not_exists, not_and]
    intro bkt hbkt bin hbin
    have := fits.bins bkt hbkt bin hbin
    omega

theorem C05_cuckoo_export_fits (c : Cuckoo) (bytes : Bytes) (h : c.exportBytes = .ok bytes) : CuckooFits c := by
  rw [Cuckoo.exportBytes_eq] at h
  split at h
  · cases h
  · rename_i hany
    rw [cuckooFooter_pack] at h
    have hbins : ∀ bkt ∈ c.buckets, ∀ bin ∈ bkt, bin.1 < 2 ^ 32 ∧ bin.2 < 2 ^ 32 := by
      simp only [List.any_eq_true, decide_eq_true_eq, not_exists, not_and] at hany
      intro bkt hbkt bin hbin
      have := hany bkt hbkt bin hbin
      omega
    by_cases h1 : (c.b : Int) < 0 ∨ (c.b : Int) > 4294967295
    · rw [if_pos h1] at h; cases h
    · by_cases h2 : (c.maxSwaps : Int) < 0 ∨ (c.maxSwaps : Int) > 4294967295
      · rw [if_neg h1, if_pos h2] at h; cases h
      · exact ⟨by omega, by omega, hbins⟩

/-- the two element counters are recomputed from the table; what the format does not store (`rate`,
    `auto`, `fpBits`, and which of the two classes) comes from the `template` the caller constructs -/
theorem C05_cuckoo_roundtrip_table (template c : Cuckoo) (bytes : Bytes) (wf : CuckooTableWF c)
    (ht : template.counting = c.counting)
    (h : c.exportBytes = .ok bytes) :
    Cuckoo.load template bytes =
      .ok { template with cap := c.cap, b := c.b, maxSwaps := c.maxSwaps, buckets := c.buckets,
                          count := (binCount c.buckets : Int),
                          unique := if c.counting then (binNumber c.buckets : Int) else 0 } := by
  have fits := C05_cuckoo_export_fits c bytes h
  have hbk : ∀ bkt ∈ c.buckets, bkt.length ≤ c.b ∧ ∀ bin ∈ bkt, BinOK c.counting bin := by
    intro bkt hbkt
    refine ⟨(wf.bkts bkt hbkt).1, fun bin hbin => ?_⟩
    have h1 := (wf.bkts bkt hbkt).2 bin hbin
    have h2 := fits.bins bkt hbkt bin hbin
    exact ⟨h1.1, h2.1, h2.2, h1.2⟩
  rw [Cuckoo.exportBytes_eq] at h
  split at h
  · cases h
  · split at h
    · rename_i f hf
      injection h with h; subst h
      have hfl : f.length = 8 := by rw [pack_length _ _ _ hf, cuckooFooter_size]
      have hbl := body_length c.counting c.b c.buckets (fun bkt hb => (wf.bkts bkt hb).1)
      have hbpos := wf.bpos
      unfold Cuckoo.load
      simp only [cuckooFooter_size, List.length_append, hfl, Nat.add_sub_cancel]
      rw [if_neg (by omega), List.drop_left, unpack_pack _ _ _ hf]
      simp only [Int.toNat_natCast]
      have hb0 : (c.b == 0) = false := by simp only [beq_eq_false_iff_ne, ne_eq]; omega
      simp only [hb0, Bool.false_eq_true, if_false, ht]
      have hcap : (c.buckets.flatMap (bucketBytes c.counting c.b)).length / (if c.counting = true then 8 else 4) / c.b
          = c.buckets.length := by
        rw [hbl, Nat.div_div_eq_div_mul]
        have : cuckooW c.counting = if c.counting = true then 8 else 4 := rfl
        rw [← this]
        exact Nat.mul_div_cancel _ (Nat.mul_pos (by unfold cuckooW; split <;> decide) hbpos)
      rw [hcap, parseBuckets_body c.counting c.b c.buckets f hbk, wf.cap]
      rfl
    · cases h

theorem C05_cuckoo_roundtrip (template c : Cuckoo) (bytes : Bytes) (wf : CuckooWF c)
    (ht : template.counting = c.counting)
    (h : c.exportBytes = .ok bytes) :
    Cuckoo.load template bytes =
      .ok { template with cap := c.cap, b := c.b, maxSwaps := c.maxSwaps, buckets := c.buckets,
                          count := c.count, unique := c.unique } := by
  rw [C05_cuckoo_roundtrip_table template c bytes wf.toCuckooTableWF ht h, wf.count, wf.unique]

theorem C05_cuckoo_roundtrip_self (c : Cuckoo) (bytes : Bytes) (wf : CuckooWF c)
    (h : c.exportBytes = .ok bytes) : Cuckoo.load c bytes = .ok c :=
  C05_cuckoo_roundtrip c c bytes wf rfl h

theorem C05_cuckoo_stable (template c : Cuckoo) (bytes : Bytes) (wf : CuckooTableWF c)
    (ht : template.counting = c.counting) (h : c.exportBytes = .ok bytes) :
    ∃ c', Cuckoo.load template bytes = .ok c' ∧ c'.exportBytes = .ok bytes := by
  exact ⟨_, C05_cuckoo_roundtrip_table template c bytes wf ht h, Eq.trans (cuckoo_export_congr ht rfl rfl rfl) h⟩

/-- the reloaded filter can be exported and reloaded again -/
theorem C05_cuckoo_loaded_wf (template c c' : Cuckoo) (bytes : Bytes) (wf : CuckooTableWF c)
    (ht : template.counting = c.counting) (h : c.exportBytes = .ok bytes)
    (hl : Cuckoo.load template bytes = .ok c') :
    CuckooWF c' ∧ c'.buckets = c.buckets ∧ c'.cap = c.cap ∧ c'.b = c.b ∧ c'.maxSwaps = c.maxSwaps ∧
      c'.rate = template.rate ∧ c'.auto = template.auto ∧ c'.fpBits = template.fpBits ∧
      c'.counting = template.counting := by
  rw [C05_cuckoo_roundtrip_table template c bytes wf ht h] at hl
  injection hl with hl
  subst hl
  refine ⟨⟨⟨wf.cap, wf.bpos, ?_⟩, rfl, ?_⟩, rfl, rfl, rfl, rfl, rfl, rfl, rfl, rfl⟩
  · intro bkt hbkt
    refine ⟨(wf.bkts bkt hbkt).1, fun bin hbin => ⟨((wf.bkts bkt hbkt).2 bin hbin).1, fun hc => ?_⟩⟩
    exact ((wf.bkts bkt hbkt).2 bin hbin).2 (ht.symm.trans hc)
  · show (if c.counting = true then _ else _) = if template.counting = true then _ else _
    rw [ht]

theorem C05_cuckoo_new_wf (counting : Bool) (cap b maxSwaps rate : Nat) (auto : Bool) (fpBits : Nat)
    (hb0 : 0 < b) :
    CuckooWF (Cuckoo.new counting cap b maxSwaps rate auto fpBits) := by
  refine ⟨⟨by simp [Cuckoo.new], hb0, ?_⟩, ?_, ?_⟩
  · intro bkt hbkt
    simp only [Cuckoo.new, List.mem_replicate] at hbkt
    rw [hbkt.2]; simp
  · simp [Cuckoo.new, binCount]
  · simp [Cuckoo.new, binNumber]

section Reachable
open PyProb.Cuckoo

theorem C05_cuckoo_wf_of_inv (G : Nat → Nat) (c : Cuckoo) (hinv : C15.Inv G c) (ha : Acct c) : CuckooWF c := by
  obtain ⟨hlen, _, hb, _, hsize, _, _, _, hplain⟩ := hinv
  refine ⟨⟨hlen, hb, ?_⟩, ?_, ?_⟩
  · intro bkt hbkt
    refine ⟨hsize bkt hbkt, fun bin hbin => ⟨?_, fun hc => hplain hc bin (List.mem_flatten.mpr ⟨bkt, hbkt, hbin⟩)⟩⟩
    have hst : stored c bin := List.mem_flatten.mpr ⟨bkt, hbkt, hbin⟩
    by_cases h0 : bin.1 = 0
    · have : 0 < tsum (isFp 0) c := (tsum_pos_iff _ _).mpr ⟨bin, hst, by simp [isFp, h0]⟩
      have := ha.fpPos
      omega
    · omega
  · rw [ha.count]; rfl
  · rw [ha.unique]
    unfold uInc binNumber
    rw [show tsum (fun _ => 1) c = _ from tsum_wOne c, List.length_flatten]
    split <;> simp

theorem C05_cuckoo_acct_init (counting : Bool) (cap b maxSwaps rate : Nat) (auto : Bool) (fpBits : Nat) :
    Acct (Cuckoo.new counting cap b maxSwaps rate auto fpBits) := acct_new _ _ _ _ _ _ _

theorem C05_cuckoo_acct_step (G : Nat → Nat) (c : Cuckoo) (op : C15.Op × List Nat)
    (hinv : C15.Inv G c) (ha : Acct c) : Acct (C15.step G c op) := by
  have hw := (C15.inv_iff_wf G c).mp hinv
  obtain ⟨op, oracle⟩ := op
  cases op with
  | add h => exact acct_add h oracle hw ha
  | remove h => exact acct_remove h hw ha
  | expand => exact acct_expand oracle hw ha

theorem C05_cuckoo_acct_run (G : Nat → Nat) (c : Cuckoo) (ops : List (C15.Op × List Nat))
    (hinv : C15.Inv G c) (ha : Acct c) : Acct (C15.run G c ops) :=
  C15.run_induction G Acct (C05_cuckoo_acct_step G) c ops hinv ha

/-- every state reachable from a fresh filter by any history of add / remove / expand (any second
    hash `G`, any oracles) that can be exported at all is reproduced exactly by loading its export -/
theorem C05_cuckoo_roundtrip_reachable (G : Nat → Nat) (counting : Bool) (cap b maxSwaps rate : Nat)
    (auto : Bool) (fpBits : Nat) (hcap : 0 < cap) (hb : 0 < b) (hrate : 0 < rate)
    (ops : List (C15.Op × List Nat)) (bytes : Bytes)
    (h : (C15.run G (Cuckoo.new counting cap b maxSwaps rate auto fpBits) ops).exportBytes = .ok bytes) :
    Cuckoo.load (C15.run G (Cuckoo.new counting cap b maxSwaps rate auto fpBits) ops) bytes =
      .ok (C15.run G (Cuckoo.new counting cap b maxSwaps rate auto fpBits) ops) := by
  have hinv0 := C15.C15_init G counting cap b maxSwaps rate auto fpBits hcap hb hrate
  have hinv := C15.C15_run G _ ops hinv0
  have ha := C05_cuckoo_acct_run G _ ops hinv0 (C05_cuckoo_acct_init counting cap b maxSwaps rate auto fpBits)
  exact C05_cuckoo_roundtrip_self _ bytes (C05_cuckoo_wf_of_inv G _ hinv ha) h

/-- the clause of C15 about loaded filters: what `load` builds from the export of a filter
    satisfying the table invariant satisfies the invariant (and the bookkeeping) again -/
theorem C05_cuckoo_loaded_inv (G : Nat → Nat) (template c c' : Cuckoo) (bytes : Bytes)
    (hinv : C15.Inv G c) (ha : Acct c) (ht : template.counting = c.counting) (hr : 0 < template.rate)
    (h : c.exportBytes = .ok bytes) (hl : Cuckoo.load template bytes = .ok c') :
    C15.Inv G c' ∧ Acct c' := by
  have wf := C05_cuckoo_wf_of_inv G c hinv ha
  rw [C05_cuckoo_roundtrip template c bytes wf ht h] at hl
  injection hl with hl
  subst hl
  obtain ⟨hlen, hcap, hb, _, hsize, hpos, hnd, hcnt, hplain⟩ := hinv
  refine ⟨⟨hlen, hcap, hb, hr, hsize, hpos, hnd, hcnt, ?_⟩, ⟨ha.fpPos, ha.count, ?_⟩⟩
  · intro hc; exact hplain (ht ▸ hc)
  · have hu := ha.unique
    unfold uInc at hu ⊢
    simp only [ht]
    exact hu

end Reachable

/-- partially filled buckets, an empty bucket, a full bucket -/
private def k3 : Cuckoo := ⟨false, 3, 2, 500, 2, true, 8, [[(7, 1)], [], [(255, 1), (1, 1)]], 3, 0⟩
example : CuckooWF k3 := ⟨⟨rfl, by decide, by decide⟩, by decide, by decide⟩
example : Cuckoo.load k3 (k3.exportBytes.toOption.getD []) = .ok k3 := by rfl

private def kc3 : Cuckoo := ⟨true, 3, 2, 500, 2, true, 8, [[(7, 4)], [], [(255, 1), (1, 9)]], 14, 3⟩
example : CuckooWF kc3 := ⟨⟨rfl, by decide, by decide⟩, by decide, by decide⟩
example : Cuckoo.load kc3 (kc3.exportBytes.toOption.getD []) = .ok kc3 := by rfl

/-- a reachable plain filter (kicks and a removal included) and a reachable counting filter -/
example :
    let c := C15.run (fun x => x / 3) (Cuckoo.new false 2 2 10 2 false 8)
      [(.add 5, [0, 1]), (.add 77, [1]), (.add 9, [1, 0, 1]), (.remove 5, []), (.add 300, []), (.add 1024, [0, 0, 1])]
    Cuckoo.load c (c.exportBytes.toOption.getD []) = .ok c :=
  C05_cuckoo_roundtrip_reachable _ false 2 2 10 2 false 8 (by decide) (by decide) (by decide) _ _ (by rfl)
example :
    let c := C15.run (fun x => x / 3) (Cuckoo.new true 2 1 10 2 true 8)
      [(.add 5, [0, 1]), (.add 5, []), (.add 9, [1, 0, 1]), (.add 7, [0, 1, 1, 0]), (.remove 5, []), (.expand, [])]
    Cuckoo.load c (c.exportBytes.toOption.getD []) = .ok c :=
  C05_cuckoo_roundtrip_reachable _ true 2 1 10 2 true 8 (by decide) (by decide) (by decide) _ _ (by rfl)

/-- the excluded case is real: a stored fingerprint 0 (`fingerprint` never returns 0, and neither does
    the library's `_generate_fingerprint_info`) reads back as an empty slot and is lost -/
example : (Cuckoo.load k3 (({ k3 with buckets := [[(0, 1)], [], []], count := 1 } : Cuckoo).exportBytes.toOption.getD [])).toOption.map
    (fun c => (c.buckets, c.count)) = some ([[], [], []], 0) := by rfl

end PyProb.C05
