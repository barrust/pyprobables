/-
  C11 — the backing file of an on-disk Bloom filter is always a valid, current export.

  Model: `Model/OnDisk.lean` — the file is a byte list, every operation a list of micro-steps
  (one byte store through the mapping, or the flushed 8-byte store of the count); a process kill can
  stop an operation between any two micro-steps (and only there: the tie compares the model's
  micro-step trace with the file contents observed at every executed source line of the library).

  Proved, for every geometry (m ≥ 1), every hash list and every history length:
   * every prefix of an `add` leaves a file of the documented shape with the original
     parameters, every previously set bit still set, and the stored count equal to the number of
     completed additions (the one in flight lagging until its last micro-step) — `C11_crash_points`;
   * such a file loads as a Bloom export with the original geometry — `C11_prefix_loads`;
   * a completed add refines the in-memory filter — `C11_add_refines`; hence after `close` the
     file is exactly the in-memory export — `C11_close_is_export`;
   * reopening the closed file restores parameters, count and bits — `C11_reopen`;
   * lifted to all histories of add / close+reopen — `C11_history`;
   * path names (`resolvePath`, `lookupPath` of the model): an absolute path designates the same file
     from every working directory, a relative one the file under the directory it is relative to —
     `C11_abs_path_any_cwd`, `C11_reopen_any_cwd`, `C11_rel_path`.
  Not modelled (named, not claimed): power loss / fsync ordering / torn multi-byte stores.
-/
import PyProb.Lemmas.OnDiskCore

namespace PyProb.C11
open PyProb OnDisk

/-- `stored` is the count currently recorded in the file -/
structure Shape (o : OnDisk) (bits : Bytes) (stored : Int) : Prop where
  file : o.file = fileOf bits o.est stored o.fpr32
  len : bits.length = (o.m + 7) / 8
  mpos : 0 < o.m

theorem countOffset_eq {o : OnDisk} {bits : Bytes} {c : Int} (h : Shape o bits c) :
    o.countOffset = bits.length + 8 := countOffset_fileOf o bits c h.file

theorem C11_create (est fpr32 k m : Nat) (hm : 0 < m) (he : est < 2 ^ 64) (hf : fpr32 < 2 ^ 32) :
    ∃ o, OnDisk.create est fpr32 k m = .ok o ∧ Shape o (List.replicate ((m + 7) / 8) 0) 0 ∧
      o.count = 0 ∧ o.est = est ∧ o.fpr32 = fpr32 ∧ o.k = k ∧ o.m = m := by
  refine ⟨⟨est, fpr32, k, m, 0, fileOf (List.replicate ((m + 7) / 8) 0) est 0 fpr32, false⟩, ?_,
    ⟨rfl, List.length_replicate, hm⟩, rfl, rfl, rfl, rfl, rfl⟩
  unfold OnDisk.create
  rw [footer_pack est fpr32 0 he (Int.le_refl 0) (by decide) hf]
  rfl

theorem prefixes_bitSteps (m est fpr : Nat) (c : Int) (hm : 0 < m) (ps : List Nat) (bits : Bytes)
    (hl : bits.length = (m + 7) / 8) :
    ∀ f ∈ prefixes (fileOf bits est c fpr) (bitSteps m (fileOf bits est c fpr) ps),
      ∃ qs, qs <+: ps ∧ f = fileOf (setAll m bits qs) est c fpr := by
  induction ps generalizing bits with
  | nil =>
      intro f hf
      exact ⟨[], List.nil_prefix, List.mem_singleton.mp hf⟩
  | cons p ps ih =>
      intro f hf
      have hb := pos_in_range hm hl p
      rw [bitSteps_fileOf_cons m bits est c fpr p ps hb, prefixes, storeByte_fileOf bits est c fpr _ hb,
        List.mem_cons] at hf
      rcases hf with rfl | hf
      · exact ⟨[], List.nil_prefix, rfl⟩
      · obtain ⟨qs, hq, e⟩ := ih _ ((setBitB_length _ _).trans hl) f hf
        exact ⟨p :: qs, (List.prefix_cons_inj p).mpr hq, e⟩

theorem applyAll_bitSteps (m est fpr : Nat) (c : Int) (hm : 0 < m) (ps : List Nat) (bits : Bytes)
    (hl : bits.length = (m + 7) / 8) :
    applyAll (fileOf bits est c fpr) (bitSteps m (fileOf bits est c fpr) ps) =
      fileOf (setAll m bits ps) est c fpr := by
  induction ps generalizing bits with
  | nil => rfl
  | cons p ps ih =>
      have hb := pos_in_range hm hl p
      rw [bitSteps_fileOf_cons m bits est c fpr p ps hb, applyAll, List.foldl_cons,
        storeByte_fileOf bits est c fpr _ hb]
      exact ih _ ((setBitB_length _ _).trans hl)

theorem addAlt_file (o : OnDisk) (bits : Bytes) (hs : List Nat) (h : Shape o bits o.count) :
    (o.addAlt hs).file = fileOf (setAll o.m bits (hs.take o.k)) o.est (o.count + 1) o.fpr32 := by
  show applyAll o.file (o.addSteps hs) = _
  rw [addSteps, applyAll_append_one, h.file, applyAll_bitSteps o.m o.est o.fpr32 o.count h.mpos _ bits h.len]
  simp only [updateStep, MicroStep.apply, countOffset_eq h]
  rw [← setAll_length o.m bits (hs.take o.k), patch_count]

theorem C11_crash_points (o : OnDisk) (bits : Bytes) (hs : List Nat) (h : Shape o bits o.count) :
    ∀ f ∈ prefixes o.file (o.addSteps hs),
      ∃ bits' c', f = fileOf bits' o.est c' o.fpr32 ∧ bits'.length = (o.m + 7) / 8 ∧
        (∀ j, testBitB bits j = true → testBitB bits' j = true) ∧
        (c' = o.count ∨ (c' = o.count + 1 ∧ f = (o.addAlt hs).file)) := by
  intro f hf
  unfold addSteps at hf
  rw [prefixes_append_one, List.mem_append] at hf
  rcases hf with hf | hf
  · rw [h.file] at hf
    obtain ⟨qs, _, e⟩ := prefixes_bitSteps o.m o.est o.fpr32 o.count h.mpos _ bits h.len f hf
    exact ⟨setAll o.m bits qs, o.count, e, (setAll_length _ _ _).trans h.len,
      fun j hj => setAll_mono _ _ _ h.mpos h.len j hj, Or.inl rfl⟩
  · have hf' : f = (o.addAlt hs).file := by
      rw [List.mem_singleton.mp hf]
      exact (applyAll_append_one _ _ _).symm
    exact ⟨setAll o.m bits (hs.take o.k), o.count + 1, hf'.trans (addAlt_file o bits hs h),
      (setAll_length _ _ _).trans h.len, fun j hj => setAll_mono _ _ _ h.mpos h.len j hj, Or.inr ⟨rfl, hf'⟩⟩

theorem C11_add_shape (o : OnDisk) (bits : Bytes) (hs : List Nat) (h : Shape o bits o.count) :
    Shape (o.addAlt hs) (setAll o.m bits (hs.take o.k)) (o.count + 1) ∧ (o.addAlt hs).count = o.count + 1 :=
  ⟨⟨addAlt_file o bits hs h, (setAll_length _ _ _).trans h.len, h.mpos⟩, rfl⟩

theorem view_of_shape {o : OnDisk} {bits : Bytes} {c : Int} (h : Shape o bits c) :
    o.view = ⟨o.est, o.fpr32, o.k, o.m, bits, o.count⟩ := by
  simp only [view, bloomLength, Bloom.lengthOf_eq]
  rw [h.file, ← h.len, take_fileOf]

theorem C11_add_refines (o : OnDisk) (bits : Bytes) (hs : List Nat) (h : Shape o bits o.count)
    (hk : o.k ≤ hs.length) : (o.addAlt hs).view = (o.view.addAlt hs).1 := by
  obtain ⟨hsh, _⟩ := C11_add_shape o bits hs h
  rw [view_of_shape hsh, view_of_shape h]
  have : ¬ hs.length < o.k := Nat.not_lt.mpr hk
  -- both set the positions `(hs.take k).map (· % m)`, one by one (`setAll_eq`)
  simp only [Bloom.addAlt, this, if_false, Bloom.positions, setAll_eq, addAlt]

theorem checkAlt_of_set {o : OnDisk} {bits : Bytes} {c : Int} (h : Shape o bits c) (hs : List Nat)
    (hk : o.k ≤ hs.length) (hp : ∀ x ∈ hs.take o.k, testBitB bits (x % o.m) = true) :
    o.checkAlt hs = .ok true := by
  unfold checkAlt
  rw [view_of_shape h]
  exact (Bloom.checkGo_true_iff o.m bits o.k hs).mpr ⟨hk, hp⟩

theorem C11_added_present (o : OnDisk) (bits : Bytes) (hs : List Nat) (h : Shape o bits o.count)
    (hk : o.k ≤ hs.length) : (o.addAlt hs).checkAlt hs = .ok true :=
  checkAlt_of_set (C11_add_shape o bits hs h).1 hs hk fun x hx => setAll_sets _ _ _ h.mpos h.len x hx

theorem C11_present_mono (o : OnDisk) (bits : Bytes) (hs hs' : List Nat) (h : Shape o bits o.count)
    (hk : o.k ≤ hs.length) (hp : ∀ x ∈ hs.take o.k, testBitB bits (x % o.m) = true) :
    (o.addAlt hs').checkAlt hs = .ok true :=
  checkAlt_of_set (C11_add_shape o bits hs' h).1 hs hk fun x hx => setAll_mono _ _ _ h.mpos h.len _ (hp x hx)

/-- that the loader re-derives the geometry from `(est, rate)` is what reload stability, C07, says -/
theorem C11_prefix_loads (geom : Geom) (est fpr k m : Nat) (bits : Bytes) (c : Int)
    (hg : geom est fpr = .ok (fpr, k, m)) (hl : bits.length = (m + 7) / 8)
    (he : est < 2 ^ 64) (hc0 : 0 ≤ c) (hc : c < 2 ^ 64) (hf : fpr < 2 ^ 32) :
    Bloom.load geom (fileOf bits est c fpr) = .ok ⟨est, fpr, k, m, bits, c⟩ := by
  unfold Bloom.load Bloom.ofFooter
  rw [footer_unpack bits est fpr c he hc0 hc hf]
  simp only [Int.toNat_natCast, hg, bloomCell_size, Nat.one_mul, Bloom.bloomLength, Bloom.lengthOf_eq, ← hl,
    take_fileOf]

theorem stored_of_shape {o : OnDisk} {bits : Bytes} (h : Shape o bits o.count) :
    patch o.file o.countOffset (leBytesInt 8 o.count) = o.file := by
  rw [countOffset_eq h, h.file, patch_count]

theorem C11_close_file (o : OnDisk) (bits : Bytes) (h : Shape o bits o.count) : o.close.file = o.file :=
  close_file_of_stored o (stored_of_shape h)

theorem C11_close_is_export (o : OnDisk) (bits : Bytes) (h : Shape o bits o.count)
    (he : o.est < 2 ^ 64) (hc0 : 0 ≤ o.count) (hc : o.count < 2 ^ 64) (hf : o.fpr32 < 2 ^ 32) :
    o.view.exportBytes = .ok o.close.file := by
  rw [C11_close_file o bits h, view_of_shape h, h.file]
  exact exportBytes_eq_fileOf _ he hc0 hc hf

theorem C11_reopen (geom : Geom) (o : OnDisk) (bits : Bytes) (h : Shape o bits o.count)
    (hg : geom o.est o.fpr32 = .ok (o.fpr32, o.k, o.m))
    (he : o.est < 2 ^ 64) (hc0 : 0 ≤ o.count) (hc : o.count < 2 ^ 64) (hf : o.fpr32 < 2 ^ 32) :
    OnDisk.reopen geom o.close.file = .ok { o with closed := false } := by
  rw [C11_close_file o bits h]
  unfold reopen
  rw [h.file, footer_unpack bits o.est o.fpr32 o.count he hc0 hc hf]
  simp only [Int.toNat_natCast, hg]

inductive Op
  | add (hs : List Nat)
  | cycle            -- close() and reopen the same file

/-- `geom` is the loader's geometry derivation -/
def step (geom : Geom) (o : OnDisk) : Op → OnDisk
  | .add hs => o.addAlt hs
  | .cycle => match OnDisk.reopen geom o.close.file with
      | .ok o' => o'
      | .error _ => o

def adds : List Op → Nat
  | [] => 0
  | .add _ :: r => adds r + 1
  | .cycle :: r => adds r

@[simp] theorem addAlt_est (o : OnDisk) (hs : List Nat) : (o.addAlt hs).est = o.est := rfl
@[simp] theorem addAlt_fpr32 (o : OnDisk) (hs : List Nat) : (o.addAlt hs).fpr32 = o.fpr32 := rfl
@[simp] theorem addAlt_k (o : OnDisk) (hs : List Nat) : (o.addAlt hs).k = o.k := rfl
@[simp] theorem addAlt_m (o : OnDisk) (hs : List Nat) : (o.addAlt hs).m = o.m := rfl
@[simp] theorem addAlt_count (o : OnDisk) (hs : List Nat) : (o.addAlt hs).count = o.count + 1 := rfl

structure Good (geom : Geom) (o₀ : OnDisk) (bits₀ : Bytes) (n : Nat) (o : OnDisk) : Prop where
  shape : ∃ bits, Shape o bits o.count ∧ (∀ j, testBitB bits₀ j = true → testBitB bits j = true)
  count : o.count = o₀.count + n
  est : o.est = o₀.est
  fpr : o.fpr32 = o₀.fpr32
  k : o.k = o₀.k
  m : o.m = o₀.m

theorem step_cycle (geom : Geom) (o : OnDisk) (bits : Bytes) (h : Shape o bits o.count)
    (hg : geom o.est o.fpr32 = .ok (o.fpr32, o.k, o.m))
    (he : o.est < 2 ^ 64) (hc0 : 0 ≤ o.count) (hc : o.count < 2 ^ 64) (hf : o.fpr32 < 2 ^ 32) :
    step geom o .cycle = { o with closed := false } := by
  unfold step
  rw [C11_reopen geom o bits h hg he hc0 hc hf]

theorem adds_cons (op : Op) (ops : List Op) : adds (op :: ops) = adds [op] + adds ops := by
  cases op with
  | add hs => exact Nat.add_comm _ _
  | cycle => exact (Nat.zero_add _).symm

theorem good_step (geom : Geom) (o : OnDisk) (bits : Bytes) (op : Op) (h : Shape o bits o.count)
    (hg : geom o.est o.fpr32 = .ok (o.fpr32, o.k, o.m))
    (he : o.est < 2 ^ 64) (hf : o.fpr32 < 2 ^ 32) (hc0 : 0 ≤ o.count) (hc : o.count < 2 ^ 64) :
    Good geom o bits (adds [op]) (step geom o op) := by
  cases op with
  | add hs =>
      exact ⟨⟨_, (C11_add_shape o bits hs h).1, fun j hj => setAll_mono _ _ _ h.mpos h.len j hj⟩,
        rfl, rfl, rfl, rfl, rfl⟩
  | cycle =>
      rw [step_cycle geom o bits h hg he hc0 hc hf]
      exact ⟨⟨bits, ⟨h.file, h.len, h.mpos⟩, fun _ hj => hj⟩, (Int.add_zero _).symm, rfl, rfl, rfl, rfl⟩

theorem Good.trans {geom : Geom} {o₀ o₁ o : OnDisk} {bits₀ : Bytes} {n k : Nat} (g₁ : Good geom o₀ bits₀ n o₁)
    (g₂ : ∀ bits₁, Shape o₁ bits₁ o₁.count → Good geom o₁ bits₁ k o) : Good geom o₀ bits₀ (n + k) o := by
  obtain ⟨⟨bits₁, h₁, mono₁⟩, c₁, e₁, f₁, k₁, m₁⟩ := g₁
  obtain ⟨⟨bits, hb, mono⟩, c₂, e₂, f₂, k₂, m₂⟩ := g₂ bits₁ h₁
  refine ⟨⟨bits, hb, fun j hj => mono j (mono₁ j hj)⟩, ?_, e₂.trans e₁, f₂.trans f₁, k₂.trans k₁, m₂.trans m₁⟩
  rw [c₂, c₁, Int.add_assoc, Int.natCast_add]

/-- after any sequence of adds and close/reopen cycles the file has the documented shape, the stored
    count is the in-memory count is the number of adds so far, the parameters are the original ones,
    and every bit ever set is still set -/
theorem C11_history (geom : Geom) (o₀ : OnDisk) (bits₀ : Bytes) (ops : List Op)
    (h : Shape o₀ bits₀ o₀.count) (hg : geom o₀.est o₀.fpr32 = .ok (o₀.fpr32, o₀.k, o₀.m))
    (he : o₀.est < 2 ^ 64) (hf : o₀.fpr32 < 2 ^ 32) (hc0 : 0 ≤ o₀.count)
    (hc : o₀.count + (adds ops : Int) < 2 ^ 64) :
    Good geom o₀ bits₀ (adds ops) (ops.foldl (step geom) o₀) := by
  induction ops generalizing o₀ bits₀ with
  | nil => exact ⟨⟨bits₀, h, fun _ hj => hj⟩, (Int.add_zero _).symm, rfl, rfl, rfl, rfl⟩
  | cons op ops ih =>
      rw [adds_cons] at hc
      rw [adds_cons, List.foldl_cons]
      have g₁ := good_step geom o₀ bits₀ op h hg he hf hc0
        (Int.lt_of_le_of_lt (Int.le_add_of_nonneg_right (Int.natCast_nonneg _)) hc)
      rw [Int.natCast_add, ← Int.add_assoc] at hc
      refine g₁.trans fun bits₁ h₁ => ih _ bits₁ h₁ ?_ ?_ ?_ ?_ ?_
      · rw [g₁.est, g₁.fpr, g₁.k, g₁.m]; exact hg
      · rw [g₁.est]; exact he
      · rw [g₁.fpr]; exact hf
      · rw [g₁.count]; exact Int.add_nonneg hc0 (Int.natCast_nonneg _)
      · rw [g₁.count]; exact hc

/-! The object keeps the *resolved* path it was created with; a later reopen names the file by an
    absolute path or by a path relative to the then-current directory.  The tie checks the real
    constructor against `resolvePath`/`lookupPath` (relative, absolute, `..`, other directories). -/

theorem C11_abs_path_any_cwd (cwd cwd' arg : PathC) :
    resolvePath cwd true arg = resolvePath cwd' true arg := rfl

theorem C11_reopen_any_cwd (fs : List (PathC × Nat)) (arg : PathC) (h : Nat)
    (hfs : lookupPath fs (resolvePath [] true arg) = some h) (cwd : PathC) :
    lookupPath fs (resolvePath cwd true arg) = some h := hfs

private theorem normPath_plain (acc l : PathC) (hl : ∀ c ∈ l, c ≠ "." ∧ c ≠ "..") :
    normPath acc l = acc.reverse ++ l := by
  induction l generalizing acc with
  | nil => simp [normPath]
  | cons c cs ih =>
      have hc := hl c List.mem_cons_self
      have : normPath acc (c :: cs) = normPath (c :: acc) cs := by
        rw [normPath]
        · exact fun e => hc.1 e
        · exact fun e => hc.2 e
      rw [this, ih _ (fun x hx => hl x (List.mem_cons_of_mem c hx)), List.reverse_cons, List.append_assoc]
      rfl

theorem C11_rel_path (cwd rel : PathC) (h1 : ∀ c ∈ cwd, c ≠ "." ∧ c ≠ "..") (h2 : ∀ c ∈ rel, c ≠ "." ∧ c ≠ "..") :
    resolvePath cwd false rel = cwd ++ rel := by
  unfold resolvePath
  simp only [Bool.false_eq_true, if_false]
  rw [normPath_plain [] (cwd ++ rel) (by
    intro c hc
    rcases List.mem_append.mp hc with h | h
    · exact h1 c h
    · exact h2 c h)]
  rfl

example : resolvePath ["w", "sub"] false ["..", "disk.blm"] = ["w", "disk.blm"] := rfl
example : lookupPath [(["w", "disk.blm"], 1)] (resolvePath ["elsewhere"] false ["disk.blm"]) = none := rfl

example : ∃ o, OnDisk.create 3 1036831949 2 10 = .ok o ∧ Shape o [0, 0] o.count := by
  obtain ⟨o, h1, h2, h3, _⟩ := C11_create 3 1036831949 2 10 (by decide) (by decide) (by decide)
  exact ⟨o, h1, by rw [h3]; exact h2⟩

/-- 10 bits, two hashes: the file before the call and after each of the three micro-steps (two
    byte stores, then the count) -/
example : (match OnDisk.create 3 1036831949 2 10 with
    | .ok o => (prefixes o.file (o.addSteps [3, 12])).length
    | .error _ => 0) = 4 := rfl

end PyProb.C11
