/-
  C19 — queries never change a structure; clear() returns it to its initial state.

  In the models a query is a function `State → Out`: it cannot change the state, so "queries are
  pure" has no content as a theorem about the model — on the Python code that half of the property
  is decided by the correspondence suites, which interleave every read-only call into their
  histories and compare the complete observation set afterwards.  What IS proved here:
   * `clear` of Bitarray, Bloom filter, counting Bloom filter, count-min sketch, heavy hitters and
     stream threshold equals the freshly constructed structure with the same parameters (the on-disk
     filter's `clear` is `C14_ondisk_clear_file`);
   * the read paths of the code that do write are mirrored with their write and shown to be no-ops:
     the on-disk filter's `export()`/`close()` rewrite the stored count with the value it already has.
-/
import PyProb.Model.CMS
import PyProb.Properties.C11

namespace PyProb.C19
open PyProb

theorem C19_bitarray_clear (b : Bitarray) (h : b.bytes.length = (b.size + 7) / 8) (hs : 0 < b.size) :
    Bitarray.new b.size = .ok b.clear := by
  rw [Bitarray.new, if_neg (Int.not_le.mpr (Int.natCast_pos.mpr hs)), Int.toNat_natCast, Bitarray.clear, h]

theorem C19_bloom_clear (b : Bloom) (h : b.bits.length = Bloom.lengthOf b.m) :
    b.clear = Bloom.new b.est b.fpr32 b.k b.m := by
  simp [Bloom.clear, Bloom.new, h]

theorem C19_cbf_clear (c : CBF) (h : c.cells.length = c.m) :
    c.clear = CBF.new c.est c.fpr32 c.k c.m := by
  simp [CBF.clear, CBF.new, h]

theorem C19_cms_clear (c : CMS) (h : c.bins.length = c.w * c.d) :
    c.clear = CMS.new c.w c.d c.mode := by
  simp [CMS.clear, CMS.new, h]

theorem C19_hh_clear (x : HH) (h : x.cms.bins.length = x.cms.w * x.cms.d) (hm : x.cms.mode = .min) :
    x.clear = HH.new x.cms.w x.cms.d x.num := by
  simp [HH.clear, HH.new, C19_cms_clear x.cms h, hm]

theorem C19_st_clear (x : ST) (h : x.cms.bins.length = x.cms.w * x.cms.d) (hm : x.cms.mode = .min) :
    x.clear = ST.new x.cms.w x.cms.d x.threshold := by
  simp [ST.clear, ST.new, C19_cms_clear x.cms h, hm]

theorem C19_bloom_clear_check (b : Bloom) (hs : List Nat) (h : b.bits.length = Bloom.lengthOf b.m) :
    b.clear.checkAlt hs = (Bloom.new b.est b.fpr32 b.k b.m).checkAlt hs := by
  rw [C19_bloom_clear b h]

/-- stored-count invariant of the on-disk filter (established by `create`/`reopen`, kept by `addAlt`,
    see C11): the 8 bytes at the count offset hold the in-memory count -/
def CountStored (o : OnDisk) : Prop :=
  patch o.file o.countOffset (leBytesInt 8 o.count) = o.file

theorem C19_ondisk_export_noop (o : OnDisk) (h : CountStored o) :
    (o.exportBytes).1.file = o.file ∧ (o.exportBytes).2 = o.file :=
  ⟨h, h⟩

theorem C19_ondisk_close_noop (o : OnDisk) (h : CountStored o) : o.close.file = o.file :=
  close_file_of_stored o h

example : (Bloom.new 10 0 3 20).bits.length = Bloom.lengthOf 20 := by decide
example : ((Bloom.new 10 0 3 20).addAlt [5, 9, 17]).1.clear = Bloom.new 10 0 3 20 := by decide
example : ∃ o, OnDisk.create 3 1036831949 2 10 = .ok o ∧ CountStored o := by
  obtain ⟨o, h1, h2, h3, _⟩ := C11.C11_create 3 1036831949 2 10 (by decide) (by decide) (by decide)
  exact ⟨o, h1, C11.stored_of_shape (by rw [h3]; exact h2)⟩

end PyProb.C19
