/-
  C10 — the rotating Bloom filter stays bounded and keeps the most recent insertions, for every
  `est ≥ 1`, queue limit `Q ≥ 1`, geometry and history.

  Histories are lists of `Op.add present hs force | Op.push | Op.pop`; the membership answer
  `present` is an ARBITRARY Boolean at every step (the real `add_alt`, which computes it with
  `check_alt`, is the special case `C10_api`).  Every `add` carries at least `k` hashes (`Op.ok`;
  otherwise the real code raises IndexError).  The theorems are stated from ANY state satisfying
  `Rotating.Inv Q` (`…_from`, e.g. a filter loaded with the same `Q`) and from `new`.
  * `C10_bounds`: `1 ≤ |queue| ≤ Q` and every sub-filter holds between 0 and `est` insertions.
  * `C10_window`, `C10_window_api`: a key is reported present immediately and for the next
    `(Q − 1)·est` effective insertions (any number of suppressed duplicates in between, no explicit
    `push`/`pop`); a test at the end shows that the bound cannot be improved.  `C10_window_filters`
    is the bookkeeping behind it: the receiving sub-filter stays in the queue, `i` places before the
    newest where `i` is the number of rotations since; "insertions never clear bits" is carried
    along the window by `Bloom.Ext.check` under `Expanding.Geo`, so nothing is assumed.
-/
import PyProb.Lemmas.RotatingCore
import PyProb.Lemmas.ExpandingOps

namespace PyProb.C10
open PyProb Rotating

inductive Op
  | add (present : Bool) (hs : List Nat) (force : Bool)
  | push
  | pop
  deriving DecidableEq, Repr

/-- an `add` that really inserts: forced, or the key was reported absent -/
def Op.effective : Op → Bool
  | .add p _ f => f || !p
  | _ => false

def Op.isAdd : Op → Bool
  | .add .. => true
  | _ => false

def Op.ok (k : Nat) : Op → Prop
  | .add _ hs _ => k ≤ hs.length
  | _ => True

instance (k : Nat) (op : Op) : Decidable (op.ok k) := by
  cases op <;> unfold Op.ok <;> infer_instance

/-- a refused `pop` (RotatingBloomFilterError) leaves the filter as it was -/
def step (r : Rotating) : Op → Rotating
  | .add p hs f => (r.addCore p hs f).1
  | .push => r.push
  | .pop => match r.pop with
      | .ok r' => r'
      | .error _ => r

def run (r : Rotating) (ops : List Op) : Rotating := ops.foldl step r

def effCount (ops : List Op) : Nat := ops.countP Op.effective

theorem C10_inv_def (Q : Nat) (r : Rotating) :
    r.Inv Q ↔ (1 ≤ r.est ∧ r.q = (Q : Int) ∧ r.blooms ≠ [] ∧ r.blooms.length ≤ Q ∧
      ∀ b ∈ r.blooms, 0 ≤ b.count ∧ b.count ≤ r.est ∧ b.k = r.k ∧ b.est = r.est) := Iff.rfl

theorem step_pop (P : Rotating → Prop) (r : Rotating) (h : P r) (hpop : ∀ r', r.pop = .ok r' → P r') :
    P (step r .pop) := by
  simp only [step]
  split
  · rename_i r' hp
    exact hpop r' hp
  · exact h

theorem step_static (r : Rotating) (op : Op) :
    (step r op).est = r.est ∧ (step r op).k = r.k ∧ (step r op).m = r.m ∧ (step r op).q = r.q := by
  cases op with
  | add p hs f =>
      obtain ⟨a, -, c, d, -, e⟩ := addCore_static r p hs f
      exact ⟨a, c, d, e⟩
  | push =>
      obtain ⟨a, -, c, d, -, e⟩ := push_static r
      exact ⟨a, c, d, e⟩
  | pop =>
      exact step_pop (fun s => s.est = r.est ∧ s.k = r.k ∧ s.m = r.m ∧ s.q = r.q) r ⟨rfl, rfl, rfl, rfl⟩
        (fun r' hp => (pop_ok r r' hp).2 ▸ ⟨rfl, rfl, rfl, rfl⟩)

theorem run_static (r : Rotating) (ops : List Op) :
    (run r ops).est = r.est ∧ (run r ops).k = r.k ∧ (run r ops).m = r.m ∧ (run r ops).q = r.q :=
  foldl_invariant step (fun s => s.est = r.est ∧ s.k = r.k ∧ s.m = r.m ∧ s.q = r.q) ops r
    ⟨rfl, rfl, rfl, rfl⟩ (fun s ⟨a, b, c, d⟩ op _ =>
      have ⟨a', b', c', d'⟩ := step_static s op
      ⟨a'.trans a, b'.trans b, c'.trans c, d'.trans d⟩)

theorem run_append (r : Rotating) (xs ys : List Op) : run r (xs ++ ys) = run (run r xs) ys := by
  simp [run, List.foldl_append]

theorem C10_inv_new (est fpr32 k m Q : Nat) (h1 : 1 ≤ est) (hq : 1 ≤ Q) :
    (Rotating.new est fpr32 k m Q).Inv Q := inv_new est fpr32 k m Q h1 hq

theorem C10_inv_step (Q : Nat) (r : Rotating) (op : Op) (hok : op.ok r.k) (hi : r.Inv Q) :
    (step r op).Inv Q := by
  cases op with
  | add p hs f => exact (inv_addCore Q r p hs f hok hi).1
  | push => exact inv_push Q r hi
  | pop => exact step_pop (·.Inv Q) r hi (fun r' hp => inv_pop Q r r' hi hp)

/-- `Op.ok` speaks of the `k` of the first state, so the histories carry it along with the invariant -/
theorem inv_k_step (Q k : Nat) (s : Rotating) (op : Op) (hok : op.ok k) (h : s.Inv Q ∧ s.k = k) :
    (step s op).Inv Q ∧ (step s op).k = k :=
  ⟨C10_inv_step Q s op (by rw [h.2]; exact hok) h.1, (step_static s op).2.1.trans h.2⟩

theorem C10_inv_run (Q : Nat) (r : Rotating) (ops : List Op) (hok : ∀ op ∈ ops, op.ok r.k)
    (hi : r.Inv Q) : (run r ops).Inv Q :=
  (foldl_invariant step (fun s => s.Inv Q ∧ s.k = r.k) ops r ⟨hi, rfl⟩
    (fun s hs op hop => inv_k_step Q r.k s op (hok op hop) hs)).1

theorem C10_bounds_from (Q : Nat) (r : Rotating) (ops : List Op) (hok : ∀ op ∈ ops, op.ok r.k)
    (hi : r.Inv Q) :
    1 ≤ (run r ops).blooms.length ∧ (run r ops).blooms.length ≤ Q ∧
    ∀ b ∈ (run r ops).blooms, 0 ≤ b.count ∧ b.count ≤ r.est := by
  obtain ⟨-, -, hne, hlen, hall⟩ := C10_inv_run Q r ops hok hi
  refine ⟨List.length_pos_iff.mpr hne, hlen, ?_⟩
  intro b hb
  have h := hall b hb
  rw [(run_static r ops).1] at h
  exact ⟨h.1, h.2.1⟩

theorem C10_bounds (est fpr32 k m Q : Nat) (h1 : 1 ≤ est) (hq : 1 ≤ Q) (ops : List Op)
    (hok : ∀ op ∈ ops, op.ok k) :
    1 ≤ (run (Rotating.new est fpr32 k m Q) ops).blooms.length ∧
    (run (Rotating.new est fpr32 k m Q) ops).blooms.length ≤ Q ∧
    ∀ b ∈ (run (Rotating.new est fpr32 k m Q) ops).blooms, 0 ≤ b.count ∧ b.count ≤ est :=
  C10_bounds_from Q _ ops hok (inv_new est fpr32 k m Q h1 hq)

theorem C10_add_no_error (Q : Nat) (r : Rotating) (p : Bool) (hs : List Nat) (f : Bool)
    (hk : r.k ≤ hs.length) (hi : r.Inv Q) : (r.addCore p hs f).2 = none :=
  (inv_addCore Q r p hs f hk hi).2

theorem C10_pop_guard (r : Rotating) :
    (r.blooms.length = 1 → r.pop = .error .rotateError ∧ step r .pop = r) ∧
    (r.blooms.length ≠ 1 → r.pop = .ok { r with blooms := r.blooms.drop 1 } ∧
      (step r .pop).blooms = r.blooms.drop 1) := by
  exact ⟨fun h => ⟨pop_single r h, by simp [step, pop_single r h]⟩,
    fun h => ⟨pop_longer r h, by simp [step, pop_longer r h]⟩⟩

theorem C10_pop_ok_iff (Q : Nat) (r : Rotating) (hi : r.Inv Q) :
    (∃ r', r.pop = .ok r') ↔ 2 ≤ r.blooms.length := by
  have hpos : 0 < r.blooms.length := List.length_pos_iff.mpr hi.2.2.1
  constructor
  · rintro ⟨r', hr⟩
    exact Nat.lt_of_le_of_ne hpos (fun e => (pop_ok r r' hr).1 e.symm)
  · intro h2
    exact ⟨_, pop_longer r (fun e => absurd (e ▸ h2) (by decide))⟩

/-- `b0` is tracked `i` places before the newest sub-filter `z`; the potential `i·est + z.count`
    goes up by one per effective insertion, and below `Q·est` the sub-filter is still in the queue -/
theorem C10_window_filters_from (Q est : Nat) (b0 : Bloom) (ops : List Op) :
    ∀ (r : Rotating) (i : Nat) (z : Bloom), r.est = est → r.Inv Q → Holds b0 r i →
      r.blooms.getLast? = some z → (∀ op ∈ ops, op.isAdd = true ∧ op.ok r.k) →
      (effCount ops : Int) + (i : Int) * est + z.count ≤ (Q : Int) * est →
      ∃ i' z', Holds b0 (run r ops) i' ∧ (run r ops).blooms.getLast? = some z' ∧
        (i' : Int) * est + z'.count = (i : Int) * est + z.count + effCount ops := by
  intro r i z hest hi hh hz hops hpot
  -- the invariant: after `n` of the effective insertions, `n` within the budget, `b0` is still tracked
  -- and the potential `i·est + (count of the newest)` has gone up by `n`
  have h := foldl_invariant_count step (fun s n => (s.Inv Q ∧ s.k = r.k) ∧ s.est = est ∧
      (n ≤ effCount ops → ∃ i' z', Holds b0 s i' ∧ s.blooms.getLast? = some z' ∧
        (i' : Int) * est + z'.count = (i : Int) * est + z.count + n))
    Op.effective ops ?_ r 0 ⟨⟨hi, rfl⟩, hest, fun _ => ⟨i, z, hh, hz, (Int.add_zero _).symm⟩⟩
  · rw [Nat.zero_add] at h
    exact h.2.2 (Nat.le_refl _)
  intro s n ⟨hP, he, hw⟩ op hop
  refine ⟨inv_k_step Q r.k s op (hops op hop).2 hP, (step_static s op).1.trans he, fun hn => ?_⟩
  cases op with
  | push => exact absurd (hops .push hop).1 (by decide)
  | pop => exact absurd (hops .pop hop).1 (by decide)
  | add p hl f =>
      obtain ⟨i1, z1, hh1, hz1, he1⟩ := hw (Nat.le_trans (Nat.le_add_right n _) hn)
      have hstep := window_step Q s b0 z1 i1 p hl f (by rw [hP.2]; exact (hops _ hop).2) hP.1 hh1 hz1
      rw [he] at hstep
      have hn : n + (if (f || !p) = true then 1 else 0) ≤ effCount ops := hn
      obtain ⟨i2, z2, hh2, hz2, he2⟩ := hstep (by omega)
      exact ⟨i2, z2, hh2, hz2, by rw [he2, he1, Int.natCast_add, Int.add_assoc]; rfl⟩

private theorem pot_start {Q est n : Nat} {c : Int} (hQ : 1 ≤ Q) (hj : n ≤ (Q - 1) * est)
    (hc : c ≤ est) : (n : Int) + ((0 : Nat) : Int) * est + c ≤ (Q : Int) * est := by
  obtain ⟨q, rfl⟩ : ∃ q, Q = q + 1 := ⟨Q - 1, (Nat.sub_add_cancel hQ).symm⟩
  rw [Nat.add_sub_cancel] at hj
  have h : (n : Int) ≤ (q : Int) * est := by rw [← Int.natCast_mul]; exact Int.ofNat_le.mpr hj
  rw [Int.natCast_zero, Int.zero_mul, Int.add_zero, Int.natCast_add, Int.add_mul, Int.natCast_one, Int.one_mul]
  exact Int.add_le_add h hc

/-- `r1` is the state right after an effective insertion, whose newest sub-filter `z1` received the
    key; `i` is the number of rotations since -/
theorem C10_window_filters (Q : Nat) (r1 : Rotating) (z1 : Bloom) (ops : List Op)
    (hi : r1.Inv Q) (hz : r1.blooms.getLast? = some z1)
    (hops : ∀ op ∈ ops, op.isAdd = true ∧ op.ok r1.k)
    (hj : effCount ops ≤ (Q - 1) * r1.est) :
    ∃ (i : Nat) (z' b' : Bloom), i < (run r1 ops).blooms.length ∧
      (run r1 ops).blooms[(run r1 ops).blooms.length - 1 - i]? = some b' ∧ Bloom.Ext z1 b' ∧
      (run r1 ops).blooms.getLast? = some z' ∧
      (i : Int) * r1.est + z'.count = z1.count + effCount ops := by
  have hc := (hi.2.2.2.2 z1 (List.mem_of_getLast? hz)).2.1
  have hQ : 1 ≤ Q := Nat.le_trans (List.length_pos_iff.mpr hi.2.2.1) hi.2.2.2.1
  obtain ⟨i, z', ⟨hil, b', hb', hext⟩, hz', he⟩ :=
    C10_window_filters_from Q r1.est z1 ops r1 0 z1 rfl hi (holds_last r1 z1 hz) hz hops
      (pot_start hQ hj hc)
  rw [Int.natCast_zero, Int.zero_mul, Int.zero_add] at he
  exact ⟨i, z', b', hil, hb', hext, hz', he⟩

theorem geo_step (r : Rotating) (op : Op) (hg : r.toExpanding.Geo) : (step r op).toExpanding.Geo := by
  cases op with
  | add p hs f => exact geo_addCore r p hs f hg
  | push => exact geo_push r hg
  | pop => exact step_pop (·.toExpanding.Geo) r hg (fun r' hp => geo_pop r r' hg hp)

theorem run_reach (Q : Nat) (r : Rotating) (ops : List Op) (hok : ∀ op ∈ ops, op.ok r.k) (hi : r.Inv Q)
    (hg : r.toExpanding.Geo) :
    (run r ops).Inv Q ∧ (run r ops).toExpanding.Geo ∧ (run r ops).k = r.k ∧ (run r ops).est = r.est :=
  ⟨C10_inv_run Q r ops hok hi,
    foldl_invariant step (·.toExpanding.Geo) ops r hg (fun s hs op _ => geo_step s op hs),
    (run_static r ops).2.1, (run_static r ops).1⟩

/-- `ops = []` is the case of a key present right after its insertion -/
theorem C10_window_from (Q : Nat) (r : Rotating) (p : Bool) (hs : List Nat) (f : Bool)
    (ops : List Op) (hi : r.Inv Q) (hg : r.toExpanding.Geo) (hk : r.k ≤ hs.length)
    (hf : (f || !p) = true)
    (hops : ∀ op ∈ ops, op.isAdd = true ∧ op.ok r.k)
    (hj : effCount ops ≤ (Q - 1) * r.est) :
    (run (r.addCore p hs f).1 ops).toExpanding.checkAlt hs = .ok true := by
  obtain ⟨s1, -, s3, -, -, -⟩ := addCore_static r p hs f
  have hi1 := (inv_addCore Q r p hs f hk hi).1
  obtain ⟨z1, hz1, hc1, hg1⟩ := addCore_eff_last Q r p hs f hk hi hg hf
  have hops1 : ∀ op ∈ ops, op.isAdd = true ∧ op.ok (r.addCore p hs f).1.k := by
    rw [s3]; exact hops
  obtain ⟨i, z', b', hil, hb', hext, -, -⟩ :=
    C10_window_filters Q (r.addCore p hs f).1 z1 ops hi1 hz1 hops1 (by rw [s1]; exact hj)
  obtain ⟨hi2, hg2, hk2, -⟩ := run_reach Q (r.addCore p hs f).1 ops (fun o ho => (hops1 o ho).2) hi1
    (geo_addCore r p hs f hg)
  exact (Expanding.checkAlt_iff _ hs (Expanding.wf_of_inv_geo hi2.toExpanding hg2) (by rw [hk2, s3]; exact hk)).2
    ⟨b', List.mem_of_getElem? hb', hext.check (hg1.wf hg.1) hs hc1⟩

theorem C10_present_after_add (Q : Nat) (r : Rotating) (p : Bool) (hs : List Nat) (f : Bool)
    (hi : r.Inv Q) (hg : r.toExpanding.Geo) (hk : r.k ≤ hs.length) (hf : (f || !p) = true) :
    (r.addCore p hs f).1.toExpanding.checkAlt hs = .ok true :=
  C10_window_from Q r p hs f [] hi hg hk hf (by simp) (by simp [effCount])

/-- `ops₁` is arbitrary (adds, pushes, pops), then the key is effectively added, then `ops₂` holds
    only adds of which at most `(Q − 1)·est` are effective -/
theorem C10_window (est fpr32 k m Q : Nat) (h1 : 1 ≤ est) (hq : 1 ≤ Q) (hm : 0 < m)
    (ops₁ ops₂ : List Op) (p : Bool) (hs : List Nat) (f : Bool)
    (hok₁ : ∀ op ∈ ops₁, op.ok k) (hk : k ≤ hs.length) (hf : (f || !p) = true)
    (hops₂ : ∀ op ∈ ops₂, op.isAdd = true ∧ op.ok k)
    (hj : effCount ops₂ ≤ (Q - 1) * est) :
    (run (Rotating.new est fpr32 k m Q) (ops₁ ++ [.add p hs f] ++ ops₂)).toExpanding.checkAlt hs
      = .ok true := by
  obtain ⟨hi1, hg1, sk, se⟩ := run_reach Q (Rotating.new est fpr32 k m Q) ops₁ hok₁
    (inv_new est fpr32 k m Q h1 hq) (geo_new est fpr32 k m (Q : Int) hm)
  rw [run_append, run_append]
  exact C10_window_from Q (run (Rotating.new est fpr32 k m Q) ops₁) p hs f ops₂ hi1 hg1
    (by rw [sk]; exact hk) hf (by rw [sk]; exact hops₂) (by rw [se]; exact hj)

inductive AOp
  | add (hs : List Nat) (force : Bool)
  | push
  | pop
  deriving DecidableEq, Repr

def stepA (r : Rotating) : AOp → Rotating
  | .add hs f => (r.addAlt hs f).1
  | .push => r.push
  | .pop => match r.pop with
      | .ok r' => r'
      | .error _ => r

def runA (r : Rotating) (aops : List AOp) : Rotating := aops.foldl stepA r

def AOp.ok (k : Nat) : AOp → Prop
  | .add hs _ => k ≤ hs.length
  | _ => True

def AOp.isAdd : AOp → Bool
  | .add .. => true
  | _ => false

instance (k : Nat) (a : AOp) : Decidable (a.ok k) := by
  cases a <;> unfold AOp.ok <;> infer_instance

def Op.erase : Op → AOp
  | .add _ hs f => .add hs f
  | .push => .push
  | .pop => .pop

def effCountA (r : Rotating) : List AOp → Nat
  | [] => 0
  | .add hs f :: rest =>
      (if f || (match r.toExpanding.checkAlt hs with | .ok true => false | _ => true) then 1 else 0) +
        effCountA (stepA r (.add hs f)) rest
  | a :: rest => effCountA (stepA r a) rest

theorem isAdd_erase (op : Op) : op.erase.isAdd = op.isAdd := by cases op <;> rfl

theorem effCount_cons (op : Op) (ops : List Op) :
    effCount (op :: ops) = effCount ops + if op.effective then 1 else 0 := List.countP_cons

/-- every history of real calls is a history of `Op`s carrying the answers the filter computed,
    with the same effective insertions; so all theorems above apply to it -/
theorem C10_api (Q : Nat) (r : Rotating) (aops : List AOp) (hok : ∀ a ∈ aops, a.ok r.k)
    (hi : r.Inv Q) :
    ∃ ops : List Op, ops.map Op.erase = aops ∧ (∀ op ∈ ops, op.ok r.k) ∧
      runA r aops = run r ops ∧ effCountA r aops = effCount ops :=
  foldl_simulation stepA step Op.erase (fun s => s.Inv Q ∧ s.k = r.k) (fun a => a.ok r.k)
    (fun op => op.ok r.k) (fun s aops ops => effCountA s aops = effCount ops) (fun _ => rfl)
    (fun s hP op hO => inv_k_step Q r.k s op hO hP)
    (fun s hP a ha => by
      cases a with
      | push => exact ⟨.push, rfl, trivial, rfl, fun _ _ h => h⟩
      | pop => exact ⟨.pop, rfl, trivial, rfl, fun _ _ h => h⟩
      | add hs f =>
          -- the answer `p` that `check_alt` computes is the one carried by the `Op`
          obtain ⟨p, hp1, hp2⟩ := addAlt_eq_addCore Q s hs f (by rw [hP.2]; exact ha) hP.1
          have hst : stepA s (.add hs f) = step s (.add p hs f) := congrArg Prod.fst hp2
          refine ⟨.add p hs f, rfl, ha, hst, fun aops ops h => ?_⟩
          rw [effCount_cons, ← h, ← hst]
          simp only [effCountA, Op.effective, hp1]
          cases p <;> exact Nat.add_comm _ _)
    aops r ⟨hi, rfl⟩ hok

theorem C10_window_api_from (Q : Nat) (r : Rotating) (hs : List Nat) (aops₂ : List AOp)
    (hi : r.Inv Q) (hg : r.toExpanding.Geo) (hk : r.k ≤ hs.length)
    (habsent : r.toExpanding.checkAlt hs = .ok false)
    (hops₂ : ∀ a ∈ aops₂, a.isAdd = true ∧ a.ok r.k)
    (hj : effCountA (stepA r (.add hs false)) aops₂ ≤ (Q - 1) * r.est) :
    (runA (stepA r (.add hs false)) aops₂).toExpanding.checkAlt hs = .ok true := by
  have hadd : stepA r (.add hs false) = (r.addCore false hs false).1 := by
    simp [stepA, Rotating.addAlt, habsent]
  rw [hadd] at hj ⊢
  have hk1 : (r.addCore false hs false).1.k = r.k := (addCore_static r false hs false).2.2.1
  obtain ⟨ops₂, hm₂, ok₂, hr₂, hc₂⟩ := C10_api Q (r.addCore false hs false).1 aops₂
    (by rw [hk1]; exact fun a ha => (hops₂ a ha).2) (inv_addCore Q r false hs false hk hi).1
  rw [hr₂]
  apply C10_window_from Q r false hs false ops₂ hi hg hk rfl
  · intro op hop
    refine ⟨?_, by rw [← hk1]; exact ok₂ op hop⟩
    rw [← isAdd_erase]
    exact (hops₂ _ (by rw [← hm₂]; exact List.mem_map_of_mem hop)).1
  · rw [← hc₂]; exact hj

theorem C10_window_api (est fpr32 k m Q : Nat) (h1 : 1 ≤ est) (hq : 1 ≤ Q) (hm : 0 < m)
    (aops₁ aops₂ : List AOp) (hs : List Nat)
    (hok₁ : ∀ a ∈ aops₁, a.ok k) (hk : k ≤ hs.length)
    (habsent : (runA (Rotating.new est fpr32 k m Q) aops₁).toExpanding.checkAlt hs = .ok false)
    (hops₂ : ∀ a ∈ aops₂, a.isAdd = true ∧ a.ok k)
    (hj : effCountA (stepA (runA (Rotating.new est fpr32 k m Q) aops₁) (.add hs false)) aops₂
      ≤ (Q - 1) * est) :
    (runA (Rotating.new est fpr32 k m Q) (aops₁ ++ [.add hs false] ++ aops₂)).toExpanding.checkAlt hs
      = .ok true := by
  obtain ⟨ops₁, -, ok₁, hr₁, -⟩ :=
    C10_api Q (Rotating.new est fpr32 k m Q) aops₁ hok₁ (inv_new est fpr32 k m Q h1 hq)
  have h := run_reach Q (Rotating.new est fpr32 k m Q) ops₁ ok₁ (inv_new est fpr32 k m Q h1 hq)
    (geo_new est fpr32 k m (Q : Int) hm)
  rw [← hr₁] at h
  obtain ⟨hi1, hg1, sk, se⟩ := h
  have happ : runA (Rotating.new est fpr32 k m Q) (aops₁ ++ [.add hs false] ++ aops₂)
      = runA (stepA (runA (Rotating.new est fpr32 k m Q) aops₁) (.add hs false)) aops₂ := by
    simp [runA, List.foldl_append]
  rw [happ]
  exact C10_window_api_from Q _ hs aops₂ hi1 hg1 (by rw [sk]; exact hk) habsent
    (by rw [sk]; exact hops₂) (by rw [se]; exact hj)

def r0 : Rotating := Rotating.new 2 0 2 64 2

local instance decEqExcept {ε α} [DecidableEq ε] [DecidableEq α] : DecidableEq (Except ε α) := fun a b =>
  match a, b with
  | .ok x, .ok y => if h : x = y then isTrue (by rw [h]) else isFalse (by intro e; cases e; exact h rfl)
  | .error x, .error y =>
      if h : x = y then isTrue (by rw [h]) else isFalse (by intro e; cases e; exact h rfl)
  | .ok _, .error _ => isFalse (by intro e; cases e)
  | .error _, .ok _ => isFalse (by intro e; cases e)

example : r0.Inv 2 := C10_inv_new 2 0 2 64 2 (by decide) (by decide)
example : r0.toExpanding.Geo := geo_new 2 0 2 64 2 (by decide)

def sampleOps : List Op :=
  [.add false [1, 2] false, .add true [1, 2] false, .add false [3, 4] false, .add false [5, 6] false,
   .pop, .pop, .add true [5, 6] true, .push, .add false [7, 8] false, .add false [9, 10] false,
   .add false [11, 12] false]

example : ∀ op ∈ sampleOps, op.ok 2 := by decide
example : (run r0 sampleOps).blooms.map (·.count) = [2, 1] := by decide
example : (run r0 (sampleOps.take 4)).blooms.map (·.count) = [2, 1] := by decide
example : (run r0 (sampleOps.take 5)).blooms.map (·.count) = [1]
    ∧ (run r0 (sampleOps.take 5)).pop = .error .rotateError
    ∧ run r0 (sampleOps.take 6) = run r0 (sampleOps.take 5) := by decide

/-- `Q = 2`, `est = 2`: key `[1, 2]`, then `(Q−1)·est = 2` further effective insertions -/
def afterKey : List Op :=
  [.add false [10, 11] false, .add true [10, 11] false, .add false [20, 21] false]

example : ∀ op ∈ afterKey, op.isAdd = true ∧ op.ok 2 := by decide
example : effCount afterKey = 2 := by decide
example : (run r0 ([.add false [40, 41] false] ++ [.add false [1, 2] false] ++ afterKey)).toExpanding.checkAlt
    [1, 2] = .ok true :=
  C10_window 2 0 2 64 2 (by decide) (by decide) (by decide) [.add false [40, 41] false] afterKey false [1, 2]
    false (by decide) (by decide) rfl (by decide) (by decide)
example : (run r0 ([.add false [40, 41] false] ++ [.add false [1, 2] false] ++ afterKey)).blooms.map (·.count)
    = [2, 2] := by decide

/-- the bound is tight: one more effective insertion rotates the key out -/
example :
    (run r0 ([.add false [40, 41] false] ++ [.add false [1, 2] false] ++ afterKey ++
      [.add false [30, 31] false])).toExpanding.checkAlt [1, 2] = .ok false := by decide

example : ((Rotating.new 2 0 2 64 1).addCore false [1, 2] false).1.toExpanding.checkAlt [1, 2] = .ok true :=
  C10_present_after_add 1 _ false [1, 2] false (C10_inv_new 2 0 2 64 1 (by decide) (by decide))
    (geo_new 2 0 2 64 1 (by decide)) (by decide) rfl
example : (run (Rotating.new 2 0 2 64 1)
    [.add false [40, 41] false, .add false [1, 2] false, .add false [10, 11] false]).toExpanding.checkAlt [1, 2]
    = .ok false := by decide

example : (runA r0 [.add [40, 41] false, .add [1, 2] false, .add [10, 11] false, .add [10, 11] false,
    .add [20, 21] false]).toExpanding.checkAlt [1, 2] = .ok true := by decide
example : effCountA (stepA (runA r0 [.add [40, 41] false]) (.add [1, 2] false))
    [.add [10, 11] false, .add [10, 11] false, .add [20, 21] false] = 2 := by decide

end PyProb.C10
