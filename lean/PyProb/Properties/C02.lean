/-
  C02 — Count-Min estimate is never below the true count nor above the total.

  Setting: any width `w > 0`, depth `d > 0`, any hash strategy `H : Key → Nat → List Nat` that
  supplies exactly `d` hashes, any history `ops` of `add key n` / `remove key n` that is
  `Legit` (every amount positive, every removal ≤ the key's current true count, at every prefix)
  and `Small` (the amounts added so far never exceed 2^31-1, at every prefix, so no clamp fires).
  `run mode ops` folds `CMS.addAlt` / `CMS.removeAlt` of the model from `CMS.new w d mode`.

  Proved (all sizes, all histories, all hash strategies, all keys):
  * `C02_bin_invariant` : geometry/mode unchanged, `total = Σ signed amounts`, and EVERY bin
    `i*w + j` holds `binSum ops i j` = Σ of the signed amounts of the operations whose key falls on
    column `j` in row `i` — for every query mode (the table does not depend on the mode).
  * `C02_bin_is_sum`, `C02_total_is_sum` : the same per key, as in DESIGN.md:
    `bins[i*w+j] = Σ_{key ∈ keysOf ops, pos i key = j} cnt ops key`, `total = Σ_{key} cnt ops key`.
  * `C02_lower`  : `check key = .ok v` with `cnt ops key ≤ v`            (min mode)
  * `C02_upper`  : `v ≤ total` and `total = Σ signed amounts`            (min mode)
  * `C02_exact_row`, `C02_exact` : if in some row (resp. in every row) no other key of the history
    shares `key`'s column then `v = cnt ops key`                        (min mode)
  * `C02_ret` : at every step of such a history the value returned by `add` / `remove` equals
    `check` of the same key in the resulting state — for all three query modes (including the
    cases where both raise, e.g. mean-min with width 1).
  * `C02_ret_state` : the same for any state with all bins in the int32 range (not only
    histories from `new`), all three modes, any hash list.
  Not proved here: anything about clamped states (see C16), mean / mean-min error bounds.
-/
import PyProb.Lemmas.CmsCore

namespace PyProb.C02
open PyProb CmsCore

inductive Op
  | add (key : Key) (n : Int)
  | remove (key : Key) (n : Int)

def Op.key : Op → Key
  | .add k _ => k
  | .remove k _ => k

def Op.signed : Op → Int
  | .add _ n => n
  | .remove _ n => -n

def Op.added : Op → Int
  | .add _ n => n
  | .remove _ _ => 0

/-- true count of `key`: Σ added − Σ removed -/
def cnt (ops : List Op) (key : Key) : Int :=
  (ops.map fun op => if op.key = key then op.signed else 0).sum

def totalOf (ops : List Op) : Int := (ops.map Op.signed).sum

def addedOf (ops : List Op) : Int := (ops.map Op.added).sum

def OpOK (pre : List Op) : Op → Prop
  | .add _ n => 0 < n
  | .remove key n => 0 < n ∧ n ≤ cnt pre key

def Legit (ops : List Op) : Prop := ∀ i (h : i < ops.length), OpOK (ops.take i) ops[i]

def Small (ops : List Op) : Prop := ∀ i, i ≤ ops.length → addedOf (ops.take i) ≤ Gen.int32Max

def keysOf (ops : List Op) : List Key := dedup (ops.map Op.key)

section
variable (w d : Nat) (H : Key → Nat → List Nat)

def pos (i : Nat) (key : Key) : Nat := (H key d).getD i 0 % w

def binSum (ops : List Op) (i j : Nat) : Int :=
  (ops.map fun op => if pos w d H i op.key = j then op.signed else 0).sum

def stepOp (c : CMS) : Op → CMS × R Int
  | .add key n => c.addAlt (H key d) n
  | .remove key n => c.removeAlt (H key d) n

def run (mode : Mode) (ops : List Op) : CMS :=
  ops.foldl (fun c op => (stepOp d H c op).1) (CMS.new w d mode)

def BinInv (mode : Mode) (ops : List Op) (c : CMS) : Prop :=
  c.w = w ∧ c.d = d ∧ c.mode = mode ∧ c.bins.length = w * d ∧ c.total = totalOf ops ∧
    ∀ i, i < d → ∀ j, j < w → c.bins[i * w + j]? = some (binSum w d H ops i j)

end

private def sumP (p : Key → Prop) [DecidablePred p] (ops : List Op) : Int :=
  (ops.map fun op => if p op.key then op.signed else 0).sum

private theorem cnt_eq (ops : List Op) (key : Key) : cnt ops key = sumP (fun k => k = key) ops := rfl

private theorem binSum_eq (w d : Nat) (H : Key → Nat → List Nat) (ops : List Op) (i j : Nat) :
    binSum w d H ops i j = sumP (fun k => pos w d H i k = j) ops := rfl

private theorem totalOf_eq (ops : List Op) : totalOf ops = sumP (fun _ => True) ops := by
  simp [totalOf, sumP]

private theorem sumP_snoc (p : Key → Prop) [DecidablePred p] (ops : List Op) (op : Op) :
    sumP p (ops ++ [op]) = sumP p ops + (if p op.key then op.signed else 0) := by
  simp [sumP, List.map_append, List.sum_append]

private theorem sumP_cons (p : Key → Prop) [DecidablePred p] (ops : List Op) (op : Op) :
    sumP p (op :: ops) = (if p op.key then op.signed else 0) + sumP p ops := by
  simp [sumP]

theorem cnt_snoc (ops : List Op) (op : Op) (key : Key) :
    cnt (ops ++ [op]) key = cnt ops key + if op.key = key then op.signed else 0 :=
  sumP_snoc (fun k => k = key) ops op

theorem cnt_eq_zero (ops : List Op) (key : Key) (h : ∀ op ∈ ops, op.key ≠ key) : cnt ops key = 0 :=
  sum_map_zero _ _ fun op hop => if_neg (h op hop)

private theorem addedOf_snoc (ops : List Op) (op : Op) :
    addedOf (ops ++ [op]) = addedOf ops + op.added := by
  simp [addedOf, List.map_append, List.sum_append]

theorem legit_snoc {ops : List Op} {op : Op} (h : Legit (ops ++ [op])) :
    Legit ops ∧ OpOK ops op := by
  constructor
  · intro i hi
    have := h i (by simp; omega)
    rw [List.take_append_of_le_length (by omega), List.getElem_append_left hi] at this
    exact this
  · have := h ops.length (by simp)
    simpa using this

theorem small_snoc {ops : List Op} {op : Op} (h : Small (ops ++ [op])) :
    Small ops ∧ addedOf (ops ++ [op]) ≤ Gen.int32Max := by
  constructor
  · intro i hi
    have := h i (by simp; omega)
    rw [List.take_append_of_le_length hi] at this
    exact this
  · have := h (ops ++ [op]).length (Nat.le_refl _)
    rw [List.take_length] at this
    exact this

private theorem opOK_signed {pre : List Op} {op : Op} (h : OpOK pre op) :
    op.signed ≤ op.added ∧ 0 ≤ op.added ∧ (0 ≤ cnt pre op.key → -(cnt pre op.key) ≤ op.signed) := by
  cases op with
  | add k n => simp only [OpOK, Op.key, Op.signed, Op.added] at *; omega
  | remove k n => simp only [OpOK, Op.key, Op.signed, Op.added] at *; omega

private theorem legit_amount {ops : List Op} (h : Legit ops) :
    ∀ op ∈ ops, op.signed ≤ op.added ∧ 0 ≤ op.added := by
  intro op hop
  obtain ⟨i, hi, e⟩ := List.mem_iff_getElem.1 hop
  have := opOK_signed (h i hi)
  rw [e] at this
  exact ⟨this.1, this.2.1⟩

theorem cnt_nonneg : ∀ ops : List Op, Legit ops → ∀ key, 0 ≤ cnt ops key := by
  apply snoc_induction (motive := fun ops => Legit ops → ∀ key, 0 ≤ cnt ops key)
  · intro _ key; simp [cnt]
  · intro ops op ih h key
    obtain ⟨h1, h2⟩ := legit_snoc h
    have := ih h1 key
    rw [cnt_snoc]
    split
    · rename_i e
      have := (opOK_signed h2).2.2 (ih h1 op.key)
      rw [e] at this
      omega
    · omega

private theorem sumP_by_key (p : Key → Prop) [DecidablePred p] (ks : List Key) (nd : ks.Nodup) :
    ∀ ops : List Op, (∀ op ∈ ops, op.key ∈ ks) →
      sumP p ops = (ks.map fun k => if p k then cnt ops k else 0).sum := by
  intro ops
  induction ops with
  | nil =>
      intro _
      have : (ks.map fun k => if p k then cnt [] k else 0).sum = 0 :=
        sum_map_zero _ _ (fun k _ => by simp [cnt])
      rw [this]; simp [sumP]
  | cons op t ih =>
      intro hc
      have hmem : op.key ∈ ks := hc op (by simp)
      have hf : ∀ k, (if p k then cnt (op :: t) k else 0) =
          (if op.key = k then (if p k then op.signed else 0) else 0) +
            (if p k then cnt t k else 0) := by
        intro k
        rw [cnt_eq, sumP_cons, ← cnt_eq]
        by_cases h1 : p k <;> by_cases h2 : op.key = k <;> simp [h1, h2]
      rw [List.map_congr_left (fun k _ => hf k), sum_map_add,
        sum_map_ite_eq ks op.key (fun k => if p k then op.signed else 0) nd hmem,
        ← ih (fun o ho => hc o (by simp [ho])), sumP_cons]

private theorem keysOf_cover (ops : List Op) : ∀ op ∈ ops, op.key ∈ keysOf ops := by
  intro op hop
  rw [keysOf, mem_dedup]
  exact List.mem_map.2 ⟨op, hop, rfl⟩

private theorem sumP_nonneg (p : Key → Prop) [DecidablePred p] (ops : List Op) (h : Legit ops) :
    0 ≤ sumP p ops := by
  rw [sumP_by_key p (keysOf ops) (nodup_dedup _) ops (keysOf_cover ops)]
  apply sum_map_nonneg
  intro k _
  have := cnt_nonneg ops h k
  split <;> omega

private theorem sumP_split (p : Key → Prop) [DecidablePred p] (ops : List Op) :
    totalOf ops = sumP p ops + sumP (fun k => ¬ p k) ops := by
  rw [totalOf, sumP, sumP, ← sum_map_add]
  congr 1
  apply List.map_congr_left
  intro op _
  by_cases h : p op.key <;> simp [h]

private theorem sumP_le_total (p : Key → Prop) [DecidablePred p] (ops : List Op) (h : Legit ops) :
    sumP p ops ≤ totalOf ops := by
  have := sumP_split p ops
  have := sumP_nonneg (fun k => ¬ p k) ops h
  omega

private theorem total_le_added (ops : List Op) (h : Legit ops) : totalOf ops ≤ addedOf ops :=
  sum_map_le _ _ _ (fun op hop => (legit_amount h op hop).1)

/-- the column of `key` carries at least `cnt key`; the rest is what the colliding keys carry -/
private theorem binSum_split (w d : Nat) (H : Key → Nat → List Nat) (ops : List Op) (i : Nat)
    (key : Key) :
    binSum w d H ops i (pos w d H i key) =
      cnt ops key + sumP (fun k => pos w d H i k = pos w d H i key ∧ k ≠ key) ops := by
  rw [binSum, cnt, sumP, ← sum_map_add]
  congr 1
  apply List.map_congr_left
  intro op _
  by_cases h : op.key = key
  · simp [h]
  · simp [h]

section
variable {w d : Nat} {H : Key → Nat → List Nat}

private theorem getD_eq_getElem' (l : List Nat) (i : Nat) (h : i < l.length) :
    l.getD i 0 = l[i] := by
  rw [List.getD_eq_getElem?_getD, List.getElem?_eq_getElem h, Option.getD_some]

private theorem cell_lt {i j : Nat} (hi : i < d) (hj : j < w) : i * w + j < w * d := by
  rw [Nat.add_comm]
  exact row_col_lt hi hj

private theorem mem_idx {c : CMS} (hcw : c.w = w) (hH : ∀ key, (H key d).length = d) (key : Key)
    {i j : Nat} (hi : i < d) (hj : j < w) :
    i * w + j ∈ c.binIdx (H key d) ↔ pos w d H i key = j := by
  subst hcw
  have h' : i < (H key d).length := by rw [hH]; exact hi
  rw [Nat.add_comm, cell_mem_binIdx c _ h' hj, pos, getD_eq_getElem' _ _ h']

/-- what a touched cell holds: the column sum of `key`'s row, which lies between `cnt key` and the
    total -/
private theorem touched_cell {mode : Mode} {ops : List Op} {c : CMS}
    (hI : BinInv w d H mode ops c) (hw : 0 < w) (hH : ∀ key, (H key d).length = d)
    (hL : Legit ops) (key : Key) (x : Nat) (hx : x ∈ c.binIdx (H key d)) :
    cnt ops key ≤ c.bins.getD x 0 ∧ c.bins.getD x 0 ≤ totalOf ops ∧
      ∃ i, i < d ∧ c.bins.getD x 0 = binSum w d H ops i (pos w d H i key) := by
  obtain ⟨hcw, _, _, _, _, hb⟩ := hI
  rw [mem_binIdx, hcw] at hx
  obtain ⟨i, h', e⟩ := hx
  have hi : i < d := by rw [← hH key]; exact h'
  have e' : x = i * w + pos w d H i key := by rw [pos, getD_eq_getElem' _ _ h', Nat.add_comm]; exact e
  have hp : pos w d H i key < w := Nat.mod_lt _ hw
  have hv : c.bins.getD x 0 = binSum w d H ops i (pos w d H i key) := by
    rw [List.getD_eq_getElem?_getD, e', hb i hi _ hp, Option.getD_some]
  refine ⟨?_, ?_, i, hi, hv⟩
  · rw [hv, binSum_split]
    exact Int.le_add_of_nonneg_right (sumP_nonneg _ ops hL)
  · rw [hv, binSum_eq]
    exact sumP_le_total _ ops hL

private theorem bump_bins {mode : Mode} {ops : List Op} {c : CMS}
    (hI : BinInv w d H mode ops c) (hH : ∀ key, (H key d).length = d) (key : Key) (δ : Int)
    (hfit : ∀ x ∈ c.binIdx (H key d),
      Gen.int32Min ≤ c.bins.getD x 0 + δ ∧ c.bins.getD x 0 + δ ≤ Gen.int32Max) :
    ∀ i, i < d → ∀ j, j < w → (bumpBins c (H key d) δ)[i * w + j]? =
      some (binSum w d H ops i j + (if pos w d H i key = j then δ else 0)) := by
  intro i hi j hj
  obtain ⟨hcw, _, _, hlen, _, hb⟩ := hI
  have hlt := cell_lt hi hj
  rw [bumpBins_getElem? c _ δ _ (by rw [hlen]; exact hlt)]
  have hold : c.bins.getD (i * w + j) 0 = binSum w d H ops i j := by
    rw [List.getD_eq_getElem?_getD, hb i hi j hj, Option.getD_some]
  by_cases hm : pos w d H i key = j
  · have hmem := (mem_idx hcw hH key hi hj).2 hm
    have := hfit _ hmem
    rw [if_pos hmem, if_pos hm, clamp32_id _ this.1 this.2, hold]
  · have hmem : ¬ (i * w + j ∈ c.binIdx (H key d)) := fun h => hm ((mem_idx hcw hH key hi hj).1 h)
    rw [if_neg hmem, if_neg hm, hold, Int.add_zero]

private theorem totalOf_snoc (ops : List Op) (op : Op) :
    totalOf (ops ++ [op]) = totalOf ops + op.signed := by
  simp [totalOf, List.map_append, List.sum_append]

private theorem binSum_snoc (ops : List Op) (op : Op) (i j : Nat) :
    binSum w d H (ops ++ [op]) i j =
      binSum w d H ops i j + (if pos w d H i op.key = j then op.signed else 0) := by
  rw [binSum_eq, sumP_snoc, ← binSum_eq]

private theorem stepOp_eq (c : CMS) (op : Op)
    (hany : (c.binIdx (H op.key d)).any (· ≥ c.bins.length) = false)
    (hfit : ∀ x ∈ c.binIdx (H op.key d),
      Gen.int32Min ≤ c.bins.getD x 0 + op.signed ∧ c.bins.getD x 0 + op.signed ≤ Gen.int32Max) :
    ∃ t, (Gen.int64Min ≤ c.total + op.signed → c.total + op.signed ≤ Gen.int64Max →
        t = c.total + op.signed) ∧
      stepOp d H c op = ({ c with bins := bumpBins c (H op.key d) op.signed, total := t },
        CMS.checkAlt { c with bins := bumpBins c (H op.key d) op.signed, total := t }
          (H op.key d)) := by
  cases op with
  | add key n =>
      refine ⟨min Gen.int64Max (c.total + n), fun _ h => Int.min_eq_right h, ?_⟩
      have hany' : (c.binIdx (H key d)).any (· ≥ c.bins.length) = false := hany
      simp only [stepOp, Op.key, Op.signed] at hfit ⊢
      rw [addAlt_eq c _ n hany' (fun x hx => (hfit x hx).1), checkAlt_bump c _ n _ hany']
  | remove key n =>
      refine ⟨max Gen.int64Min (c.total - n), fun h _ => Int.max_eq_right h, ?_⟩
      have hany' : (c.binIdx (H key d)).any (· ≥ c.bins.length) = false := hany
      simp only [stepOp, Op.key, Op.signed] at hfit ⊢
      rw [removeAlt_eq c _ n hany' (fun x hx => (hfit x hx).2), checkAlt_bump c _ (-n) _ hany']

private theorem fits32 {x cnt tot s a A : Int} (h1 : cnt ≤ x) (h2 : x ≤ tot) (hs1 : -cnt ≤ s)
    (hs2 : s ≤ a) (hta : tot ≤ A) (hS : A + a ≤ Gen.int32Max) :
    Gen.int32Min ≤ x + s ∧ x + s ≤ Gen.int32Max :=
  ⟨Int.le_trans (by decide : Gen.int32Min ≤ 0) (by omega), by omega⟩

private theorem step_inv {mode : Mode} {ops : List Op} {c : CMS} {op : Op}
    (hI : BinInv w d H mode ops c) (hw : 0 < w) (hH : ∀ key, (H key d).length = d)
    (hL : Legit (ops ++ [op])) (hS : addedOf (ops ++ [op]) ≤ Gen.int32Max) :
    BinInv w d H mode (ops ++ [op]) (stepOp d H c op).1 ∧
      (stepOp d H c op).2 = (stepOp d H c op).1.checkAlt (H op.key d) := by
  obtain ⟨hL0, hok⟩ := legit_snoc hL
  obtain ⟨hs2, _, hs1⟩ := opOK_signed hok
  have hs1 := hs1 (cnt_nonneg ops hL0 op.key)
  have htot' : 0 ≤ totalOf (ops ++ [op]) := by rw [totalOf_eq]; exact sumP_nonneg _ _ hL
  have hta' := total_le_added _ hL
  have hts := totalOf_snoc ops op
  have hany := binIdx_any_false c (H op.key d) (by rw [hI.1]; exact hw)
    (by rw [hH, hI.2.1]; exact Nat.le_refl _) (by rw [hI.2.2.2.1, hI.1, hI.2.1])
  -- a touched bin holds between `cnt key` and the total, so the signed amount fits
  have hfit : ∀ x ∈ c.binIdx (H op.key d),
      Gen.int32Min ≤ c.bins.getD x 0 + op.signed ∧ c.bins.getD x 0 + op.signed ≤ Gen.int32Max := by
    intro x hx
    obtain ⟨h1, h2, _⟩ := touched_cell hI hw hH hL0 op.key x hx
    exact fits32 h1 h2 hs1 hs2 (total_le_added _ hL0) (addedOf_snoc ops op ▸ hS)
  obtain ⟨t, ht, hstep⟩ := stepOp_eq c op hany hfit
  obtain ⟨hcw, hcd, hmode, hlen, htotal, hb⟩ := id hI
  -- the new total lies in `[0, addedOf]`, far inside the int64 range
  have ht' : t = totalOf (ops ++ [op]) := by
    rw [hts, ← htotal] at htot' hta' ⊢
    exact ht (Int.le_trans (by decide) htot') (Int.le_trans (Int.le_trans hta' hS) (by decide))
  rw [hstep]
  refine ⟨⟨hcw, hcd, hmode, (bumpBins_length c _ _).trans hlen, ht', ?_⟩, rfl⟩
  intro i hi j hj
  rw [bump_bins hI hH op.key op.signed hfit i hi j hj, binSum_snoc]

theorem run_snoc (mode : Mode) (ops : List Op) (op : Op) :
    run w d H mode (ops ++ [op]) = (stepOp d H (run w d H mode ops) op).1 := by
  simp [run, List.foldl_append]

end

section
variable {w d : Nat} {H : Key → Nat → List Nat}

theorem C02_bin_invariant (hw : 0 < w) (hH : ∀ key, (H key d).length = d) (mode : Mode) :
    ∀ ops : List Op, Legit ops → Small ops → BinInv w d H mode ops (run w d H mode ops) := by
  apply snoc_induction
    (motive := fun ops => Legit ops → Small ops → BinInv w d H mode ops (run w d H mode ops))
  · intro _ _
    refine ⟨rfl, rfl, rfl, by simp [run, CMS.new], by simp [run, CMS.new, totalOf], ?_⟩
    intro i hi j hj
    have := cell_lt hi hj
    simp [run, CMS.new, binSum, this]
  · intro ops op ih hL hS
    obtain ⟨hS0, hS1⟩ := small_snoc hS
    rw [run_snoc]
    exact (step_inv (ih (legit_snoc hL).1 hS0) hw hH hL hS1).1

theorem C02_bin_is_sum (hw : 0 < w) (hH : ∀ key, (H key d).length = d) (mode : Mode)
    (ops : List Op) (hL : Legit ops) (hS : Small ops) (i j : Nat) (hi : i < d) (hj : j < w) :
    (run w d H mode ops).bins[i * w + j]? =
      some ((keysOf ops).map fun key => if pos w d H i key = j then cnt ops key else 0).sum := by
  rw [(C02_bin_invariant hw hH mode ops hL hS).2.2.2.2.2 i hi j hj, binSum_eq,
    sumP_by_key _ (keysOf ops) (nodup_dedup _) ops (keysOf_cover ops)]

theorem C02_total_is_sum (hw : 0 < w) (hH : ∀ key, (H key d).length = d) (mode : Mode)
    (ops : List Op) (hL : Legit ops) (hS : Small ops) :
    (run w d H mode ops).total = ((keysOf ops).map (cnt ops)).sum ∧
      (run w d H mode ops).total = totalOf ops := by
  have h := (C02_bin_invariant hw hH mode ops hL hS).2.2.2.2.1
  refine ⟨?_, h⟩
  rw [h, totalOf_eq, sumP_by_key _ (keysOf ops) (nodup_dedup _) ops (keysOf_cover ops)]
  simp

theorem C02_keysOf (ops : List Op) :
    (keysOf ops).Nodup ∧ ∀ key, key ∈ keysOf ops ↔ ∃ op ∈ ops, op.key = key := by
  refine ⟨nodup_dedup _, fun key => ?_⟩
  rw [keysOf, mem_dedup, List.mem_map]

private theorem check_core {ops : List Op} {c : CMS} (hI : BinInv w d H .min ops c) (hw : 0 < w)
    (hd : 0 < d) (hH : ∀ key, (H key d).length = d) (hL : Legit ops) (key : Key) :
    ∃ v, c.checkAlt (H key d) = .ok v ∧ cnt ops key ≤ v ∧
      (∃ i, i < d ∧ v = binSum w d H ops i (pos w d H i key)) ∧
      ∀ i, i < d → v ≤ binSum w d H ops i (pos w d H i key) := by
  have hI' := hI
  obtain ⟨hcw, hcd, hmode, hlen, _, hb⟩ := hI
  have hany := binIdx_any_false c (H key d) (by rw [hcw]; exact hw)
    (by rw [hH, hcd]; exact Nat.le_refl _) (by rw [hlen, hcw, hcd])
  obtain ⟨v, hv, hmem, hmin⟩ := query_min c c.total _ hmode
    (binIdx_map_ne_nil c (H key d) (fun x => c.bins.getD x 0) (by rw [hH, hcd]) (by rw [hcd]; exact hd))
  refine ⟨v, by simp only [CMS.checkAlt, hany, Bool.false_eq_true, if_false]; exact hv, ?_, ?_, ?_⟩
  · obtain ⟨x, hx, e⟩ := List.mem_map.1 hmem
    rw [← e]; exact (touched_cell hI' hw hH hL key x hx).1
  · obtain ⟨x, hx, e⟩ := List.mem_map.1 hmem
    obtain ⟨i, hi, e2⟩ := (touched_cell hI' hw hH hL key x hx).2.2
    exact ⟨i, hi, by rw [← e, e2]⟩
  · intro i hi
    have hp : pos w d H i key < w := Nat.mod_lt _ hw
    have hx := (mem_idx hcw hH key hi hp).2 rfl
    have := hmin _ (List.mem_map.2 ⟨_, hx, rfl⟩)
    rw [List.getD_eq_getElem?_getD, hb i hi _ hp, Option.getD_some] at this
    exact this

theorem C02_lower (hw : 0 < w) (hd : 0 < d) (hH : ∀ key, (H key d).length = d) (ops : List Op)
    (hL : Legit ops) (hS : Small ops) (key : Key) :
    ∃ v, (run w d H .min ops).checkAlt (H key d) = .ok v ∧ cnt ops key ≤ v := by
  obtain ⟨v, h1, h2, _⟩ := check_core (C02_bin_invariant hw hH .min ops hL hS) hw hd hH hL key
  exact ⟨v, h1, h2⟩

theorem C02_upper (hw : 0 < w) (hd : 0 < d) (hH : ∀ key, (H key d).length = d) (ops : List Op)
    (hL : Legit ops) (hS : Small ops) (key : Key) :
    ∃ v, (run w d H .min ops).checkAlt (H key d) = .ok v ∧ v ≤ (run w d H .min ops).total ∧
      (run w d H .min ops).total = totalOf ops := by
  have hI := C02_bin_invariant hw hH .min ops hL hS
  obtain ⟨v, h1, _, ⟨i, _, e⟩, _⟩ := check_core hI hw hd hH hL key
  refine ⟨v, h1, ?_, hI.2.2.2.2.1⟩
  rw [hI.2.2.2.2.1, e, binSum_eq]
  exact sumP_le_total _ ops hL

theorem C02_exact_row (hw : 0 < w) (hd : 0 < d) (hH : ∀ key, (H key d).length = d)
    (ops : List Op) (hL : Legit ops) (hS : Small ops) (key : Key)
    (hfree : ∃ i, i < d ∧ ∀ op ∈ ops, op.key ≠ key → pos w d H i op.key ≠ pos w d H i key) :
    (run w d H .min ops).checkAlt (H key d) = .ok (cnt ops key) := by
  obtain ⟨v, h1, h2, _, h4⟩ := check_core (C02_bin_invariant hw hH .min ops hL hS) hw hd hH hL key
  obtain ⟨i, hi, hf⟩ := hfree
  have h5 := h4 i hi
  rw [binSum_split] at h5
  have hz : sumP (fun k => pos w d H i k = pos w d H i key ∧ k ≠ key) ops = 0 := by
    apply sum_map_zero
    intro op hop
    by_cases e : op.key = key
    · simp [e]
    · simp [hf op hop e]
  rw [h1]
  congr 1
  omega

theorem C02_exact (hw : 0 < w) (hd : 0 < d) (hH : ∀ key, (H key d).length = d)
    (ops : List Op) (hL : Legit ops) (hS : Small ops) (key : Key)
    (hfree : ∀ i, i < d → ∀ op ∈ ops, op.key ≠ key → pos w d H i op.key ≠ pos w d H i key) :
    (run w d H .min ops).checkAlt (H key d) = .ok (cnt ops key) :=
  C02_exact_row hw hd hH ops hL hS key ⟨0, hd, hfree 0 hd⟩

theorem C02_ret (hw : 0 < w) (hH : ∀ key, (H key d).length = d) (mode : Mode) (ops : List Op)
    (op : Op) (hL : Legit (ops ++ [op])) (hS : Small (ops ++ [op])) :
    (stepOp d H (run w d H mode ops) op).2 =
      (run w d H mode (ops ++ [op])).checkAlt (H op.key d) := by
  obtain ⟨hS0, hS1⟩ := small_snoc hS
  rw [run_snoc]
  exact (step_inv (C02_bin_invariant hw hH mode ops (legit_snoc hL).1 hS0) hw hH hL hS1).2

theorem step_run (hw : 0 < w) (hd : 0 < d) (hH : ∀ key, (H key d).length = d) (ops : List Op)
    (op : Op) (hL : Legit (ops ++ [op])) (hS : Small (ops ++ [op])) :
    ∃ v, stepOp d H (run w d H .min ops) op = (run w d H .min (ops ++ [op]), .ok v) ∧
      cnt (ops ++ [op]) op.key ≤ v := by
  obtain ⟨v, hv, hcv⟩ := C02_lower hw hd hH (ops ++ [op]) hL hS op.key
  refine ⟨v, ?_, hcv⟩
  rw [Prod.ext_iff]
  exact ⟨(run_snoc .min ops op).symm, by rw [C02_ret hw hH .min ops op hL hS, hv]⟩

theorem C02_ret_state (c : CMS) (hs : List Nat) (n : Int) (hn : 0 ≤ n)
    (hb : ∀ v ∈ c.bins, Gen.int32Min ≤ v ∧ v ≤ Gen.int32Max) :
    (c.addAlt hs n).2 = (c.addAlt hs n).1.checkAlt hs ∧
      (c.removeAlt hs n).2 = (c.removeAlt hs n).1.checkAlt hs := by
  constructor
  · exact addAlt_ret c hs n (fun x _ => by have := (getD_int32 hb x).1; omega)
  · exact removeAlt_ret c hs n (fun x _ => by have := (getD_int32 hb x).2; omega)

end

def exH : Key → Nat → List Nat := fun key n => (List.range n).map fun i => key.units.sum * (i + 1)

def kA : Key := ⟨true, [0]⟩
def kB : Key := ⟨true, [1]⟩
def kC : Key := ⟨true, [2]⟩

/-- width 2, depth 2: in row 1 all three keys collide, in row 0 `kA` and `kC` collide -/
example : (pos 2 2 exH 0 kA, pos 2 2 exH 0 kB, pos 2 2 exH 0 kC) = (0, 1, 0) ∧
    (pos 2 2 exH 1 kA, pos 2 2 exH 1 kB, pos 2 2 exH 1 kC) = (0, 0, 0) := by decide

def exOps : List Op := [.add kA 3, .add kC 5, .remove kA 1, .add kB 4, .remove kC 5]

private theorem exH_len : ∀ key, (exH key 2).length = 2 := by intro key; simp [exH]

instance (pre : List Op) (op : Op) : Decidable (OpOK pre op) := by
  cases op <;> unfold OpOK <;> infer_instance

private theorem exOps_legit : Legit exOps := by unfold Legit; decide

private theorem exOps_small : Small exOps := by unfold Small; decide

/-- the hypotheses of the theorems are satisfiable by a history with collisions and removals -/
example : Legit exOps ∧ Small exOps ∧ (∀ key, (exH key 2).length = 2) :=
  ⟨exOps_legit, exOps_small, exH_len⟩

example : (cnt exOps kA, cnt exOps kB, cnt exOps kC, totalOf exOps) = (2, 4, 0, 6) := by decide

example : (run 2 2 exH .min exOps).bins = [2, 4, 6, 0] ∧ (run 2 2 exH .min exOps).total = 6 := by
  decide

/-- `kA` (colliding in both rows): `2 ≤ estimate ≤ 6` -/
example : ∃ v, (run 2 2 exH .min exOps).checkAlt (exH kA 2) = .ok v ∧ cnt exOps kA ≤ v :=
  C02_lower (by decide) (by decide) exH_len exOps exOps_legit exOps_small kA

example : ∃ v, (run 2 2 exH .min exOps).checkAlt (exH kA 2) = .ok v ∧
    v ≤ (run 2 2 exH .min exOps).total ∧ (run 2 2 exH .min exOps).total = totalOf exOps :=
  C02_upper (by decide) (by decide) exH_len exOps exOps_legit exOps_small kA

/-- `kB` is alone in row 0 (but not in row 1): estimated exactly -/
example : (run 2 2 exH .min exOps).checkAlt (exH kB 2) = .ok (cnt exOps kB) :=
  C02_exact_row (by decide) (by decide) exH_len exOps exOps_legit exOps_small kB
    ⟨0, by decide, by decide⟩

/-- the value returned by the last removal is `check kC` afterwards, in mean-min mode too -/
example : (stepOp 2 exH (run 2 2 exH .meanMin (exOps.take 4)) (.remove kC 5)).2 =
    (run 2 2 exH .meanMin exOps).checkAlt (exH kC 2) :=
  C02_ret (by decide) exH_len .meanMin (exOps.take 4) (.remove kC 5) exOps_legit exOps_small

end PyProb.C02
