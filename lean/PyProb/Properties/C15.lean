/-
  C15 — cuckoo table invariants hold after every operation (plain and counting cuckoo filter,
  one model `PyProb.Cuckoo` with a `counting` flag).

  Proved here, for ALL `G` (the second-index hash `hash(str(fp))`), ALL oracles (resolutions of
  `random.choice` / `random.randint`), all `maxSwaps`, all capacities / bucket sizes / rates ≥ 1:
  * `C15_init`, `C15_add`, `C15_remove`, `C15_expand`, `C15_run`: `Inv` holds for a fresh filter, is
    preserved by every public operation, whether it returns normally or raises `CuckooFilterFullError`,
    and so holds after any history, every operation with its own arbitrary oracle;
  * `C15_add_result`, `C15_expand_result`, `C15_remove_false`: the only error is `cuckooFull`, and a failed
    call (or a `remove` returning `False`) leaves the filter unchanged;
  * `C15_step_capacity`, `C15_capacity`: the capacity changes only by multiplication with the expansion
    rate (`cap₀ * rate ^ j` over a history); no other configuration field ever changes.
  Not proved here: that a table obtained by `Cuckoo.load` of an export satisfies `Inv` (that clause
  of C15 is handled with the export round trip, property C05).
  `Inv` contains `0 < rate` in addition to the clauses listed in the design: with rate 0 the model's
  expansion would build a table of capacity 0 (Python raises instead), so the parameter guard is needed.
-/
import PyProb.Lemmas.CuckooOps
import PyProb.Lemmas.Histories

namespace PyProb.C15
open PyProb PyProb.Cuckoo

def Inv (G : Nat → Nat) (c : Cuckoo) : Prop :=
  c.buckets.length = c.cap ∧ 0 < c.cap ∧ 0 < c.b ∧ 0 < c.rate ∧
  (∀ bkt ∈ c.buckets, bkt.length ≤ c.b) ∧
  (∀ i (h : i < c.buckets.length), ∀ bin ∈ c.buckets[i], i = bin.1 % c.cap ∨ i = G bin.1 % c.cap) ∧
  (c.buckets.flatten.map (·.1)).Nodup ∧
  (∀ bin ∈ c.buckets.flatten, 1 ≤ bin.2) ∧
  (c.counting = false → ∀ bin ∈ c.buckets.flatten, bin.2 = 1)

/-- `Inv` is the lemma library's `WF` written out -/
theorem inv_iff_wf (G : Nat → Nat) (c : Cuckoo) : Inv G c ↔ WF G c := by
  constructor
  · rintro ⟨hlen, hcap, hb, hrate, hsize, hpos, hnd, hcnt, hplain⟩
    refine ⟨⟨⟨hlen, hcap, ?_, ?_⟩, (nodup_iff_tsum c).mp hnd, hcnt, hplain⟩, hb, hrate⟩
    · intro i
      rw [Nat.zero_max]
      exact getD_of_forall_mem (P := fun bkt : List CBin => bkt.length ≤ c.b) hsize (Nat.zero_le _) i
    · intro i bin
      unfold bucket
      by_cases hi : i < c.buckets.length
      · rw [getD_eq_getElem_of_lt _ i hi]; exact hpos i hi bin
      · rw [getD_of_length_le _ i (by omega)]; simp
  · intro hw
    refine ⟨hw.ts.len, hw.ts.cap_pos, hw.b_pos, hw.rate_pos, ?_, ?_, (nodup_iff_tsum c).mpr hw.nodup,
      hw.cnt_pos, hw.plain⟩
    · intro bkt hbkt
      obtain ⟨i, hi, rfl⟩ := List.mem_iff_getElem.mp hbkt
      have := hw.ts.size i
      unfold bucket at this
      rwa [getD_eq_getElem_of_lt _ i hi, Nat.zero_max] at this
    · intro i hi bin hbin
      have := hw.ts.pos i bin
      unfold bucket at this
      rw [getD_eq_getElem_of_lt _ i hi] at this
      exact this hbin

theorem Inv.wf {G : Nat → Nat} {c : Cuckoo} (h : Inv G c) : WF G c := (inv_iff_wf G c).mp h

theorem Inv.of_tab {G : Nat → Nat} {c c' : Cuckoo} (h : Inv G c) (hx : SameX c c') (ht : Tab G 0 c') : Inv G c' :=
  (inv_iff_wf G c').mpr (h.wf.of_tab hx ht)

def SameConfig (c c' : Cuckoo) : Prop :=
  c'.counting = c.counting ∧ c'.b = c.b ∧ c'.maxSwaps = c.maxSwaps ∧ c'.rate = c.rate ∧
  c'.auto = c.auto ∧ c'.fpBits = c.fpBits

theorem sameConfig_of {c c' : Cuckoo} (h : SameX c c') : SameConfig c c' := (sameX_iff c c').mp h

theorem C15_init (G : Nat → Nat) (counting : Bool) (cap b maxSwaps rate : Nat) (auto : Bool) (fpBits : Nat)
    (hcap : 1 ≤ cap) (hb : 1 ≤ b) (hrate : 1 ≤ rate) :
    Inv G (Cuckoo.new counting cap b maxSwaps rate auto fpBits) :=
  (inv_iff_wf _ _).mpr (WF_new G counting cap b maxSwaps rate auto fpBits hcap hb hrate)

theorem C15_add_result (G : Nat → Nat) (c : Cuckoo) (h : Nat) (oracle : List Nat) (hinv : Inv G c) :
    (c.add G h oracle).2.1 = none ∨
    ((c.add G h oracle).2.1 = some .cuckooFull ∧ (c.add G h oracle).1 = c) := by
  exact (add_spec h oracle hinv.wf.toTab hinv.wf.rate_pos).imp (·.1) id

theorem C15_add (G : Nat → Nat) (c : Cuckoo) (h : Nat) (oracle : List Nat) (hinv : Inv G c) :
    Inv G (c.add G h oracle).1 := by
  rcases add_spec h oracle hinv.wf.toTab hinv.wf.rate_pos with ⟨_, ht', hx, _⟩ | ⟨_, hc⟩
  · exact hinv.of_tab hx ht'
  · rw [hc]; exact hinv

theorem C15_add_capacity (G : Nat → Nat) (c : Cuckoo) (h : Nat) (oracle : List Nat) (hinv : Inv G c) :
    ((c.add G h oracle).1.cap = c.cap ∨ (c.add G h oracle).1.cap = c.cap * c.rate) ∧
    SameConfig c (c.add G h oracle).1 := by
  rcases add_spec h oracle hinv.wf.toTab hinv.wf.rate_pos with ⟨_, _, hx, hcap, _⟩ | ⟨_, hc⟩
  · exact ⟨hcap.imp id (·.2), sameConfig_of hx⟩
  · rw [hc]; exact ⟨Or.inl rfl, sameConfig_of (SameX.refl c)⟩

theorem C15_add_capacity_noauto (G : Nat → Nat) (c : Cuckoo) (h : Nat) (oracle : List Nat) (hinv : Inv G c)
    (hauto : c.auto = false) : (c.add G h oracle).1.cap = c.cap := by
  rcases add_spec h oracle hinv.wf.toTab hinv.wf.rate_pos with ⟨_, _, _, hcap, _⟩ | ⟨_, hc⟩
  · rcases hcap with hcap | ⟨ha, _⟩
    · exact hcap
    · rw [hauto] at ha; exact absurd ha (by simp)
  · rw [hc]

theorem C15_remove (G : Nat → Nat) (c : Cuckoo) (h : Nat) (hinv : Inv G c) :
    Inv G (c.remove G h).1 := by
  rcases remove_spec h hinv.wf.toTab with ⟨_, ht', hs, _⟩ | ⟨_, hc, _⟩
  · exact hinv.of_tab hs.toX ht'
  · rw [hc]; exact hinv

theorem C15_remove_false (G : Nat → Nat) (c : Cuckoo) (h : Nat) (hinv : Inv G c)
    (hret : (c.remove G h).2 = false) : (c.remove G h).1 = c := by
  rcases remove_spec h hinv.wf.toTab with ⟨ht, _⟩ | ⟨_, hc, _⟩
  · rw [hret] at ht; exact absurd ht (by simp)
  · exact hc

theorem C15_remove_capacity (G : Nat → Nat) (c : Cuckoo) (h : Nat) (hinv : Inv G c) :
    (c.remove G h).1.cap = c.cap ∧ SameConfig c (c.remove G h).1 := by
  rcases remove_spec h hinv.wf.toTab with ⟨_, _, hs, _⟩ | ⟨_, hc, _⟩
  · exact ⟨hs.cap, sameConfig_of hs.toX⟩
  · rw [hc]; exact ⟨rfl, sameConfig_of (SameX.refl c)⟩

theorem C15_expand_result (G : Nat → Nat) (c : Cuckoo) (oracle : List Nat) (hinv : Inv G c) :
    ((expandLogic G c none oracle).2.1 = none ∧ (expandLogic G c none oracle).1.cap = c.cap * c.rate) ∨
    ((expandLogic G c none oracle).2.1 = some .cuckooFull ∧ (expandLogic G c none oracle).1 = c) := by
  rcases expand_spec oracle hinv.wf.toTab hinv.wf.rate_pos with ⟨he, _, _, hcap, _⟩ | ⟨he, hc⟩
  · exact Or.inl ⟨he, hcap⟩
  · exact Or.inr ⟨he, hc⟩

theorem C15_expand (G : Nat → Nat) (c : Cuckoo) (oracle : List Nat) (hinv : Inv G c) :
    Inv G (expandLogic G c none oracle).1 := by
  rcases expand_spec oracle hinv.wf.toTab hinv.wf.rate_pos with ⟨_, ht', hx, _⟩ | ⟨_, hc⟩
  · exact hinv.of_tab hx ht'
  · rw [hc]; exact hinv

theorem C15_expand_capacity (G : Nat → Nat) (c : Cuckoo) (oracle : List Nat) (hinv : Inv G c) :
    ((expandLogic G c none oracle).1.cap = c.cap ∨ (expandLogic G c none oracle).1.cap = c.cap * c.rate) ∧
    SameConfig c (expandLogic G c none oracle).1 := by
  rcases expand_spec oracle hinv.wf.toTab hinv.wf.rate_pos with ⟨_, _, hx, hcap, _⟩ | ⟨_, hc⟩
  · exact ⟨Or.inr hcap, sameConfig_of hx⟩
  · rw [hc]; exact ⟨Or.inl rfl, sameConfig_of (SameX.refl c)⟩

/-- keys are given by their hash value -/
inductive Op where
  | add (hashVal : Nat)
  | remove (hashVal : Nat)
  | expand
  deriving DecidableEq, Repr

/-- one operation with its own oracle (the draws it may consume); errors are caught by the caller -/
def step (G : Nat → Nat) (c : Cuckoo) : Op × List Nat → Cuckoo
  | (.add h, oracle) => (c.add G h oracle).1
  | (.remove h, _) => (c.remove G h).1
  | (.expand, oracle) => (expandLogic G c none oracle).1

def run (G : Nat → Nat) (c : Cuckoo) (ops : List (Op × List Nat)) : Cuckoo := ops.foldl (step G) c

theorem C15_step (G : Nat → Nat) (c : Cuckoo) (op : Op × List Nat) (hinv : Inv G c) :
    Inv G (step G c op) := by
  obtain ⟨op, oracle⟩ := op
  cases op with
  | add h => exact C15_add G c h oracle hinv
  | remove h => exact C15_remove G c h hinv
  | expand => exact C15_expand G c oracle hinv

theorem C15_step_capacity (G : Nat → Nat) (c : Cuckoo) (op : Op × List Nat) (hinv : Inv G c) :
    ((step G c op).cap = c.cap ∨ (step G c op).cap = c.cap * c.rate) ∧ SameConfig c (step G c op) := by
  obtain ⟨op, oracle⟩ := op
  cases op with
  | add h => exact C15_add_capacity G c h oracle hinv
  | remove h => exact (C15_remove_capacity G c h hinv).imp Or.inl id
  | expand => exact C15_expand_capacity G c oracle hinv

theorem run_induction (G : Nat → Nat) (P : Cuckoo → Prop)
    (hstep : ∀ c op, Inv G c → P c → P (step G c op)) (c : Cuckoo) (ops : List (Op × List Nat))
    (hinv : Inv G c) (h : P c) : P (run G c ops) :=
  (foldl_invariant (step G) (fun c => Inv G c ∧ P c) ops c ⟨hinv, h⟩
    fun c hc op _ => ⟨C15_step G c op hc.1, hstep c op hc.1 hc.2⟩).2

/-- `run_induction` for a fold `g` that carries a ghost value (a specification) along the history -/
theorem run_ghost_induction {α : Type} (G : Nat → Nat) (g : Cuckoo × α → Op × List Nat → Cuckoo × α)
    (R : Cuckoo → α → Prop) (hfst : ∀ c a op, (g (c, a) op).1 = step G c op)
    (hR : ∀ c a op, Inv G c → R c a → R (step G c op) (g (c, a) op).2)
    (c : Cuckoo) (a : α) (ops : List (Op × List Nat)) (hinv : Inv G c) (h : R c a) :
    (ops.foldl g (c, a)).1 = run G c ops ∧ R (run G c ops) (ops.foldl g (c, a)).2 := by
  -- the ghost fold and the plain run side by side
  obtain ⟨h1, _, h3⟩ := foldl_invariant₂ g (step G) (fun s c => s.1 = c ∧ Inv G c ∧ R c s.2) ops (c, a) c
    ⟨rfl, hinv, h⟩ fun s c hs op _ => by
      obtain ⟨rfl, hi, hr⟩ := hs
      exact ⟨hfst s.1 s.2 op, C15_step G s.1 op hi, hR s.1 s.2 op hi hr⟩
  exact ⟨h1, h3⟩

theorem C15_run (G : Nat → Nat) (c : Cuckoo) (ops : List (Op × List Nat)) (hinv : Inv G c) :
    Inv G (run G c ops) :=
  run_induction G (Inv G) (fun c op h _ => C15_step G c op h) c ops hinv hinv

theorem C15_capacity (G : Nat → Nat) (c : Cuckoo) (ops : List (Op × List Nat)) (hinv : Inv G c) :
    (∃ j, j ≤ ops.length ∧ (run G c ops).cap = c.cap * c.rate ^ j) ∧ SameConfig c (run G c ops) := by
  -- after `n` calls: `Inv`, and at most `n` of them multiplied the capacity
  have h := foldl_invariant_count (step G)
    (fun c' n => Inv G c' ∧ (∃ j, j ≤ n ∧ c'.cap = c.cap * c.rate ^ j) ∧ SameConfig c c') (fun _ => true) ops
    (fun c' n ⟨hi, ⟨j, hj, hjc⟩, hcfg⟩ op _ => by
      obtain ⟨hcap, hcfg'⟩ := C15_step_capacity G c' op hi
      refine ⟨C15_step G c' op hi, ?_, sameConfig_of (((sameX_iff _ _).mpr hcfg).trans ((sameX_iff _ _).mpr hcfg'))⟩
      rw [hcfg.2.2.2.1, hjc] at hcap
      rcases hcap with hc | hc
      · exact ⟨j, Nat.le_succ_of_le hj, hc⟩
      · exact ⟨j + 1, Nat.succ_le_succ hj, by rw [hc, Nat.pow_succ, Nat.mul_assoc]⟩)
    c 0 ⟨hinv, ⟨0, Nat.le_refl 0, (Nat.mul_one _).symm⟩, sameConfig_of (SameX.refl c)⟩
  rw [Nat.zero_add, List.countP_true] at h
  exact h.2

def G0 : Nat → Nat := fun fp => fp / 2
/-- plain filter: 2 buckets of 1 slot, 2 swaps, no auto-expansion -/
def c0 : Cuckoo := Cuckoo.new false 2 1 2 2 false 8
/-- after `add 2; add 4`: the second add finds both candidate buckets (0 and 0) full and goes through
    the kick loop: 2 is evicted from bucket 0 to its other bucket 1 -/
def c2 : Cuckoo := run G0 c0 [(.add 2, []), (.add 4, [0, 0])]

example : Inv G0 c0 := C15_init G0 false 2 1 2 2 false 8 (by decide) (by decide) (by decide)
example : c2.buckets = [[(4, 1)], [(2, 1)]] := by decide +kernel
example : Inv G0 c2 := C15_run G0 c0 _ (C15_init G0 false 2 1 2 2 false 8 (by decide) (by decide) (by decide))
/-- `Inv` is not trivially true: -/
example : Inv G0 c2 := by unfold Inv; decide +kernel
example : ¬ Inv G0 { c2 with buckets := [[(4, 1)], [(4, 1)]] } := by unfold Inv; decide +kernel
example : ¬ Inv G0 { c2 with buckets := [[(2, 1)], [(4, 1)]] } := by unfold Inv; decide +kernel
example : ¬ Inv G0 { c2 with buckets := [[(4, 1), (6, 1)], [(2, 1)]] } := by unfold Inv; decide +kernel
/-- a third add (fingerprint 6, buckets 0 and 1) runs out of swaps: error, state unchanged -/
example : (c2.add G0 6 [0, 0, 0]).2.1 = some .cuckooFull ∧ (c2.add G0 6 [0, 0, 0]).1 = c2 := by decide +kernel
/-- counting filter with auto-expansion: the same failing add expands the table to capacity 4;
    the bin of fingerprint 4 keeps its count 2 -/
example : (run G0 (Cuckoo.new true 2 1 2 2 true 8)
    [(.add 2, []), (.add 4, [0, 0]), (.add 4, []), (.add 6, [0, 0, 0])]).buckets
      = [[(4, 2)], [(2, 1)], [(6, 1)], []] := by decide +kernel
example : (run G0 (Cuckoo.new true 2 1 2 2 true 8)
    [(.add 2, []), (.add 4, [0, 0]), (.add 4, []), (.add 6, [0, 0, 0])]).cap = 2 * 2 ^ 1 := by decide +kernel

end PyProb.C15
