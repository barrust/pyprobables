/-
  C13 — Intersection, Jaccard index and operand compatibility rules.

  Proved here about `Model/Bloom.lean` (`Bloom`, `CBF`) and `Model/CMS.lean` (`CMS.join`), for all
  geometries, all operand states, any estimator:
  * the intersection of two similar Bloom filters has exactly the positions set in both
    (`C13_inter_bits`, all `8 * ceil(m/8)` positions), is well formed, and reports a hash list
    exactly when both operands report it (`C13_inter_member`, `C13_inter_member_iff`);
  * Jaccard: the numerator is the number of positions set in both operands, the denominator the
    number set in either (`C13_jaccard_positions`); they are the set-bit counts of the
    intersection and of the union (`C13_jaccard_set_ops`); symmetric; `num ≤ den`; `num = den` for
    operands with identical bytes — so the index, with the library's convention "1.0 when the
    union is empty" (`jaccardRatio`), is symmetric, lies in [0,1] and is 1 for identical operands
    including empty ones;
  * counting variants on non-zero cells (`C13_cbf_*`);
  * compatibility: `similar` is "same k, same m, same probe hashes"; when it fails union,
    intersection and Jaccard are `none`, when it holds they are `some`; count-min `join` raises
    CountMinSketchError exactly when width, depth or probe hashes differ.

  Not proved here (carried by the correspondence harness, outside the model): TypeError for foreign
  operand kinds; "operands are unchanged" holds by the types (the operations are pure functions
  of their operands).  The index itself is the float `num / den`; here it is the exact pair.
-/
import PyProb.Lemmas.BloomOps
import PyProb.Lemmas.CbfOps
import PyProb.Model.CMS

namespace PyProb.C13
open PyProb

abbrev WF (b : Bloom) : Prop := b.WF

/-- `_verify_bloom_similarity`: same number of hashes, same number of bits, same probe hashes -/
theorem C13_similar_iff (a b : Bloom) (same : Bool) :
    a.similar b same = true ↔ a.k = b.k ∧ a.m = b.m ∧ same = true := Bloom.similar_iff a b same

/-- `jaccard_index(second)` as the exact pair (numerator, denominator); `none` when not similar -/
def jaccard (a b : Bloom) (sameProbe : Bool) : Option (Nat × Nat) :=
  if a.similar b sameProbe then some (a.jaccardCounts b) else none

theorem C13_incompatible (est : Estimator) (a b : Bloom) (same : Bool) (h : a.similar b same = false) :
    Bloom.union est a b same = none ∧ Bloom.intersection est a b same = none ∧ jaccard a b same = none := by
  simp [Bloom.union, Bloom.intersection, jaccard, h]

theorem C13_incompatible_cases (est : Estimator) (a b : Bloom) (same : Bool)
    (h : a.k ≠ b.k ∨ a.m ≠ b.m ∨ same = false) :
    Bloom.union est a b same = none ∧ Bloom.intersection est a b same = none ∧ jaccard a b same = none := by
  apply C13_incompatible
  rw [← Bool.not_eq_true, Bloom.similar_iff]
  rintro ⟨h1, h2, h3⟩
  rcases h with h | h | h
  · exact h h1
  · exact h h2
  · rw [h] at h3
    cases h3

theorem C13_compatible (est : Estimator) (a b : Bloom) (same : Bool) (h : a.similar b same = true) :
    (∃ r, Bloom.union est a b same = some r) ∧ (∃ r, Bloom.intersection est a b same = some r) ∧
    jaccard a b same = some (a.jaccardCounts b) :=
  ⟨Bloom.union_of_similar est a b same h, Bloom.intersection_of_similar est a b same h, by simp [jaccard, h]⟩

/-- "every addressed position answers" for a structure whose positions answer exactly when those of
    two others both do; `L` is the condition on the length of the hash list -/
private theorem forall_mem_and {α} {L : Prop} {l : List α} {R A B : α → Prop}
    (h : ∀ x ∈ l, (R x ↔ A x ∧ B x)) :
    (L ∧ ∀ x ∈ l, R x) ↔ (L ∧ ∀ x ∈ l, A x) ∧ (L ∧ ∀ x ∈ l, B x) :=
  ⟨fun ⟨hl, hr⟩ => ⟨⟨hl, fun x hx => ((h x hx).1 (hr x hx)).1⟩, ⟨hl, fun x hx => ((h x hx).1 (hr x hx)).2⟩⟩,
    fun ⟨⟨hl, ha⟩, ⟨_, hb⟩⟩ => ⟨hl, fun x hx => (h x hx).2 ⟨ha x hx, hb x hx⟩⟩⟩

theorem C13_inter_bits (est : Estimator) (a b r : Bloom) (same : Bool)
    (h : Bloom.intersection est a b same = some r) (i : Nat) (hi : i < 8 * a.bloomLength) :
    testBitB r.bits i = (testBitB a.bits i && testBitB b.bits i) :=
  Bloom.testBitB_intersection est a b r same h i hi

theorem C13_union_bits (est : Estimator) (a b r : Bloom) (same : Bool)
    (h : Bloom.union est a b same = some r) (i : Nat) (hi : i < 8 * a.bloomLength) :
    testBitB r.bits i = (testBitB a.bits i || testBitB b.bits i) :=
  Bloom.testBitB_union est a b r same h i hi

theorem C13_inter_wf (est : Estimator) (a b r : Bloom) (same : Bool) (hw : WF a)
    (h : Bloom.intersection est a b same = some r) : WF r ∧ r.k = a.k ∧ r.m = a.m := by
  obtain ⟨_, hk, hm, _⟩ := Bloom.intersection_eq_some est a b r same h
  exact ⟨Bloom.intersection_wf est a b r same hw.2 h, hk, hm⟩

theorem C13_inter_member_iff (est : Estimator) (a b r : Bloom) (same : Bool) (hw : WF a)
    (h : Bloom.intersection est a b same = some r) (hs : List Nat) :
    r.checkAlt hs = .ok true ↔ a.checkAlt hs = .ok true ∧ b.checkAlt hs = .ok true := by
  obtain ⟨hsim, hk, hm, _, _, _⟩ := Bloom.intersection_eq_some est a b r same h
  obtain ⟨ek, em, _⟩ := (Bloom.similar_iff a b same).1 hsim
  have hpos : ∀ p ∈ a.positions hs, testBitB r.bits p = (testBitB a.bits p && testBitB b.bits p) :=
    fun p hp => C13_inter_bits est a b r same h p
      (Bloom.pos_lt_bits _ _ (Bloom.positions_lt a hs hw.2 p hp))
  have hr : r.positions hs = a.positions hs := by simp [Bloom.positions, hk, hm]
  have hb : b.positions hs = a.positions hs := by simp [Bloom.positions, ek, em]
  simp only [Bloom.checkAlt_true_iff, hr, hb, hk, ← ek]
  exact forall_mem_and fun p hp => by rw [hpos p hp, Bool.and_eq_true]

theorem C13_inter_member (est : Estimator) (a b r : Bloom) (same : Bool) (hw : WF a)
    (h : Bloom.intersection est a b same = some r) (hs : List Nat)
    (ha : a.checkAlt hs = .ok true) (hb : b.checkAlt hs = .ok true) : r.checkAlt hs = .ok true :=
  (C13_inter_member_iff est a b r same hw h hs).2 ⟨ha, hb⟩

theorem C13_jaccard_positions (a b : Bloom) :
    a.jaccardCounts b =
      (((List.range (8 * a.bloomLength)).filter fun p => testBitB a.bits p && testBitB b.bits p).length,
       ((List.range (8 * a.bloomLength)).filter fun p => testBitB a.bits p || testBitB b.bits p).length) := by
  unfold Bloom.jaccardCounts
  rw [sum_popByte_zip_eq_count (· &&& ·) (· && ·) _ _ _ (fun u v i => Nat.testBit_and u v i),
    sum_popByte_zip_eq_count (· ||| ·) (· || ·) _ _ _ (fun u v i => Nat.testBit_or u v i)]

theorem C13_jaccard_set_ops (est : Estimator) (a b ri ru : Bloom) (same : Bool)
    (hi : Bloom.intersection est a b same = some ri) (hu : Bloom.union est a b same = some ru) :
    a.jaccardCounts b = (ri.setBits, ru.setBits) := by
  obtain ⟨_, _, im, _, _, ib⟩ := Bloom.intersection_eq_some est a b ri same hi
  obtain ⟨_, _, um, _, _, ub⟩ := Bloom.union_eq_some est a b ru same hu
  have h1 : ri.bloomLength = a.bloomLength := by show Bloom.lengthOf ri.m = Bloom.lengthOf a.m; rw [im]
  have h2 : ru.bloomLength = a.bloomLength := by show Bloom.lengthOf ru.m = Bloom.lengthOf a.m; rw [um]
  unfold Bloom.jaccardCounts Bloom.setBits
  rw [h1, h2, ib, ub, take_zipBytes, take_zipBytes]

theorem C13_jaccard_symm (a b : Bloom) (hm : a.m = b.m) : a.jaccardCounts b = b.jaccardCounts a := by
  have hl : a.bloomLength = b.bloomLength := by show Bloom.lengthOf a.m = Bloom.lengthOf b.m; rw [hm]
  unfold Bloom.jaccardCounts
  rw [hl]
  simp only [Bloom.zipBytes, Nat.and_comm (a.bits.getD _ 0), Nat.or_comm (a.bits.getD _ 0)]

theorem C13_jaccard_le (a b : Bloom) : (a.jaccardCounts b).1 ≤ (a.jaccardCounts b).2 := by
  unfold Bloom.jaccardCounts
  rw [sum_popByte_zip, sum_popByte_zip]
  exact sum_map_le_sum_map _ _ _ (fun i _ => popByte_and_le_or _ _)

theorem C13_jaccard_self (a b : Bloom) (h : a.bits = b.bits) : (a.jaccardCounts b).1 = (a.jaccardCounts b).2 := by
  unfold Bloom.jaccardCounts
  simp [Bloom.zipBytes, h]

/-- the index as an exact fraction, with the library's convention for an empty union -/
def jaccardRatio (p : Nat × Nat) : Nat × Nat := if p.2 = 0 then (1, 1) else p

/-- what `C13_jaccard` and `C13_cbf_jaccard` claim, for any index whose two readings `ja`, `jb` are the
    same pair of counts `p.1 ≤ p.2`, equal under the condition `E` -/
private theorem jaccard_spec {ja jb : Option (Nat × Nat)} {p : Nat × Nat} {E : Prop}
    (ha : ja = some p) (hb : jb = some p) (hle : p.1 ≤ p.2) (heq : E → p.1 = p.2) :
    (∃ p, ja = some p ∧ jb = some p ∧ (jaccardRatio p).1 ≤ (jaccardRatio p).2 ∧ 0 < (jaccardRatio p).2) ∧
    (E → ∃ p, ja = some p ∧ (jaccardRatio p).1 = (jaccardRatio p).2) := by
  refine ⟨⟨p, ha, hb, ?_⟩, fun e => ⟨p, ha, ?_⟩⟩
  · unfold jaccardRatio
    split
    · exact ⟨Nat.le_refl _, Nat.one_pos⟩
    · exact ⟨hle, by omega⟩
  · unfold jaccardRatio
    split
    · rfl
    · exact heq e

theorem C13_jaccard (a b : Bloom) (same : Bool) (hs : a.similar b same = true) :
    (∃ p, jaccard a b same = some p ∧ jaccard b a same = some p ∧
      (jaccardRatio p).1 ≤ (jaccardRatio p).2 ∧ 0 < (jaccardRatio p).2) ∧
    (a.bits = b.bits → ∃ p, jaccard a b same = some p ∧ (jaccardRatio p).1 = (jaccardRatio p).2) := by
  obtain ⟨ek, em, es⟩ := (Bloom.similar_iff a b same).1 hs
  have hs' : b.similar a same = true := (Bloom.similar_iff b a same).2 ⟨ek.symm, em.symm, es⟩
  exact jaccard_spec (by simp [jaccard, hs]) (by simp [jaccard, hs', C13_jaccard_symm a b em])
    (C13_jaccard_le a b) (C13_jaccard_self a b)

abbrev CWF (c : CBF) : Prop := c.WF

theorem C13_cbf_wf_iff (c : CBF) : CWF c ↔ c.cells.length = c.m ∧ 0 < c.m := Iff.rfl

theorem C13_cbf_new_wf (e f k m : Nat) (hm : 0 < m) : CWF (CBF.new e f k m) := CBF.new_wf e f k m hm

def cbfJaccard (a b : CBF) (sameProbe : Bool) : Option (Nat × Nat) :=
  if a.similar b sameProbe then some (a.jaccardCounts b) else none

theorem C13_cbf_similar_iff (a b : CBF) (same : Bool) :
    a.similar b same = true ↔ a.k = b.k ∧ a.m = b.m ∧ same = true := CBF.similar_iff a b same

theorem C13_cbf_incompatible (est : Estimator) (a b : CBF) (same : Bool) (h : a.similar b same = false) :
    CBF.union est a b same = none ∧ CBF.intersection est a b same = none ∧ cbfJaccard a b same = none := by
  simp [CBF.union, CBF.intersection, cbfJaccard, h]

theorem C13_cbf_compatible (est : Estimator) (a b : CBF) (same : Bool) (h : a.similar b same = true) :
    (∃ r, CBF.union est a b same = some r) ∧ (∃ r, CBF.intersection est a b same = some r) ∧
    cbfJaccard a b same = some (a.jaccardCounts b) :=
  ⟨CBF.union_of_similar est a b same h, by simp [CBF.intersection, h], by simp [cbfJaccard, h]⟩

theorem C13_cbf_inter_cells (est : Estimator) (a b r : CBF) (same : Bool)
    (h : CBF.intersection est a b same = some r) :
    r.cells.length = a.cells.length ∧ r.k = a.k ∧ r.m = a.m ∧
    ∀ i, i < a.cells.length →
      (0 < r.cells.getD i 0 ↔ 0 < a.cells.getD i 0 ∧ 0 < b.cells.getD i 0) ∧
      (0 < a.cells.getD i 0 → 0 < b.cells.getD i 0 →
        r.cells.getD i 0 = CBF.clampCell (a.cells.getD i 0 + b.cells.getD i 0)) := by
  obtain ⟨_, hk, hm, _, _, hc⟩ := CBF.intersection_eq_some est a b r same h
  refine ⟨by simp [hc], hk, hm, fun i hi => ?_⟩
  rw [hc, getD_map_range _ hi]
  split
  · next hp =>
    rw [clampCell_pos]
    exact ⟨⟨fun _ => hp, fun _ => by omega⟩, fun _ _ => rfl⟩
  · next hp =>
    exact ⟨⟨fun h0 => absurd h0 (Int.lt_irrefl 0), fun h0 => absurd h0 hp⟩, fun h1 h2 => absurd ⟨h1, h2⟩ hp⟩

theorem C13_cbf_inter_member_iff (est : Estimator) (a b r : CBF) (same : Bool) (hw : CWF a)
    (h : CBF.intersection est a b same = some r) (hs : List Nat) :
    (∃ v, r.checkAlt hs = .ok v ∧ 0 < v) ↔
      (∃ v, a.checkAlt hs = .ok v ∧ 0 < v) ∧ (∃ v, b.checkAlt hs = .ok v ∧ 0 < v) := by
  obtain ⟨hsim, _⟩ := CBF.intersection_eq_some est a b r same h
  obtain ⟨_, em, _⟩ := (CBF.similar_iff a b same).1 hsim
  obtain ⟨_, _, hm, hcell⟩ := C13_cbf_inter_cells est a b r same h
  have hlt : ∀ x : Nat, x % a.m < a.cells.length := fun x => by rw [hw.1]; exact Nat.mod_lt _ hw.2
  simp only [CBF.checkAlt_pos_iff, hm, ← em]
  exact forall_mem_and fun x _ => (hcell _ (hlt x)).1

theorem C13_cbf_jaccard_symm (a b : CBF) (hl : a.cells.length = b.cells.length) :
    a.jaccardCounts b = b.jaccardCounts a := by
  unfold CBF.jaccardCounts
  simp only [hl, and_comm, or_comm]

theorem C13_cbf_jaccard_le (a b : CBF) : (a.jaccardCounts b).1 ≤ (a.jaccardCounts b).2 := by
  unfold CBF.jaccardCounts
  apply length_filter_le_of_imp
  intro i
  simp only [decide_eq_true_eq]
  exact fun h => Or.inl h.1

theorem C13_cbf_jaccard_self (a b : CBF) (h : a.cells = b.cells) :
    (a.jaccardCounts b).1 = (a.jaccardCounts b).2 := by
  unfold CBF.jaccardCounts
  simp [h]

theorem C13_cbf_jaccard (a b : CBF) (same : Bool) (hwa : CWF a) (hwb : CWF b)
    (hs : a.similar b same = true) :
    (∃ p, cbfJaccard a b same = some p ∧ cbfJaccard b a same = some p ∧
      (jaccardRatio p).1 ≤ (jaccardRatio p).2 ∧ 0 < (jaccardRatio p).2) ∧
    (a.cells = b.cells → ∃ p, cbfJaccard a b same = some p ∧ (jaccardRatio p).1 = (jaccardRatio p).2) := by
  obtain ⟨ek, em, es⟩ := (CBF.similar_iff a b same).1 hs
  have hs' : b.similar a same = true := (CBF.similar_iff b a same).2 ⟨ek.symm, em.symm, es⟩
  have hl : a.cells.length = b.cells.length := by rw [hwa.1, hwb.1, em]
  exact jaccard_spec (by simp [cbfJaccard, hs]) (by simp [cbfJaccard, hs', C13_cbf_jaccard_symm a b hl])
    (C13_cbf_jaccard_le a b) (C13_cbf_jaccard_self a b)

theorem C13_join_error_iff (a b : CMS) (same : Bool) :
    CMS.join a b same = .error .cmsError ↔ (a.w ≠ b.w ∨ a.d ≠ b.d ∨ same = false) := by
  have hguard : (a.w != b.w || a.d != b.d || !same) = true ↔ (a.w ≠ b.w ∨ a.d ≠ b.d ∨ same = false) := by
    simp [or_assoc]
  unfold CMS.join
  rw [← hguard]
  split
  · next hg => exact ⟨fun _ => hg, fun _ => rfl⟩
  · next hg => exact ⟨nofun, fun g => absurd g hg⟩

theorem C13_join_incompatible (a b : CMS) (same : Bool) (h : a.w ≠ b.w ∨ a.d ≠ b.d ∨ same = false) :
    CMS.join a b same = .error .cmsError :=
  (C13_join_error_iff a b same).2 h

theorem C13_join_compatible (a b : CMS) (hw : a.w = b.w) (hd : a.d = b.d) :
    ∃ s, CMS.join a b true = .ok s ∧ s.w = a.w ∧ s.d = a.d ∧ s.mode = a.mode ∧ s.bins.length = a.w * a.d := by
  unfold CMS.join
  rw [if_neg (by simp [hw, hd])]
  exact ⟨_, rfl, rfl, rfl, rfl, by simp⟩

example :
    let a := ((Bloom.new 5 0 3 10).addAlt [3, 14, 25]).1
    let b := (((Bloom.new 5 0 3 10).addAlt [3, 14, 26]).1.addAlt [9, 9, 9]).1
    WF a ∧ a.similar b true = true ∧
    (Bloom.intersection (fun _ _ _ => 0) a b true).map (·.bits) = some [24, 0] ∧
    jaccard a b true = some (2, 5) ∧ jaccard b a true = some (2, 5) ∧ jaccard a a true = some (3, 3) ∧
    jaccard (Bloom.new 5 0 3 10) (Bloom.new 5 0 3 10) true = some (0, 0) ∧
    jaccardRatio (0, 0) = (1, 1) ∧
    jaccard a (Bloom.new 5 0 4 10) true = none ∧ jaccard a b false = none := by
  refine ⟨Bloom.addAlt_wf _ _ (Bloom.new_wf 5 0 3 10 (by decide)), ?_⟩
  decide

example :
    let a := ((CBF.new 5 0 3 10).addAlt [3, 14, 25] 2).1
    let b := ((CBF.new 5 0 3 10).addAlt [3, 14, 26] 1).1
    CWF a ∧ CWF b ∧ a.similar b true = true ∧
    (CBF.intersection (fun _ _ _ => 0) a b true).map (·.cells) = some [0, 0, 0, 3, 3, 0, 0, 0, 0, 0] ∧
    cbfJaccard a b true = some (2, 4) ∧ cbfJaccard a b false = none := by
  refine ⟨⟨by decide, by decide⟩, ⟨by decide, by decide⟩, by decide⟩

example : CMS.join (CMS.new 4 2 .min) (CMS.new 4 3 .min) true = .error .cmsError ∧
    CMS.join (CMS.new 4 2 .min) (CMS.new 4 2 .min) false = .error .cmsError ∧
    (∃ s, CMS.join (CMS.new 4 2 .min) (CMS.new 4 2 .min) true = .ok s) :=
  ⟨rfl, rfl, _, rfl⟩

end PyProb.C13
