/-
  C05 — export followed by load reproduces the structure, on every channel.

  For every format of the library (Bloom and counting Bloom, binary and hex; expanding / rotating;
  count-min family; cuckoo and counting cuckoo) and states of unbounded size:
  `load (export s) = .ok s` — equality of the whole model state, hence of every query answer, of
  geometry and element counts, and of a second export (`_stable`).  The hex channel carries the
  payload and the footer values of the binary one (`C05_bloom_hex_same_payload`,
  `C05_bloom_hex_same_footer`, `C05_cbf_hex_same_payload`).  What a format does not store is
  re-supplied as the property says: the hash function (not part of the model state), the rotating
  queue limit `q` (`C05_rotating_roundtrip`), the count-min query `mode` = the receiver's class
  (`C05_cms_roundtrip`), the cuckoo `template` (fingerprint width, expansion rate, auto-expand,
  counting flag: `C05_cuckoo_roundtrip`).

  The round trips are stated for every state whose export *succeeds*.  `_export_ok`: the range
  predicates on the stored values (`BloomWF`, `CBFWF`, `ExpandingWF`, `CMSWF`, `CuckooFits`:
  est < 2^64, 0 ≤ count < 2^64, 32-bit fingerprints, …) imply that; the converse is proved for the
  cuckoo filters only (`C05_cuckoo_export_fits`).

  The other hypotheses, each an invariant of reachable states:
    * Bloom family: `GeomStable geom est fpr32 k m` — the loader re-derives the same geometry from
      the footer (float32 narrowing is idempotent; this is a fact about the float parameter function
      `geom`, checked against the real code by the correspondence suites);
      `bits.length = ⌈m/8⌉` (`C05_bloom_new_wf`, `C05_bloom_add_wf`), byte values < 256 (hex only);
      `cells.length = m`, cells within uint32 (`C05_cbf_new_wf`, `C05_cbf_add_wf`, `C05_cbf_remove_wf`);
      expanding / rotating: non-empty, uniform sub-filters (`C05_expanding_new_wf`,
      `C05_expanding_add_wf`, `C05_expanding_push_subs`, `C05_rotating_add_wf`, `_push_wf`, `_pop_wf`);
    * count-min: `bins.length = w*d`, bins within int32 (`C05_cms_new_wf`, `C05_cms_add_wf`,
      `C05_cms_remove_wf`);
    * cuckoo: `CuckooWF` = table shape (`buckets.length = cap`, bucket sizes ≤ b, b > 0), no stored
      fingerprint 0 (the library never stores it: `_generate_fingerprint_info` maps 0 to 1, and so
      does `Cuckoo.fingerprint`), plain filter counts = 1, and the bookkeeping `count = Σ counts`,
      `unique = number of bins` (counting) / 0 (plain).  It follows (`C05_cuckoo_wf_of_inv`) from
      the table invariant `C15.Inv` and the bookkeeping invariant `Cuckoo.Acct`, which add / remove /
      expand preserve for all second hashes and oracles (`C05_cuckoo_acct_step`,
      `C05_cuckoo_acct_run`), so `C05_cuckoo_roundtrip_reachable` has no well-formedness hypothesis;
      a loaded filter satisfies both again (`C05_cuckoo_loaded_inv`).
  The counter ranges (needed by `_export_ok` only) are preserved elsewhere: all of `ExpandingWF`
  under a step budget (`EInv.wf`, `einv_add`, `einv_push` in `Lemmas/FullHistory.lean`), the Bloom
  counter likewise (`binv_add`), the count-min total and the counting-Bloom count by
  `C16_cms_export`, `C16_cms_history_export`, `C16_cbf_add_export`.

  One module per data-structure family (`C05_bloom`, `C05_cms`, `C05_cuckoo`), all in the namespace
  `PyProb.C05`, so that a change of one family's extracted facts does not invalidate the others;
  this module gathers them.
-/
import PyProb.Properties.C05_bloom
import PyProb.Properties.C05_cms
import PyProb.Properties.C05_cuckoo
